import FalconModel.AsyncReader
import FalconModel.AsyncReaderIter
import FalconModel.AsyncReaderNested
import FalconModel.AsyncReaderGuard
open ARd Rd

/-! line-protocol driver for the models of falcon/asgi/reader.py:

      new <chunk> <piece hex | -> ...     -> ok          root reader `ARd.AR` over the given source pieces
      read <n|none> | readall | peek <n> | ru <d> <n|none> <0|1> | pu <d> <0|1> | pipe | exhaust | iter <k>
                                          -> ok <hex> | unit | err delim | err value | chunks <hex|-> ...
                                             followed by ` tell=<tell()> eof=<eof>` of the reader addressed;
                                             `err notallowed tell=.. eof=..` for an `iter` on a reader object whose iteration
                                             was started before (the `_iteration_started` guard: every level runs through
                                             `ARg.gStep`, one flag per reader object)
      delimit <d>                         -> ok          the innermost reader's `delimit(d)` becomes the innermost reader
      pop                                 -> ok          the innermost (delimited) reader is dropped; its parent is addressed again

    Level 0 runs the root model `ARd` (+ `ARi.iterate`); a delimited child is `Ma.AR (Ma.DelimGen σ)` - the transcription of
    the same file generic in its chunk source, the source being the parent's `_iter_delimited` generator - created from
    `An.toMa` of the root state (AsyncReaderProofs.lean: `An.toMa_asyncStep` - every root operation commutes with
    `toMa`); dropping a level-1 child translates the parent back (`An.ofMa`, `An.ofMa_toMa`). -/

def hexD (n : Nat) : Char := if n < 10 then Char.ofNat (48+n) else Char.ofNat (87+n)
def toHex (bs : Bytes) : String := String.ofList (bs.flatMap fun b => [hexD (b.toNat/16), hexD (b.toNat%16)])
def hv (c : Char) : Nat := if c.isDigit then c.toNat - 48 else c.toNat - 87
def fromHex (s : String) : Bytes :=
  let rec go : List Char → Bytes
    | a :: b :: r => (hv a * 16 + hv b).toUInt8 :: go r
    | _ => []
  if s == "-" then [] else go s.toList
def optInt (s : String) : Option Int := if s == "none" then none else s.toInt?
def showRes : ARd.Res → String
  | .ok b => "ok " ++ toHex b
  | .delimErr => "err delim"
  | .valueErr => "err value"
def st (r : AR) : String := s!" tell={tell r} eof={eof r}"
def showChunks (cs : List Bytes) : String :=
  "chunks" ++ String.join (cs.map fun c => " " ++ (if c.isEmpty then "-" else toHex c))

/-- one operation on the root reader -/
def step0 (r : AR) (ws : List String) : Option (AR × String) :=
  match ws with
  | ["read", n] => let (x, r) := ARd.read r (optInt n); some (r, showRes x ++ st r)
  | ["readall"] => let (x, r) := ARd.readall r; some (r, showRes x ++ st r)
  | ["peek", n] => let (b, r) := ARd.peek r n.toInt!; some (r, "ok " ++ toHex b ++ st r)
  | ["ru", d, n, c] => let (x, r, _) := ARd.readUntil r (fromHex d) (optInt n) (c == "1"); some (r, showRes x ++ st r)
  | ["pu", d, c] => let (x, r) := ARd.pipeUntil r (fromHex d) (c == "1"); some (r, showRes x ++ st r)
  | ["pipe"] => let (x, r) := ARd.pipe r; some (r, showRes x ++ st r)
  | ["iter", k] =>
    let (cs, r) := ARi.iterate r (max k.toNat! 1)
    some (r, showChunks cs ++ st r)
  | ["exhaust"] => let (x, r) := ARd.pipe r; some (r, (match x with | .ok _ => "unit" | e => showRes e) ++ st r)
  | _ => none

def parseOp (ws : List String) : Option An.NOp :=
  match ws with
  | ["read", n] => some (.op (.read (optInt n)))
  | ["readall"] => some (.op .readall)
  | ["peek", n] => some (.op (.peek n.toInt!))
  | ["ru", d, n, c] => some (.op (.readUntil (fromHex d) (optInt n) (c == "1")))
  | ["pu", d, c] => some (.op (.pipeUntil (fromHex d) (c == "1")))
  | ["pipe"] => some (.op .pipe)
  | ["exhaust"] => some (.op .exhaust)
  | ["iter", k] => some (.iter (max k.toNat! 1))
  | _ => none

def showN : An.NObs → String
  | .obs (.bytes b) => "ok " ++ toHex b
  | .obs .unit => "unit"
  | .obs .delimErr => "err delim"
  | .obs .valueErr => "err value"
  | .chunks cs => showChunks cs
  | .valueErr => "err value"

/-- one operation on a delimited reader of any depth -/
def stepN {σ : Type} [Ma.ASource σ] (r : Ma.AR σ) (ws : List String) : Option (Ma.AR σ × String) :=
  match parseOp ws with
  | some op => let x := An.nStep r op; some (x.2, showN x.1 ++ s!" tell={Ma.tell x.2} eof={Ma.eof x.2}")
  | none => none

/-- the innermost reader with its `_iteration_started` flag; a delimited reader contains its parent (`c.src.parent`), whose
    flag is kept beside it (`fs`: flags of the enclosing readers, innermost first) -/
inductive St where
  | l0 (g : ARg.G AR)
  | l1 (g : ARg.G (Ma.AR (Ma.DelimGen Ma.Raw))) (f0 : Bool)
  | l2 (g : ARg.G (Ma.AR (Ma.DelimGen (Ma.DelimGen Ma.Raw)))) (f1 f0 : Bool)

def wsIsIter (ws : List String) : Bool := ws.head? == some "iter"

/-- an operation line run through the guard `ARg.gStep`; `stp` is the unguarded string-level step, `tl` renders tell/eof -/
def guarded {ρ : Type} (stp : ρ → List String → Option (ρ × String)) (tl : ρ → String) (g : ARg.G ρ) (ws : List String) :
    Option (ARg.G ρ × String) :=
  match stp g.r ws with
  | none => none
  | some _ =>
    let x := ARg.gStep wsIsIter (fun r w => match stp r w with | some (r', out) => (out, r') | none => ("bad-op", r)) g ws
    match x.1 with
    | .inner out => some (x.2, out)
    | .notAllowed => some (x.2, "err notallowed" ++ tl x.2.r)

def step' (s : St) (line : String) : St × String :=
  match line.trimAscii.toString.splitOn " " with
  | "new" :: chunk :: parts =>
    (.l0 { r := { chunk := chunk.toInt!, src := parts.map fromHex }, started := false }, "ok")
  | ["delimit", d] =>
    match s with
    | .l0 g => (.l1 { r := Ma.delimit (An.toMa g.r) (fromHex d), started := false } g.started, "ok")
    | .l1 g f0 => (.l2 { r := Ma.delimit g.r (fromHex d), started := false } g.started f0, "ok")
    | _ => (s, "bad-op")
  | ["pop"] =>
    match s with
    | .l1 g f0 => (.l0 { r := An.ofMa g.r.src.parent, started := f0 }, "ok")
    | .l2 g f1 f0 => (.l1 { r := g.r.src.parent, started := f1 } f0, "ok")
    | _ => (s, "bad-op")
  | ws =>
    match s with
    | .l0 g => match guarded step0 st g ws with | some (g, out) => (.l0 g, out) | none => (s, "bad-op")
    | .l1 g f0 => match guarded stepN (fun r => s!" tell={Ma.tell r} eof={Ma.eof r}") g ws with
      | some (g, out) => (.l1 g f0, out) | none => (s, "bad-op")
    | .l2 g f1 f0 => match guarded stepN (fun r => s!" tell={Ma.tell r} eof={Ma.eof r}") g ws with
      | some (g, out) => (.l2 g f1 f0, out) | none => (s, "bad-op")

partial def loop (h : IO.FS.Stream) (s : St) : IO Unit := do
  let line ← h.getLine
  if line.isEmpty then return ()
  let (s', out) := step' s line
  IO.println out
  loop h s'
def main : IO Unit := do loop (← IO.getStdin) (.l0 { r := { chunk := 1, src := [] }, started := false })
