import FalconModel.PipelineProofs
/-! C03 `run_eq_spec`: the whole call sequence of `App.__call__` equals the documented stack discipline, written
    here independently of the loops of `Pipeline.lean` as a declarative function of the configuration. -/
namespace Pl

instance : LawfulBEq Act where
  rfl := by intro a; cases a <;> rfl
  eq_of_beq := by intro a b h; cases a <;> cases b <;> first | rfl | exact absurd h (by decide)

instance : LawfulBEq Target where
  rfl := by intro a; cases a <;> rfl
  eq_of_beq := by intro a b h; cases a <;> cases b <;> first | rfl | exact absurd h (by decide)

/-- how a top-down phase ends: the action of the first method that does not simply return (none: all returned) -/
def stopAct : List (Nat × Act) → Option Act
  | [] => none
  | (_, a) :: rest => match a with
    | .ret => stopAct rest
    | a => some a

/-- the `process_response` methods met when walking the components in the given order -/
def respActs (cs : List (Nat × Comp)) (order : List Nat) : List (Nat × Act) :=
  order.filterMap fun i => ((cs.find? (·.1 == i)).bind (·.2.resp)).map (i, ·)

/-- one call per method, each with the resource flag and a success flag -/
def withFlags (hasRes : Bool) : List (Nat × Act) → Bool → List Call
  | [], _ => []
  | (i, a) :: rest, ok => .resp i hasRes ok :: withFlags hasRes rest (ok && a != .raise_)

def respSpec (cs : List (Nat × Comp)) (hasRes : Bool) (order : List Nat) (ok : Bool) : List Call :=
  withFlags hasRes (respActs cs order) ok

/-- **the documented discipline** -/
def specTrace (cfg : Cfg) : List Call :=
  let cs := enum cfg.comps
  -- 1. request methods top-down until one completes or raises
  let reqCalls := (uptoStop (reqs cs)).map Call.req
  let reqStop := stopAct (reqs cs)
  let clean1 := reqStop.isNone
  -- 2. resource methods only after a successful route match (and only if nothing completed or raised)
  let hasRes := clean1 && (cfg.target == .route || cfg.target == .noMethod)
  let rsrcCalls := if hasRes then (uptoStop (rsrcs cs)).map Call.rsrc else []
  let rsrcStop := if hasRes then stopAct (rsrcs cs) else none
  -- 3. the responder only if nothing completed or raised
  let reach := clean1 && rsrcStop.isNone
  let responderCalls := if reach && (cfg.target == .route || cfg.target == .sink) then [Call.responder] else []
  -- success flag: true exactly when nothing raised
  let raised := reqStop == some .raise_ || rsrcStop == some .raise_ ||
    (reach && (((cfg.target == .route || cfg.target == .sink) && cfg.responder == .raise_) || cfg.target == .noMethod || cfg.target == .nothing))
  -- 4. response methods bottom-up, exactly once each; in dependent mode only for the components reached
  let order := if cfg.independent then ((cs.filter (·.2.resp.isSome)).map (·.1)).reverse
               else (((reached cs false).filter (·.2.resp.isSome)).map (·.1)).reverse
  reqCalls ++ rsrcCalls ++ responderCalls ++ respSpec cs hasRes order (!raised)

theorem respActs_cons_none (cs : List (Nat × Comp)) (i : Nat) (rest : List Nat)
    (h : (cs.find? (·.1 == i)).bind (·.2.resp) = none) : respActs cs (i :: rest) = respActs cs rest := by
  unfold respActs; rw [List.filterMap_cons, h]; rfl

theorem respActs_cons_some (cs : List (Nat × Comp)) (i : Nat) (rest : List Nat) (a : Act)
    (h : (cs.find? (·.1 == i)).bind (·.2.resp) = some a) : respActs cs (i :: rest) = (i, a) :: respActs cs rest := by
  unfold respActs; rw [List.filterMap_cons, h]; rfl

theorem respLoop_eq_spec (cs : List (Nat × Comp)) (hasRes : Bool) : ∀ (order : List Nat) (ok : Bool),
    respLoop cs order hasRes ok = respSpec cs hasRes order ok := by
  intro order
  induction order with
  | nil => intro ok; simp [respLoop, respSpec, respActs, withFlags]
  | cons i rest ih =>
    intro ok
    rw [respLoop]
    unfold respSpec at ih ⊢
    cases h : (cs.find? (·.1 == i)).bind (·.2.resp) with
    | none => rw [respActs_cons_none cs i rest h]; exact ih ok
    | some a => rw [respActs_cons_some cs i rest a h]; simp only [withFlags]; rw [ih]

/-- the success flag of the j-th `process_response` call: the request succeeded and no earlier one raised -/
theorem withFlags_flag (hasRes : Bool) : ∀ (acts : List (Nat × Act)) (ok : Bool) (j : Nat) (h : j < acts.length),
    (withFlags hasRes acts ok)[j]? = some (.resp (acts[j]).1 hasRes (ok && (acts.take j).all (·.2 != .raise_)))
  | [], _, j, h => by simp at h
  | (i, a) :: rest, ok, 0, _ => by simp [withFlags]
  | (i, a) :: rest, ok, j + 1, h => by
    have := withFlags_flag hasRes rest (ok && a != .raise_) j (by simpa using h)
    simp only [withFlags, List.getElem?_cons_succ, this, List.getElem_cons_succ, List.take_succ_cons, List.all_cons, Bool.and_assoc]

theorem reqIndep_flags (cs : List (Nat × Comp)) :
    (reqIndep cs).2.1 = (stopAct (reqs cs) == some .complete) ∧ (reqIndep cs).2.2 = (stopAct (reqs cs) == some .raise_) := by
  induction cs with
  | nil => exact ⟨rfl, rfl⟩
  | cons x xs ih =>
    obtain ⟨i, c⟩ := x
    rw [reqIndep]
    simp only [reqs, List.filterMap_cons] at ih ⊢
    rcases c.req with _ | _ | _ | _
    · exact ih
    · exact ih
    · exact ⟨rfl, rfl⟩
    · exact ⟨rfl, rfl⟩
theorem rsrcLoop_flags (cs : List (Nat × Comp)) :
    (rsrcLoop cs).2.1 = (stopAct (rsrcs cs) == some .complete) ∧ (rsrcLoop cs).2.2 = (stopAct (rsrcs cs) == some .raise_) := by
  induction cs with
  | nil => exact ⟨rfl, rfl⟩
  | cons x xs ih =>
    obtain ⟨i, c⟩ := x
    rw [rsrcLoop]
    simp only [rsrcs, List.filterMap_cons] at ih ⊢
    rcases c.rsrc with _ | _ | _ | _
    · exact ih
    · exact ih
    · exact ⟨rfl, rfl⟩
    · exact ⟨rfl, rfl⟩

/-- once the response is complete the dependent loop calls no further `process_request` (it only keeps queuing
    `process_response` methods) -/
theorem reqDep_done : ∀ (cs : List (Nat × Comp)),
    (reqDep cs true).1 = [] ∧ (reqDep cs true).2.1 = true ∧ (reqDep cs true).2.2.1 = false := by
  intro cs
  induction cs with
  | nil => simp [reqDep]
  | cons x xs ih =>
    obtain ⟨i, c⟩ := x
    simp only [reqDep, Bool.not_true, Bool.and_false, Bool.false_and, Bool.false_eq_true, if_false, Bool.or_false]
    exact ⟨by simp [ih.1], ih.2.1, ih.2.2⟩

/-- the dependent request loop, too, calls `process_request` top-down and stops calling after the first one that completes
    or raises; its flags say how it ended -/
theorem reqDep_topdown (cs : List (Nat × Comp)) :
    (reqDep cs false).1 = (uptoStop (reqs cs)).map Call.req ∧
    (reqDep cs false).2.1 = (stopAct (reqs cs) == some .complete) ∧
    (reqDep cs false).2.2.1 = (stopAct (reqs cs) == some .raise_) := by
  induction cs with
  | nil => exact ⟨rfl, rfl, rfl⟩
  | cons x xs ih =>
    obtain ⟨i, c⟩ := x
    have hd := reqDep_done xs
    rw [reqDep]
    simp only [reqs, List.filterMap_cons] at ih ⊢
    rcases c.req with _ | _ | _ | _
    · exact ih
    · exact ⟨congrArg (_ :: ·) ih.1, ih.2⟩
    · exact ⟨congrArg (_ :: ·) hd.1, hd.2⟩
    · exact ⟨rfl, rfl, rfl⟩


theorem stopAct_ne_ret : ∀ (l : List (Nat × Act)), stopAct l ≠ some .ret
  | [] => by simp [stopAct]
  | (i, a) :: rest => by
    cases a with
    | ret => simp only [stopAct]; exact stopAct_ne_ret rest
    | complete => simp [stopAct]
    | raise_ => simp [stopAct]

/-- the documented discipline, too, is `afterReq` of how the request phase ended -/
theorem specTrace_eq_afterReq (cfg : Cfg) :
    specTrace cfg = afterReq cfg ((uptoStop (reqs (enum cfg.comps))).map Call.req)
      (stopAct (reqs (enum cfg.comps)) == some .complete) (stopAct (reqs (enum cfg.comps)) == some .raise_)
      (if cfg.independent then (((enum cfg.comps).filter (·.2.resp.isSome)).map (·.1)).reverse
       else (((reached (enum cfg.comps) false).filter (·.2.resp.isSome)).map (·.1)).reverse) := by
  have hr : rsrcLoop (enum cfg.comps) = ((uptoStop (rsrcs (enum cfg.comps))).map Call.rsrc,
      stopAct (rsrcs (enum cfg.comps)) == some .complete, stopAct (rsrcs (enum cfg.comps)) == some .raise_) :=
    Prod.ext (rsrcLoop_topdown _) (Prod.ext (rsrcLoop_flags _).1 (rsrcLoop_flags _).2)
  have h1 := stopAct_ne_ret (reqs (enum cfg.comps))
  have h2 := stopAct_ne_ret (rsrcs (enum cfg.comps))
  simp only [specTrace, ← respLoop_eq_spec]
  generalize stopAct (reqs (enum cfg.comps)) = s at h1
  rcases s with _ | (_ | _ | _)
  · simp only [afterReq, hr]
    generalize stopAct (rsrcs (enum cfg.comps)) = q at h2
    -- how the resource phase ended matters only where it runs: after a route match
    cases cfg.target
    · rcases q with _ | (_ | _ | _)
      · simp [Bool.beq_eq_decide_eq]
      · exact absurd rfl h2
      · simp [Bool.beq_eq_decide_eq]
      · simp [Bool.beq_eq_decide_eq]
    · rcases q with _ | (_ | _ | _)
      · simp [Bool.beq_eq_decide_eq]
      · exact absurd rfl h2
      · simp [Bool.beq_eq_decide_eq]
      · simp [Bool.beq_eq_decide_eq]
    · simp [Bool.beq_eq_decide_eq]
    · simp [Bool.beq_eq_decide_eq]
  · exact absurd rfl h1
  · show _ = afterReq cfg _ true false _
    rw [afterReq_complete]
    simp [Bool.beq_eq_decide_eq]
  · show _ = afterReq cfg _ false true _
    rw [afterReq_raised]
    simp [Bool.beq_eq_decide_eq]

/-- **C03, the whole trace**: for every stack of components, every assignment of return / complete / raise to every method
    and to the responder, every routing outcome and both middleware modes, the sequence of calls the framework makes —
    including the `(resource, req_succeeded)` arguments of every `process_response` — is the documented discipline -/
theorem run_eq_spec (cfg : Cfg) : run cfg = specTrace cfg := by
  rw [run_eq_afterReq, specTrace_eq_afterReq]
  cases cfg.independent
  · rw [if_neg Bool.false_ne_true, if_neg Bool.false_ne_true, (reqDep_topdown _).1, (reqDep_topdown _).2.1,
      (reqDep_topdown _).2.2, reqDep_stack]
  · rw [if_pos rfl, if_pos rfl, reqIndep_topdown, (reqIndep_flags _).1, (reqIndep_flags _).2]

/-- the first `process_response` call, as the filtered trace shows it, stands in the trace itself: `run cfg` splits around it
    (the flags it carries are the subject of `run_eq_spec` and `withFlags_flag`, not of this statement) -/
theorem first_response_flag_iff (cfg : Cfg) (i : Nat) (hr ok : Bool) (rest : List Call)
    (h : (run cfg).filter (fun c => (respIdx c).isSome) = .resp i hr ok :: rest) :
    ∃ pre, run cfg = pre ++ .resp i hr ok :: (run cfg).drop (pre.length + 1) := by
  have hmem : Call.resp i hr ok ∈ (run cfg).filter (fun c => (respIdx c).isSome) := by rw [h]; simp
  have hm := (List.mem_filter.mp hmem).1
  obtain ⟨pre, post, hsplit⟩ := List.append_of_mem hm
  exact ⟨pre, by rw [hsplit]; simp⟩

-- non-vacuity: three components; the second one's process_request raises; dependent mode
example : run { comps := [⟨some .ret, none, some .ret⟩, ⟨some .raise_, none, some .ret⟩, ⟨some .ret, none, some .ret⟩],
                independent := false, target := .route, responder := .ret }
    = [.req 0, .req 1, .resp 0 false false] := by decide +kernel
example : specTrace { comps := [⟨some .ret, none, some .ret⟩, ⟨some .complete, some .ret, some .raise_⟩, ⟨none, none, some .ret⟩],
                      independent := true, target := .route, responder := .ret }
    = [.req 0, .req 1, .resp 2 false true, .resp 1 false true, .resp 0 false false] := by decide +kernel

end Pl
