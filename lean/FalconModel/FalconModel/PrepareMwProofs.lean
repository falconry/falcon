import FalconModel.PrepareMw
namespace Pm

theorem lookup_async_wins (f : Fn) (p : Option Fn) : lookup true ⟨some f, p⟩ = some (.async_, f) := rfl
theorem lookup_plain_when_no_async (p : Option Fn) : lookup true ⟨none, p⟩ = p.map (fun f => (.plain, f)) := rfl
theorem lookup_wsgi_plain_only (a p : Option Fn) : lookup false ⟨a, p⟩ = p.map (fun f => (.plain, f)) := rfl

/-- ASGI: a method is on the stack iff the component has it in EITHER spelling; WSGI: iff it has the plain one -/
theorem lookup_isSome (asgi : Bool) (a : Attrs) :
    (lookup asgi a).isSome = if asgi then (a.async_.isSome || a.plain.isSome) else a.plain.isSome := by
  obtain ⟨x, y⟩ := a
  cases asgi <;> cases x <;> cases y <;> rfl

/-- the entry of one method of one component on its stack -/
def entry (asgi : Bool) (sel : Comp → Attrs) : Nat × Comp → Option (Nat × Pick)
  | (i, c) => (lookup asgi (sel c)).map (fun pf => (i, pf.1))

/-- the dependent-mode entry: the pair (process_request, process_response) if the component has one of them -/
def pairEntry (asgi : Bool) : Nat × Comp → Option (Nat × Option Pick × Option Pick)
  | (i, c) =>
    if (lookup asgi c.req).isSome || (lookup asgi c.resp).isSome
    then some (i, (lookup asgi c.req).map (·.1), (lookup asgi c.resp).map (·.1)) else none

/-- a component is accepted -/
def accepted (asgi : Bool) (c : Comp) : Bool :=
  !(incompatible asgi (lookup asgi c.req) || incompatible asgi (lookup asgi c.rsrc) || incompatible asgi (lookup asgi c.resp)) &&
  ((lookup asgi c.req).isSome || (lookup asgi c.rsrc).isSome || (lookup asgi c.resp).isSome || (asgi && c.other))

/-- the stacks after a component (numbered `i`) whose three lookups gave `rq`, `rs`, `rp`, not all `none` -/
def step (independent : Bool) (i : Nat) (rq rs rp : Option (Pick × Fn)) (st : Stacks) : Stacks :=
  let st1 : Stacks :=
    if independent then
      { st with request := (match rq with | some (p, _) => st.request ++ [(i, some p, none)] | none => st.request),
                response := (match rp with | some (p, _) => (i, p) :: st.response | none => st.response) }
    else
      { st with request := if rq.isSome || rp.isSome then st.request ++ [(i, rq.map (·.1), rp.map (·.1))] else st.request }
  { st1 with resource := match rs with | some (p, _) => st1.resource ++ [(i, p)] | none => st1.resource }

/-- one round of the loop -/
theorem prepare_cons (asgi independent : Bool) (i : Nat) (c : Comp) (rest : List (Nat × Comp)) (st : Stacks) :
    prepare asgi independent ((i, c) :: rest) st =
      if incompatible asgi (lookup asgi c.req) || incompatible asgi (lookup asgi c.rsrc) || incompatible asgi (lookup asgi c.resp)
      then .error .compatibility
      else if (lookup asgi c.req).isNone && (lookup asgi c.rsrc).isNone && (lookup asgi c.resp).isNone then
        if asgi && c.other then prepare asgi independent rest st else .error .typeError
      else prepare asgi independent rest
        (step independent i (lookup asgi c.req) (lookup asgi c.rsrc) (lookup asgi c.resp) st) := by
  rw [prepare]; rfl

/-! each stack of `step` depends on the lookup of its own method only -/
theorem step_resource (independent : Bool) (i : Nat) (rq rs rp : Option (Pick × Fn)) (st : Stacks) :
    (step independent i rq rs rp st).resource = st.resource ++ (rs.map fun pf => (i, pf.1)).toList := by
  cases rs with
  | none => cases independent <;> exact (List.append_nil _).symm
  | some pf => cases independent <;> rfl

theorem step_request_independent (i : Nat) (rq rs rp : Option (Pick × Fn)) (st : Stacks) :
    (step true i rq rs rp st).request = st.request ++ (rq.map fun pf => (i, some pf.1, none)).toList := by
  cases rq with
  | none => exact (List.append_nil _).symm
  | some pf => rfl

theorem step_response_independent (i : Nat) (rq rs rp : Option (Pick × Fn)) (st : Stacks) :
    (step true i rq rs rp st).response = (rp.map fun pf => (i, pf.1)).toList ++ st.response := by
  cases rp <;> rfl

theorem step_request_dependent (i : Nat) (rq rs rp : Option (Pick × Fn)) (st : Stacks) :
    (step false i rq rs rp st).request =
      st.request ++ (if rq.isSome || rp.isSome then some (i, rq.map (·.1), rp.map (·.1)) else none).toList := by
  cases rq with
  | some pf => rfl
  | none =>
    cases rp with
    | none => exact (List.append_nil _).symm
    | some pf => rfl

theorem filterMap_cons_toList {α β : Type} (f : α → Option β) (a : α) (l : List α) :
    (a :: l).filterMap f = (f a).toList ++ l.filterMap f := by
  rw [List.filterMap_cons]; cases f a <;> rfl

/-- THE STACKS, when every component is accepted.  Each stack is a function of the attributes of ITS method alone, component by
    component: the resource stack lists, in registration order, the components having process_resource in some accepted spelling -
    whatever spelling the same component uses for process_request / process_response; likewise the other two; the independent
    response stack is in reverse registration order -/
theorem prepare_ok (asgi independent : Bool) :
    ∀ (cs : List (Nat × Comp)) (st st' : Stacks), prepare asgi independent cs st = .ok st' →
      st'.resource = st.resource ++ cs.filterMap (entry asgi (·.rsrc)) ∧
      (independent = true →
         st'.request = st.request ++ (cs.filterMap (entry asgi (·.req))).map (fun ip => (ip.1, some ip.2, none)) ∧
         st'.response = (cs.filterMap (entry asgi (·.resp))).reverse ++ st.response) ∧
      (independent = false →
         st'.request = st.request ++ cs.filterMap (pairEntry asgi) ∧ st'.response = st.response)
  | [], st, st', h => by
    injection h with h
    subst h
    simp
  | (i, c) :: rest, st, st', h => by
    rw [prepare_cons] at h
    simp only [filterMap_cons_toList, entry, pairEntry]
    split at h
    · cases h
    · split at h
      · rename_i hnone
        split at h
        · simp only [Bool.and_eq_true, Option.isNone_iff_eq_none] at hnone
          obtain ⟨⟨h1, h2⟩, h3⟩ := hnone
          simpa only [h1, h2, h3, Option.map_none, Option.isSome_none, Bool.or_self, Bool.false_eq_true, if_false,
            Option.toList_none, List.nil_append] using prepare_ok asgi independent rest st st' h
        · cases h
      · obtain ⟨r1, r2, r3⟩ := prepare_ok asgi independent rest _ st' h
        refine ⟨?_, ?_, ?_⟩
        · rw [r1, step_resource, List.append_assoc]
        · rintro rfl
          obtain ⟨q1, q2⟩ := r2 rfl
          rw [q1, q2, step_request_independent, step_response_independent]
          constructor
          · cases lookup asgi c.req <;> simp
          · cases lookup asgi c.resp <;> simp
        · rintro rfl
          obtain ⟨q1, q2⟩ := r3 rfl
          rw [q1, q2, step_request_dependent, List.append_assoc]
          exact ⟨rfl, rfl⟩

/-- construction succeeds iff every component is accepted: no method found in a spelling of the wrong kind (ASGI: a sync function,
    WSGI: a coroutine function), and at least one HTTP method - or, on ASGI, a lifespan / WebSocket method -/
theorem prepare_ok_iff (asgi independent : Bool) :
    ∀ (cs : List (Nat × Comp)) (st : Stacks),
      (∃ st', prepare asgi independent cs st = .ok st') ↔ ∀ ic ∈ cs, accepted asgi ic.2 = true
  | [], st => by simp [prepare]
  | (i, c) :: rest, st => by
    have ih := prepare_ok_iff asgi independent rest
    have e : ((lookup asgi c.req).isSome || (lookup asgi c.rsrc).isSome || (lookup asgi c.resp).isSome) =
        !((lookup asgi c.req).isNone && (lookup asgi c.rsrc).isNone && (lookup asgi c.resp).isNone) := by
      cases lookup asgi c.req <;> cases lookup asgi c.rsrc <;> cases lookup asgi c.resp <;> rfl
    rw [prepare_cons, List.forall_mem_cons, accepted, e]
    -- what remains depends on the three tests of the round only
    generalize (incompatible asgi (lookup asgi c.req) || incompatible asgi (lookup asgi c.rsrc) ||
      incompatible asgi (lookup asgi c.resp)) = b
    generalize ((lookup asgi c.req).isNone && (lookup asgi c.rsrc).isNone && (lookup asgi c.resp).isNone) = n
    generalize (asgi && c.other) = ao
    cases b
    · cases n
      · simpa using ih _
      · cases ao
        · simp
        · simpa using ih _
    · simp

/-- C03_11's shape: an ASGI component with `process_request_async` and PLAIN coroutines `process_resource` / `process_response`
    is on all three stacks -/
example : run true true [⟨⟨some .coroutine, some .syncFn⟩, ⟨none, some .coroutine⟩, ⟨none, some .coroutine⟩, false⟩]
    = .ok ⟨[(0, some .async_, none)], [(0, .plain)], [(0, .plain)]⟩ := rfl

end Pm
