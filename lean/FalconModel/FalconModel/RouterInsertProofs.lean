import FalconModel.RouterInsert
/-! C01: a rejected `add_route` leaves the routing tree exactly as it was (repaired code); F01 witness (pinned code). -/
namespace Ri

/-- what the three outcomes of the scan say about the list scanned -/
theorem scan_spec (s : Seg) : ∀ (nodes acc : List Tree),
    match scan s nodes acc with
    | .found before hit after => acc ++ nodes = before ++ [hit] ++ after ∧ hit.seg.raw = s.raw
    | .none => ∀ t ∈ nodes, t.seg.raw ≠ s.raw
    | .conflict => True
  | [], _ => fun _ h => absurd h List.not_mem_nil
  | t :: rest, acc => by
    rw [scan]
    by_cases h1 : (t.seg.raw == s.raw) = true
    · rw [if_pos h1]
      exact ⟨(List.append_assoc acc [t] rest).symm, beq_iff_eq.mp h1⟩
    · rw [if_neg h1]
      by_cases h2 : conflicts t.seg s = true
      · rw [if_pos h2]; trivial
      · rw [if_neg h2]
        have ih := scan_spec s rest (acc ++ [t])
        cases hsc : scan s rest (acc ++ [t]) with
        | conflict => trivial
        | found before hit after =>
          rw [hsc] at ih
          exact ⟨(List.append_assoc acc [t] rest).symm.trans ih.1, ih.2⟩
        | none =>
          rw [hsc] at ih
          intro u hu
          rcases List.mem_cons.mp hu with rfl | hu
          · exact fun e => h1 (beq_iff_eq.mpr e)
          · exact ih u hu

theorem scan_found (s : Seg) : ∀ (nodes acc before : List Tree) (hit : Tree) (after : List Tree),
    scan s nodes acc = .found before hit after → acc ++ nodes = before ++ [hit] ++ after := by
  intro nodes acc before hit after h
  have := scan_spec s nodes acc
  rw [h] at this
  exact this.1
/-- **C01 `rejected_add_route_leaves_tree_unchanged`** (repaired code): whenever `insert` raises, the list of nodes it
    was given — and hence, by the same statement one level up, the whole tree — is what it was before the call -/
theorem rejected_insert_unchanged (route : Nat) : ∀ (path : List Seg) (nodes : List Tree),
    (insert true route path nodes).2 = false → (insert true route path nodes).1 = nodes := by
  intro path
  induction path with
  | nil => intro nodes h; cases h
  | cons s path ih =>
    intro nodes h
    generalize hr : insert true route (s :: path) nodes = r at h ⊢
    rw [insert] at hr
    cases hs : scan s nodes [] with
    | conflict => rw [hs] at hr; subst hr; rfl
    | found before hit after =>
      obtain ⟨ns, nroute, ch⟩ := hit
      simp only [hs] at hr
      by_cases hp : path.isEmpty = true
      · rw [if_pos hp] at hr; subst hr; cases h
      · rw [if_neg hp] at hr
        by_cases hc : ns.cpc = true
        · rw [if_pos hc] at hr; subst hr; rfl
        · rw [if_neg hc] at hr
          subst hr
          exact (congrArg (fun c => before ++ [Tree.node ns nroute c] ++ after) (ih ch h)).trans
            (scan_found s nodes [] before _ after hs).symm
    | none =>
      simp only [hs] at hr
      by_cases hcx : (s.isComplex && s.cpc) = true
      · rw [if_pos hcx] at hr; subst hr; rfl
      · rw [if_neg hcx] at hr
        by_cases hp : path.isEmpty = true
        · rw [if_pos hp] at hr; subst hr; cases h
        · rw [if_neg hp] at hr
          by_cases hc : s.cpc = true
          · rw [if_pos hc] at hr; subst hr; rfl
          · rw [if_neg hc] at hr
            subst hr
            generalize insert true route path [] = p at h ⊢
            obtain ⟨ch', ok⟩ := p
            cases ok with
            | true => cases h
            | false => rfl
#print axioms rejected_insert_unchanged

/-! ### F01 on the pinned code -/
mutual
def Tree.count : Tree → Nat
  | .node _ _ ch => 1 + countL ch
def countL : List Tree → Nat
  | [] => 0
  | t :: rest => t.count + countL rest
end

/-- `add_route('/{x}/{y:path}/z')` on an empty router: rejected (a path converter must be last), yet the pinned code
    leaves the node `{x}` behind; the repaired code leaves nothing -/
theorem f01_witness :
    let x : Seg := { raw := 1, isVar := true, isComplex := false, shape := 1, cpc := false }
    let y : Seg := { raw := 2, isVar := true, isComplex := false, shape := 2, cpc := true }
    let z : Seg := { raw := 3, isVar := false, isComplex := false, shape := 3, cpc := false }
    (insert false 0 [x, y, z] []).2 = false ∧ countL (insert false 0 [x, y, z] []).1 = 1 ∧
    (insert true 0 [x, y, z] []).2 = false ∧ countL (insert true 0 [x, y, z] []).1 = 0 := by decide +kernel
end Ri
