import FalconModel.ReqMemo
/-! C06 (request side): **what a read returns does not depend on the history of reads** - for every well-formed table of
    memoized accessors, every assignment of computed values, every history (any order, any repetition); both request
    classes are well-formed; hence two stacks that compute the same values show the same values under every history. -/
namespace Rm

theorem Attr.mem_all (a : Attr) : a ∈ Attr.all := by cases a <;> decide +kernel

/-- the (propositional) content of `wfB` -/
structure WF (T : Table) : Prop where
  one_cell : ∀ a m, (T a).memo = some m → m.guard = m.store ∧ m.store = m.ret
  init : ∀ a m, (T a).memo = some m → initSt.get m.ret = m.marker
  own : ∀ a b ma mb, (T a).memo = some ma → (T b).memo = some mb → ma.ret = mb.ret → a = b

theorem wf_of_wfB {T : Table} (h : wfB T = true) : WF T := by
  unfold wfB at h
  simp only [Bool.and_eq_true, List.all_eq_true] at h
  obtain ⟨h1, h2⟩ := h
  refine ⟨?_, ?_, ?_⟩
  · intro a m hm
    have := h1 a (Attr.mem_all a)
    rw [hm] at this
    simp only [Bool.and_eq_true, decide_eq_true_eq] at this
    exact ⟨this.1.1, this.1.2⟩
  · intro a m hm
    have := h1 a (Attr.mem_all a)
    rw [hm] at this
    simp only [Bool.and_eq_true, decide_eq_true_eq] at this
    exact this.2
  · intro a b ma mb ha hb hr
    have := h2 a (Attr.mem_all a) b (Attr.mem_all b)
    rw [ha, hb] at this
    simp only [Bool.or_eq_true, decide_eq_true_eq] at this
    rcases this with h | h
    · exact absurd hr h
    · exact h

/-- the invariant of a request object: every cell holds its marker or the value its accessor computes -/
def Inv (T : Table) (pure : Attr → Val) (st : St) : Prop :=
  ∀ a m, (T a).memo = some m → st.get m.ret = m.marker ∨ st.get m.ret = pure a

theorem inv_init {T : Table} (wf : WF T) (pure : Attr → Val) : Inv T pure initSt :=
  fun a m hm => Or.inl (wf.init a m hm)

theorem foldl_inv {T : Table} {pure : Attr → Val} (f : Attr → St → Val × St)
    (hf : ∀ d s, Inv T pure s → Inv T pure (f d s).2) :
    ∀ (ds : List Attr) (st : St), Inv T pure st → Inv T pure (ds.foldl (fun s d => (f d s).2) st) := by
  intro ds
  induction ds with
  | nil => intro st h; exact h
  | cons d ds ih => intro st h; exact ih _ (hf d st h)

/-- **one read**: it returns the computed value and keeps the invariant - whatever was read before -/
theorem read_pure {T : Table} (wf : WF T) (pure : Attr → Val) :
    ∀ (fuel : Nat) (a : Attr) (st : St), Inv T pure st →
      (read T pure fuel a st).1 = pure a ∧ Inv T pure (read T pure fuel a st).2 := by
  intro fuel
  induction fuel with
  | zero => intro a st h; exact ⟨rfl, h⟩
  | succ f ih =>
    intro a st h
    have hdeps : ∀ s, Inv T pure s → Inv T pure ((T a).deps.foldl (fun s d => (read T pure f d s).2) s) :=
      fun s hs => foldl_inv (read T pure f) (fun d s hs => (ih d s hs).2) _ s hs
    unfold read
    cases hm : (T a).memo with
    | none => exact ⟨rfl, hdeps st h⟩
    | some m =>
      obtain ⟨hgs, hsr⟩ := wf.one_cell a m hm
      simp only
      by_cases hg : st.get m.guard = m.marker
      · simp only [hg, if_true]
        by_cases hn : (m.noneDirect && decide (pure a = Val.none)) = true
        · simp only [hn, if_true]
          simp only [Bool.and_eq_true, decide_eq_true_eq] at hn
          exact ⟨hn.2.symm, hdeps st h⟩
        · simp only [hn, Bool.false_eq_true, if_false]
          refine ⟨by simp [St.set, hsr], ?_⟩
          intro b mb hb
          by_cases hc : mb.ret = m.store
          · have : b = a := wf.own b a mb m hb hm (by rw [hc, hsr])
            subst this
            right; simp [St.set, hc]
          · have := hdeps st h b mb hb
            simpa [St.set, hc] using this
      · simp only [hg, if_false]
        refine ⟨?_, h⟩
        rcases h a m hm with h1 | h1
        · rw [hgs, hsr] at hg; exact absurd h1 hg
        · exact h1

/-- **a history of reads**: every read returns the computed value of its accessor -/
theorem run_pure {T : Table} (wf : WF T) (pure : Attr → Val) (fuel : Nat) :
    ∀ (h : List Attr) (st : St), Inv T pure st → run T pure fuel h st = h.map pure := by
  intro h
  induction h with
  | nil => intro st _; rfl
  | cons a h ih =>
    intro st hst
    obtain ⟨h1, h2⟩ := read_pure wf pure fuel a st hst
    unfold run
    simp only [List.map_cons]
    rw [ih _ h2, h1]

/-- **order and repetition do not matter** (one request object, any well-formed table): on a fresh object every read of
    every history returns what the accessor computes - in particular never a marker that is not that value -/
theorem history_independent {T : Table} (hT : wfB T = true) (pure : Attr → Val) (fuel : Nat) (h : List Attr) :
    run T pure fuel h initSt = h.map pure :=
  run_pure (wf_of_wfB hT) pure fuel h initSt (inv_init (wf_of_wfB hT) pure)

theorem wsgi_wf : wfB wsgiTable = true := by decide +kernel
theorem asgi_wf : wfB asgiTable = true := by decide +kernel

/-- `falcon.Request`: the value of every read of every history -/
theorem wsgi_history_independent (pure : Attr → Val) (h : List Attr) : run wsgiTable pure depth h initSt = h.map pure :=
  history_independent wsgi_wf pure depth h
/-- `falcon.asgi.Request` -/
theorem asgi_history_independent (pure : Attr → Val) (h : List Attr) : run asgiTable pure depth h initSt = h.map pure :=
  history_independent asgi_wf pure depth h

/-- `falcon.asgi.Request`: a repeated read repeats its result, whatever was read before, between and after -/
theorem reread_same (pure : Attr → Val) (h1 h2 h3 : List Attr) (a : Attr) :
    run asgiTable pure depth (h1 ++ a :: h2 ++ a :: h3) initSt
      = h1.map pure ++ pure a :: h2.map pure ++ pure a :: h3.map pure := by
  rw [asgi_history_independent]; simp

/-- **the two stacks under one read script**: if the accessors compute the same values from the environ and from the
    scope (what `Wr.*` / `Wq.request_view_agree` prove for the attributes they cover), a responder sees the same values
    on both stacks whatever the order and repetition of its reads -/
theorem stacks_histories_agree (pureW pureA : Attr → Val) (h : List Attr) (hp : ∀ a, a ∈ h → pureW a = pureA a) :
    run wsgiTable pureW depth h initSt = run asgiTable pureA depth h initSt := by
  rw [wsgi_history_independent, asgi_history_independent]
  exact List.map_congr_left hp

/-- the hypothesis is checked, not assumed - and it is necessary: with `if_match` guarded by the cell of `if_none_match`
    the table is rejected, and reading `if_none_match` first makes `if_match` return the `_UNSET` sentinel -/
theorem wrong_guard_rejected : wfB wrongGuardTable = false := by decide
theorem wrong_guard_witness :
    run wrongGuardTable (fun a => if a = .ifMatch then .val 1 else .none) depth [.ifNoneMatch, .ifMatch] initSt = [.none, .unset] ∧
    run wrongGuardTable (fun a => if a = .ifMatch then .val 1 else .none) depth [.ifMatch, .ifNoneMatch] initSt = [.val 1, .none] := by
  decide

/-- non-trivial instance: all 46 accessors, then all again in reverse -/
example (pure : Attr → Val) : run wsgiTable pure depth (Attr.all ++ Attr.all.reverse) initSt = (Attr.all ++ Attr.all.reverse).map pure :=
  wsgi_history_independent pure _

end Rm
