import FalconModel.FinalizeWsgi
import FalconModel.FinalizeProofs2
/-! C05: theorems about the WSGI event-level model (`FinalizeWsgi.lean`):
    * `wsgi_one_start_valid_status`     `start_response` is called exactly once, with a valid status line whose code is
                                        the one the application chose, and the header pairs of `Fz.wsgi`;
    * `wsgi_chunks_are_body`            what the server takes from the iterable is the body of `Fz.wsgi` (so its
                                        concatenation is the ASGI payload, by `Fz.wsgi_asgi_agree`); a server that
                                        abandons after `k` chunks has taken the first `k`;
    * `wsgi_stream_closed_exactly_once` for every stream-fault index and every abandon index;
    * `wsgi_file_wrapper_owns_close`    what falcon guarantees when the server supplies `wsgi.file_wrapper`;
    * `wsgi_not_begun_never_closed`. -/
namespace Wg
open Fz

theorem toDigits3 (n : Nat) (h1 : 100 ≤ n) (h2 : n ≤ 999) :
    Nat.toDigits 10 n = [Nat.digitChar (n / 100), Nat.digitChar (n / 10 % 10), Nat.digitChar (n % 10)] := by
  have h10 : 10 ≤ n / 10 := (Nat.le_div_iff_mul_le (by decide)).mpr h1
  have hlt : n / 10 / 10 < 10 := Nat.div_lt_of_lt_mul (Nat.div_lt_of_lt_mul (Nat.lt_succ_of_le h2))
  rw [Nat.toDigits_of_base_le (by decide) (Nat.le_trans (by decide) h1), Nat.toDigits_of_base_le (by decide) h10,
    Nat.toDigits_of_lt_base hlt, Nat.div_div_eq_div_mul]
  rfl

/-- a status line that starts with the decimal rendering of a three-digit code, a space and a non-empty phrase
    is valid and its three-character prefix denotes that code -/
theorem line_of_code (n : Nat) (h1 : 100 ≤ n) (h2 : n ≤ 999) (p : List Char) (hp : p ≠ []) :
    validStatusLine (String.ofList (Nat.toDigits 10 n ++ ' ' :: p)) = true ∧
    prefixCode (String.ofList (Nat.toDigits 10 n ++ ' ' :: p)) = n := by
  have ha : n / 100 < 10 := Nat.div_lt_of_lt_mul (Nat.lt_succ_of_le h2)
  have hb : n / 10 % 10 < 10 := Nat.mod_lt _ (by decide)
  have hc : n % 10 < 10 := Nat.mod_lt _ (by decide)
  have e1 := Nat.div_add_mod n 10
  have e2 := Nat.div_add_mod (n / 10) 10
  rw [Nat.div_div_eq_div_mul] at e2
  unfold validStatusLine prefixCode
  rw [String.toList_ofList, toDigits3 n h1 h2]
  simp only [List.cons_append, List.nil_append, Nat.isDigit_digitChar, ha, hb, hc, decide_true, Bool.and_self,
    if_true, Nat.toNat_digitChar_sub_48_of_lt_ten]
  refine ⟨?_, ?_⟩
  · cases p with
    | nil => exact absurd rfl hp
    | cons x xs => simp
  · generalize n / (10 * 10) = a at *
    generalize n / 10 % 10 = b at *
    generalize n % 10 = d at *
    generalize n / 10 = m at *
    rw [← e1, ← e2, Nat.mul_add, ← Nat.mul_assoc, Nat.mul_comm a, Nat.mul_comm b]
/-- what the module `falcon.status_codes` must satisfy: `HTTP_<n>` is `"<n> <phrase>"` with a non-empty phrase -/
def TableOk (table : Nat → Option String) : Prop :=
  ∀ n s, table n = some s → ∃ p : List Char, p ≠ [] ∧ s = String.ofList (Nat.toDigits 10 n ++ ' ' :: p)

/-- the status values the property quantifies over -/
def StatusOk : StatusVal → Prop
  | .enum v p => 100 ≤ v ∧ v ≤ 999 ∧ p.toList ≠ []
  | .line s => validStatusLine s = true
  | .code n => 100 ≤ n ∧ n ≤ 999

/-- the status code the application chose -/
def codeOf : StatusVal → Nat
  | .enum v _ => v
  | .line s => prefixCode s
  | .code n => n

theorem status_line_valid (sv : StatusVal) (table : Nat → Option String) (hs : StatusOk sv) (ht : TableOk table) :
    ∃ line, codeToHttpStatus sv table = some line ∧ validStatusLine line = true ∧ prefixCode line = codeOf sv := by
  cases sv with
  | enum v p =>
    obtain ⟨h1, h2, hp⟩ := hs
    exact ⟨_, rfl, line_of_code v h1 h2 p.toList hp⟩
  | line s => exact ⟨s, rfl, hs, rfl⟩
  | code n =>
    obtain ⟨h1, h2⟩ := hs
    unfold codeToHttpStatus
    simp only [h1, h2, and_self, if_true]
    cases htn : table n with
    | none => exact ⟨_, rfl, line_of_code n h1 h2 _ (by decide)⟩
    | some s =>
      obtain ⟨p, hp, rfl⟩ := ht n s htn
      exact ⟨_, rfl, line_of_code n h1 h2 p hp⟩

/-- a status outside 100..999 given as a number: `ValueError`, nothing is handed to the server -/
theorem status_out_of_range (n : Nat) (table : Nat → Option String) (h : n < 100 ∨ 999 < n) :
    codeToHttpStatus (.code n) table = none := by
  unfold codeToHttpStatus
  have : ¬ (100 ≤ n ∧ n ≤ 999) := by omega
  simp [this]

/-- **WSGI: `start_response` is called exactly once, with a valid status line**, whose code is the one the application
    chose and decides the HEAD/bodiless handling; the header pairs are those of `Fz.wsgi` for that code; an iterable
    is returned. -/
theorem wsgi_one_start_valid_status (r : Resp) (sv : StatusVal) (table : Nat → Option String) (s : Option Stream)
    (c : Cfg) (hs : StatusOk sv) (ht : TableOk table) :
    ∃ line, (call r sv table s c).starts = [(line, (wsgi { withStream r s with status := codeOf sv } c).headers)] ∧
      validStatusLine line = true ∧ prefixCode line = codeOf sv ∧ (call r sv table s c).iterable.isSome = true := by
  obtain ⟨line, h1, h2, h3⟩ := status_line_valid sv table hs ht
  refine ⟨line, ?_, h2, h3, ?_⟩
  · unfold call; simp only [h1, h3]
  · unfold call; simp only [h1]; rfl

example : StatusOk (.code 799) ∧ StatusOk (.enum 418 "I'm a Teapot") ∧ StatusOk (.line "204 Nope") := by
  refine ⟨⟨by decide, by decide⟩, ⟨by decide, by decide, by decide +kernel⟩, ?_⟩
  show validStatusLine "204 Nope" = true
  decide +kernel

/-- an invalid numeric status: no `start_response` call at all, the exception leaves `__call__` -/
theorem wsgi_bad_status_no_start (r : Resp) (n : Nat) (table : Nat → Option String) (s : Option Stream) (c : Cfg)
    (h : n < 100 ∨ 999 < n) :
    (call r (.code n) table s c).starts = [] ∧ (call r (.code n) table s c).iterable = none := by
  unfold call; simp [status_out_of_range n table h]


theorem readS_closes (fail : Option Nat) (st : St) : (readS fail st).2.closes = st.closes := by
  unfold readS
  split
  · rfl
  · split <;> rfl

theorem nextS_closes (fail : Option Nat) (st : St) : (nextS fail st).2.closes = st.closes := by
  unfold nextS
  split
  · rfl
  · split <;> rfl

theorem nextCloseable_closes (fail : Option Nat) (st : St) : (nextCloseable fail st).2.closes = st.closes := by
  have h := readS_closes fail st
  unfold nextCloseable
  rcases hrd : readS fail st with ⟨d, st'⟩
  rw [hrd] at h
  cases d with
  | none => exact h
  | some d => simp only; split <;> exact h

theorem nextWrapped_closes (fail : Option Nat) (st : St) : (nextWrapped fail st).2.closes = st.closes :=
  nextCloseable_closes fail st

/-- iterating - to the end, up to a fault, or up to the point where the server abandons - never closes the stream -/
theorem iterate_closes (next : St → Nx × St) (h : ∀ st, (next st).2.closes = st.closes) :
    ∀ (fuel : Nat) (st : St) (ab : Option Nat), (iterate next fuel st ab).2.2.closes = st.closes := by
  intro fuel st ab
  fun_induction iterate next fuel st ab with
  | case1 => rfl
  | case2 => rfl
  | case3 fuel st ab _ st' hx => have := h st; rw [hx] at this; exact this
  | case4 fuel st ab _ st' hx => have := h st; rw [hx] at this; exact this
  | case5 fuel st ab _ b st' hx o e st'' hi ih =>
    have := h st; rw [hx] at this; rw [hi] at ih; exact ih.trans this
/-- abandoning after `k` chunks: the server has seen the first `k` chunks of the full run, and no exception the full
    run does not have -/
theorem iterate_abandon_both (next : St → Nx × St) (fuel : Nat) (st : St) (k : Nat) :
    (iterate next fuel st (some k)).1 = ((iterate next fuel st none).1).take k ∧
    ((iterate next fuel st (some k)).2.1 = true → (iterate next fuel st none).2.1 = true) := by
  induction fuel generalizing st k with
  | zero => exact ⟨List.take_nil.symm, id⟩
  | succ f ih =>
    cases k with
    | zero => exact ⟨rfl, fun h => by cases h⟩
    | succ k =>
      unfold iterate
      rw [if_neg (by exact Bool.false_ne_true), if_neg (by exact Bool.false_ne_true)]
      rcases next st with ⟨x, st'⟩
      cases x with
      | raise => exact ⟨rfl, id⟩
      | stop => exact ⟨rfl, id⟩
      | data b => exact ⟨congrArg (b :: ·) (ih st' k).1, (ih st' k).2⟩

theorem iterate_abandon (next : St → Nx × St) :
    ∀ (fuel : Nat) (st : St) (k : Nat), (iterate next fuel st (some k)).1 = ((iterate next fuel st none).1).take k :=
  fun fuel st k => (iterate_abandon_both next fuel st k).1

theorem iterate_abandon_err (next : St → Nx × St) :
    ∀ (fuel : Nat) (st : St) (k : Nat), (iterate next fuel st (some k)).2.1 = true →
      (iterate next fuel st none).2.1 = true :=
  fun fuel st k => (iterate_abandon_both next fuel st k).2
/-- `CloseableStreamIterator` / the server's file wrapper drained by the server = `Fz.drainFile` -/
theorem iterate_closeable_drain (fail : Option Nat) : ∀ (fuel : Nat) (st : St),
    (iterate (nextCloseable fail) fuel st none).1 = (drainFile fuel st.rest fail st.calls).1 ∧
    (iterate (nextCloseable fail) fuel st none).2.1 = (drainFile fuel st.rest fail st.calls).2 := by
  intro fuel
  induction fuel with
  | zero => intro st; exact ⟨rfl, rfl⟩
  | succ f ih =>
    intro st
    obtain ⟨rest, calls, closes⟩ := st
    unfold iterate drainFile nextCloseable readS
    rw [if_neg (by exact Bool.false_ne_true)]
    dsimp only
    by_cases hf : (fail == some calls) = true
    · rw [if_pos hf, if_pos hf]; exact ⟨rfl, rfl⟩
    · rw [if_neg hf, if_neg hf]
      cases rest with
      | nil => exact ⟨rfl, rfl⟩
      | cons c r =>
        dsimp only
        by_cases he : c.isEmpty = true
        · rw [if_pos he, if_pos he]; exact ⟨rfl, rfl⟩
        · rw [if_neg he, if_neg he]
          exact ⟨congrArg (c :: ·) (ih ⟨r, calls + 1, closes⟩).1, (ih ⟨r, calls + 1, closes⟩).2⟩

/-- the stream object itself drained by the server = `Fz.drainIter` -/
theorem iterate_plain_drain (fail : Option Nat) : ∀ (fuel : Nat) (st : St), st.rest.length < fuel →
    (iterate (nextS fail) fuel st none).1 = (drainIter st.rest fail st.calls).1 ∧
    (iterate (nextS fail) fuel st none).2.1 = (drainIter st.rest fail st.calls).2 := by
  intro fuel
  induction fuel with
  | zero => intro st h; cases h
  | succ f ih =>
    intro st hlt
    obtain ⟨rest, calls, closes⟩ := st
    unfold iterate nextS
    rw [if_neg (by exact Bool.false_ne_true)]
    dsimp only
    cases rest with
    | nil =>
      unfold drainIter
      by_cases hf : (fail == some calls) = true
      · rw [if_pos hf, hf]; exact ⟨rfl, rfl⟩
      · rw [if_neg hf, Bool.not_eq_true _ |>.mp hf]; exact ⟨rfl, rfl⟩
    | cons c r =>
      unfold drainIter
      by_cases hf : (fail == some calls) = true
      · rw [if_pos hf, if_pos hf]; exact ⟨rfl, rfl⟩
      · rw [if_neg hf, if_neg hf]
        have h := ih ⟨r, calls + 1, closes⟩ (Nat.lt_of_succ_lt_succ hlt)
        exact ⟨congrArg (c :: ·) h.1, h.2⟩

theorem rendered_withStream (r : Resp) (s : Option Stream) (n : Nat) :
    rendered { withStream r s with status := n } = rendered r := rfl

/-- the iterable `App.__call__` returns -/
theorem call_iterable (r : Resp) (sv : StatusVal) (table : Nat → Option String) (s : Option Stream) (c : Cfg)
    (line : String) (h : codeToHttpStatus sv table = some line) :
    (call r sv table s c).iterable =
      some (if c.head || bodiless (prefixCode line) then .list [] else (getBody (rendered r) s c.fileWrapper).1) ∧
    (call r sv table s c).fwCalls = (getBody (rendered r) s c.fileWrapper).2 := by
  have fd : (renderBody (withStream r s) c).1 = rendered r := renderBody_fst (withStream r s) c
  simp [call, h, fd]

theorem serve_list (items : List Bytes) (wc : Bool) (ab : Option Nat) :
    (serve (.list items) wc ab).closes = 0 ∧ (serve (.list items) wc ab).iterErr = false ∧
    (serve (.list items) wc none).chunks = items ∧ ∀ k, (serve (.list items) wc (some k)).chunks = items.take k :=
  ⟨rfl, rfl, rfl, fun _ => rfl⟩

/-- the server's loop over a stream-backed iterable, from the stream's initial state -/
def run (next : St → Nx × St) (s : Stream) (ab : Option Nat) : List Bytes × Bool × St :=
  iterate next (s.chunks.length + 1) (St.init s) ab

theorem serve_wrapped (s : Stream) (wc : Bool) (ab : Option Nat) :
    serve (.wrapped s) wc ab =
      { chunks := (run (nextWrapped s.fail) s ab).1, iterErr := (run (nextWrapped s.fail) s ab).2.1,
        closes := (if wc then closeS s.hasClose (run (nextWrapped s.fail) s ab).2.2
                   else (run (nextWrapped s.fail) s ab).2.2).closes,
        iterableHasClose := true } := rfl

theorem serve_closeable (s : Stream) (wc : Bool) (ab : Option Nat) :
    serve (.closeable s) wc ab =
      { chunks := (run (nextCloseable s.fail) s ab).1, iterErr := (run (nextCloseable s.fail) s ab).2.1,
        closes := (closeS s.hasClose (run (nextCloseable s.fail) s ab).2.2).closes, iterableHasClose := true } := rfl

theorem serve_plain (s : Stream) (wc : Bool) (ab : Option Nat) :
    serve (.plain s) wc ab =
      { chunks := (run (nextS s.fail) s ab).1, iterErr := (run (nextS s.fail) s ab).2.1,
        closes := (closeS s.hasClose (run (nextS s.fail) s ab).2.2).closes, iterableHasClose := s.hasClose } := rfl
theorem closeS_closes (hc : Bool) (st : St) : (closeS hc st).closes = st.closes + if hc then 1 else 0 := by
  cases hc <;> rfl

theorem run_closes (next : St → Nx × St) (h : ∀ st, (next st).2.closes = st.closes) (s : Stream) (ab : Option Nat) :
    (run next s ab).2.2.closes = 0 :=
  iterate_closes next h (s.chunks.length + 1) (St.init s) ab

theorem serve_closeable_closes (s : Stream) (wc : Bool) (ab : Option Nat) :
    (serve (.closeable s) wc ab).closes = if s.hasClose then 1 else 0 := by
  rw [serve_closeable]
  dsimp only
  rw [closeS_closes, run_closes _ (nextCloseable_closes s.fail), Nat.zero_add]

theorem serve_plain_closes (s : Stream) (wc : Bool) (ab : Option Nat) :
    (serve (.plain s) wc ab).closes = if s.hasClose then 1 else 0 := by
  rw [serve_plain]
  dsimp only
  rw [closeS_closes, run_closes _ (nextS_closes s.fail), Nat.zero_add]

theorem serve_wrapped_closes (s : Stream) (wc : Bool) (ab : Option Nat) :
    (serve (.wrapped s) wc ab).closes = if wc && s.hasClose then 1 else 0 := by
  rw [serve_wrapped]
  dsimp only
  cases wc
  · exact run_closes _ (nextWrapped_closes s.fail) s ab
  · rw [if_pos rfl, closeS_closes, run_closes _ (nextWrapped_closes s.fail), Nat.zero_add, Bool.true_and]

/-- "streaming of the response stream has begun": a body-bearing, non-HEAD response whose body is taken from the
    stream (on WSGI `start_response` has always been called by the time the server gets the iterable) -/
def Begun (r : Resp) (code : Nat) (s : Option Stream) (c : Cfg) : Prop :=
  c.head = false ∧ bodiless code = false ∧ rendered r = none ∧ s.isSome = true

/-- **WSGI: once streaming has begun the stream's `close()` is called exactly once** - for every index at which the
    stream raises and every number of chunks after which the server abandons the iterable (including none and zero),
    for a file-like stream wrapped in `CloseableStreamIterator`, a file-like stream handed to a `wsgi.file_wrapper`
    that forwards `close()` as PEP 3333's does, and an iterable stream that is returned as it is.
    (A stream object without a `close` method is, of course, not closed.) -/
theorem wsgi_stream_closed_exactly_once (r : Resp) (sv : StatusVal) (table : Nat → Option String) (st : Stream)
    (c : Cfg) (wc : Bool) (ab : Option Nat) (hs : StatusOk sv) (ht : TableOk table)
    (hb : Begun r (codeOf sv) (some st) c) (hw : c.fileWrapper = true → st.kind = .fileLike → wc = true) :
    ∃ it, (call r sv table (some st) c).iterable = some it ∧
      (serve it wc ab).closes = if st.hasClose then 1 else 0 := by
  obtain ⟨line, h1, _, h3⟩ := status_line_valid sv table hs ht
  obtain ⟨hh, hbl, hrd, _⟩ := hb
  obtain ⟨hit, _⟩ := call_iterable r sv table (some st) c line h1
  rw [h3, hh, hbl, hrd] at hit
  refine ⟨_, hit, ?_⟩
  simp only [Bool.or_self, Bool.false_eq_true, if_false]
  unfold getBody
  simp only
  cases hk : st.kind with
  | iter => exact serve_plain_closes st wc ab
  | fileLike =>
    simp only
    cases hf : c.fileWrapper with
    | false => exact serve_closeable_closes st wc ab
    | true =>
      simp only [if_true]
      rw [serve_wrapped_closes, hw hf hk]; rfl

example : Begun { status := 0, text := none, data := none, media := none, stream := none, streamFail := none,
                  headers := [], cookies := [] } 200
    (some { kind := .fileLike, chunks := [[1], [2]], fail := some 1, hasClose := true })
    { head := false, appDefaultType := none, respDefaultType := none, fileWrapper := false } :=
  ⟨rfl, rfl, rfl, rfl⟩

/-- **what falcon guarantees under `wsgi.file_wrapper`**: the wrapper is called exactly once, with the stream object
    untouched (no `read`, no `close` yet); what it returns is returned to the server unchanged; and falcon itself never
    closes the stream - every `close()` that reaches it is the wrapper's (none if the wrapper does not forward it). -/
theorem wsgi_file_wrapper_owns_close (r : Resp) (sv : StatusVal) (table : Nat → Option String) (st : Stream)
    (c : Cfg) (wc : Bool) (ab : Option Nat) (hs : StatusOk sv) (ht : TableOk table)
    (hb : Begun r (codeOf sv) (some st) c) (hf : c.fileWrapper = true) (hk : st.kind = .fileLike) :
    (call r sv table (some st) c).iterable = some (.wrapped st) ∧ (call r sv table (some st) c).fwCalls = 1 ∧
    (serve (.wrapped st) wc ab).closes = (if wc && st.hasClose then 1 else 0) ∧
    (serve (.wrapped st) false ab).closes = 0 := by
  obtain ⟨line, h1, _, h3⟩ := status_line_valid sv table hs ht
  obtain ⟨hh, hbl, hrd, _⟩ := hb
  obtain ⟨hit, hfw⟩ := call_iterable r sv table (some st) c line h1
  rw [h3, hh, hbl, hrd] at hit
  rw [hrd] at hfw
  refine ⟨?_, ?_, serve_wrapped_closes st wc ab, ?_⟩
  · rw [hit]; unfold getBody; simp [hk, hf]
  · rw [hfw]; unfold getBody; simp [hk, hf]
  · rw [serve_wrapped_closes]; rfl

/-- when streaming does not begin (HEAD, bodiless status, another body source wins, no stream) the server gets a list
    and the stream is never closed -/
theorem wsgi_not_begun_never_closed (r : Resp) (sv : StatusVal) (table : Nat → Option String) (s : Option Stream)
    (c : Cfg) (wc : Bool) (ab : Option Nat) (hs : StatusOk sv) (ht : TableOk table)
    (hb : ¬ Begun r (codeOf sv) s c) :
    ∃ it, (call r sv table s c).iterable = some it ∧ (serve it wc ab).closes = 0 ∧
      (serve it wc ab).iterableHasClose = false := by
  obtain ⟨line, h1, _, h3⟩ := status_line_valid sv table hs ht
  obtain ⟨hit, _⟩ := call_iterable r sv table s c line h1
  rw [h3] at hit
  refine ⟨_, hit, ?_⟩
  by_cases hc : (c.head || bodiless (codeOf sv)) = true
  · simp only [hc, if_true]; exact ⟨rfl, rfl⟩
  · simp only [hc, Bool.false_eq_true, if_false]
    unfold getBody
    cases hr : rendered r with
    | some d => exact ⟨rfl, rfl⟩
    | none =>
      cases s with
      | none => exact ⟨rfl, rfl⟩
      | some st =>
        rw [Bool.or_eq_true, not_or, Bool.not_eq_true, Bool.not_eq_true] at hc
        exact absurd ⟨hc.1, hc.2, hr, rfl⟩ hb

/-- a server that abandons after `k` chunks has taken the first `k` of the full run, and saw no exception the
    full run does not have - whatever the iterable -/
theorem serve_abandon (it : Iterable) (wc : Bool) (k : Nat) :
    (serve it wc (some k)).chunks = ((serve it wc none).chunks).take k ∧
    ((serve it wc (some k)).iterErr = true → (serve it wc none).iterErr = true) := by
  cases it with
  | list items => exact ⟨rfl, id⟩
  | wrapped s =>
    rw [serve_wrapped, serve_wrapped]
    exact ⟨iterate_abandon _ _ _ k, iterate_abandon_err _ _ _ k⟩
  | closeable s =>
    rw [serve_closeable, serve_closeable]
    exact ⟨iterate_abandon _ _ _ k, iterate_abandon_err _ _ _ k⟩
  | plain s =>
    rw [serve_plain, serve_plain]
    exact ⟨iterate_abandon _ _ _ k, iterate_abandon_err _ _ _ k⟩

/-- what the server drains from the iterable `_get_body` returns is the body of `Fz.wsgi`, by source -/
theorem serve_getBody (r : Resp) (s : Option Stream) (fw wc : Bool) (n : Nat) :
    ((serve (getBody (rendered r) s fw).1 wc none).chunks, (serve (getBody (rendered r) s fw).1 wc none).iterErr) =
      bodyOf { withStream r s with status := n } := by
  unfold getBody bodyOf
  rw [rendered_withStream]
  cases rendered r with
  | some d => rfl
  | none =>
    cases s with
    | none => rfl
    | some st =>
      obtain ⟨kind, chunks, fail, hc⟩ := st
      cases kind with
      | iter =>
        dsimp only
        rw [serve_plain]
        exact Prod.ext (iterate_plain_drain fail _ _ (Nat.lt_succ_self _)).1
          (iterate_plain_drain fail _ _ (Nat.lt_succ_self _)).2
      | fileLike =>
        dsimp only
        cases fw
        · rw [if_neg Bool.false_ne_true, serve_closeable]
          exact Prod.ext (iterate_closeable_drain fail _ _).1 (iterate_closeable_drain fail _ _).2
        · rw [if_pos rfl, serve_wrapped]
          exact Prod.ext (iterate_closeable_drain fail _ _).1 (iterate_closeable_drain fail _ _).2

/-- the iterable `App.__call__` returns, drained: the body of `Fz.wsgi` for the chosen status code -/
theorem serve_call_body (r : Resp) (s : Option Stream) (c : Cfg) (wc : Bool) (n : Nat) (it : Iterable)
    (hit : it = if c.head || bodiless n then .list [] else (getBody (rendered r) s c.fileWrapper).1) :
    ((serve it wc none).chunks, (serve it wc none).iterErr) =
      ((wsgi { withStream r s with status := n } c).body, (wsgi { withStream r s with status := n } c).iterErr) := by
  rw [wsgi_body, hit]
  dsimp only
  split
  · rfl
  · exact serve_getBody r s c.fileWrapper wc n

/-- **WSGI: the byte strings the server takes from the iterable are the body of `Fz.wsgi`** - hence (by
    `Fz.wsgi_asgi_agree`) their concatenation is what the ASGI model sends -; the iteration raises exactly when
    `Fz.wsgi` says the stream fails; a server that abandons after `k` chunks has taken the first `k` of them. -/
theorem wsgi_chunks_are_body (r : Resp) (sv : StatusVal) (table : Nat → Option String) (s : Option Stream) (c : Cfg)
    (wc : Bool) (hs : StatusOk sv) (ht : TableOk table) :
    ∃ it, (call r sv table s c).iterable = some it ∧
      (serve it wc none).chunks = (wsgi { withStream r s with status := codeOf sv } c).body ∧
      (serve it wc none).iterErr = (wsgi { withStream r s with status := codeOf sv } c).iterErr ∧
      (serve it wc none).chunks.flatten = (asgi { withStream r s with status := codeOf sv } c).payload ∧
      (∀ k, (serve it wc (some k)).chunks = ((wsgi { withStream r s with status := codeOf sv } c).body).take k) ∧
      (∀ k, (serve it wc (some k)).iterErr = true → (serve it wc none).iterErr = true) := by
  obtain ⟨line, h1, _, h3⟩ := status_line_valid sv table hs ht
  obtain ⟨hit, _⟩ := call_iterable r sv table s c line h1
  rw [h3] at hit
  obtain ⟨a, b⟩ := Prod.mk.inj (serve_call_body r s c wc (codeOf sv) _ rfl)
  refine ⟨_, hit, a, b, ?_, fun k => ?_, fun k => (serve_abandon _ wc k).2⟩
  · rw [a, ← (wsgi_asgi_agree _ c).2.2.1]; rfl
  · rw [(serve_abandon _ wc k).1, a]

end Wg
