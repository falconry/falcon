import FalconModel.PipelineErr
import FalconModel.PipelineSpec
import FalconModel.ErrHandle
/-! C03: the refined model `Pe.run` (error handlers, escapes) against `Pl.run`, and what the handler events and the outcome
    satisfy. -/
namespace Pe

def Exc.escapes : Exc → Bool
  | .app .raisesPlain | .app .none => true
  | _ => false

def Act.escapes : Act → Bool | .raise_ e => e.escapes | _ => false
def Act.raises : Act → Bool | .raise_ _ => true | _ => false

def Ev.isCall : Ev → Bool | .call .. => true | .handler .. => false
def Ev.isResp : Ev → Bool | .call (.resp ..) _ => true | _ => false
def Ev.raises : Ev → Bool | .call _ (.raise_ _) => true | _ => false
def Ev.escapes : Ev → Bool | .call _ (.raise_ e) => e.escapes | _ => false
theorem Exc.escapes_iff {e : Exc} : e.escapes = true ↔ e = .app .none ∨ e = .app .raisesPlain := by
  cases e with
  | http c => simp [Exc.escapes]
  | status => simp [Exc.escapes]
  | app hb => cases hb <;> simp [Exc.escapes]

theorem Ev.raise_of_escapes {ev : Ev} (h : ev.escapes = true) : ∃ c e, ev = .call c (.raise_ e) ∧ e.escapes = true := by
  cases ev with
  | handler s e => cases h
  | call c a =>
    cases a with
    | raise_ e => exact ⟨c, e, rfl, h⟩
    | ret => cases h
    | complete => cases h

/-- what `_handle_exception` invokes for what the call raised -/
def Ev.hEvents : Ev → List Ev
  | .call c (.raise_ e) => (handle c.site e).1
  | _ => []

theorem respLoop_cons (cs : List (Nat × Comp)) (hasRes : Bool) (i : Nat) (rest : List Nat) (succ : Bool) (st : Status) (b : Act)
    (h : (cs.find? (·.1 == i)).bind (·.2.resp) = some b) :
    ∃ st', respLoop cs (i :: rest) hasRes succ st =
      if b.escapes then (.call (.resp i hasRes succ) b :: (Ev.call (.resp i hasRes succ) b).hEvents, .escaped)
      else (.call (.resp i hasRes succ) b :: (Ev.call (.resp i hasRes succ) b).hEvents ++
              (respLoop cs rest hasRes (succ && !b.raises) st').1,
            (respLoop cs rest hasRes (succ && !b.raises) st').2) := by
  rw [respLoop, h]
  have e1 : ∀ a : Act, a.raises = false → (succ && !a.raises) = succ := fun a h => by rw [h]; exact Bool.and_true _
  have e2 : ∀ e : Exc, (succ && !(Act.raise_ e).raises) = false := fun e => Bool.and_false _
  cases b with
  | ret => exact ⟨st, by rw [e1 _ rfl]; rfl⟩
  | complete => exact ⟨st, by rw [e1 _ rfl]; rfl⟩
  | raise_ e =>
    cases e with
    | http c => exact ⟨.http c, by rw [e2]; rfl⟩
    | status => exact ⟨.status, by rw [e2]; rfl⟩
    | app hb =>
      cases hb with
      | sets => exact ⟨.custom, by rw [e2]; rfl⟩
      | default => exact ⟨.internal, by rw [e2]; rfl⟩
      | raisesHttp => exact ⟨.handlerHttp, by rw [e2]; rfl⟩
      | raisesStatus => exact ⟨.handlerStatus, by rw [e2]; rfl⟩
      | raisesPlain => exact ⟨st, rfl⟩
      | none => exact ⟨st, rfl⟩

def absAct : Act → Pl.Act
  | .ret => .ret | .complete => .complete | .raise_ _ => .raise_
def absComp (c : Comp) : Pl.Comp := ⟨c.req.map absAct, c.rsrc.map absAct, c.resp.map absAct⟩
def absCfg (cfg : Cfg) : Pl.Cfg := ⟨cfg.comps.map absComp, cfg.independent, cfg.target, absAct cfg.responder⟩
def absL (l : List (Nat × Comp)) : List (Nat × Pl.Comp) := l.map fun p => (p.1, absComp p.2)

def projEv : Ev → Option Pl.Call
  | .call (.req i) _ => some (.req i)
  | .call (.rsrc i) _ => some (.rsrc i)
  | .call .responder _ => some .responder
  | .call (.resp i h s) _ => some (.resp i h s)
  | .call .defaultResponder _ => none
  | .handler _ _ => none
def proj (t : List Ev) : List Pl.Call := t.filterMap projEv

@[simp] theorem absComp_req (c : Comp) : (absComp c).req = c.req.map absAct := rfl
@[simp] theorem absComp_rsrc (c : Comp) : (absComp c).rsrc = c.rsrc.map absAct := rfl
@[simp] theorem absComp_resp (c : Comp) : (absComp c).resp = c.resp.map absAct := rfl

@[simp] theorem proj_nil : proj [] = [] := rfl
@[simp] theorem proj_append (a b : List Ev) : proj (a ++ b) = proj a ++ proj b := by simp [proj]
@[simp] theorem proj_cons (a : Ev) (b : List Ev) : proj (a :: b) = (projEv a).toList ++ proj b := by
  unfold proj; rw [List.filterMap_cons]; cases projEv a <;> simp

theorem proj_handle (s : Site) (e : Exc) : proj (handle s e).1 = [] := by
  cases e with
  | http c => rfl
  | status => rfl
  | app h => cases h <;> rfl

theorem reqIndep_abs (l : List (Nat × Comp)) :
    Pl.reqIndep (absL l) = (proj (reqIndep l).1, (reqIndep l).2.1, (reqIndep l).2.2.isSome) := by
  induction l with
  | nil => rfl
  | cons x xs ih =>
    obtain ⟨i, c⟩ := x
    rw [absL, List.map_cons, Pl.reqIndep, reqIndep, absComp_req]
    rcases c.req with _ | _ | _ | e
    · exact ih
    · exact congrArg (fun r : List Pl.Call × Bool × Bool => (Pl.Call.req i :: r.1, r.2)) ih
    · rfl
    · rfl

theorem rsrcLoop_abs (l : List (Nat × Comp)) :
    Pl.rsrcLoop (absL l) = (proj (rsrcLoop l).1, (rsrcLoop l).2.1, (rsrcLoop l).2.2.isSome) := by
  induction l with
  | nil => rfl
  | cons x xs ih =>
    obtain ⟨i, c⟩ := x
    rw [absL, List.map_cons, Pl.rsrcLoop, rsrcLoop, absComp_rsrc]
    rcases c.rsrc with _ | _ | _ | e
    · exact ih
    · exact congrArg (fun r : List Pl.Call × Bool × Bool => (Pl.Call.rsrc i :: r.1, r.2)) ih
    · rfl
    · rfl

theorem reqDep_abs (l : List (Nat × Comp)) : ∀ cp : Bool,
    Pl.reqDep (absL l) cp = (proj (reqDep l cp).1, (reqDep l cp).2.1, (reqDep l cp).2.2.1.isSome, (reqDep l cp).2.2.2) := by
  induction l with
  | nil => intro cp; rfl
  | cons x xs ih =>
    obtain ⟨i, c⟩ := x
    intro cp
    show Pl.reqDep ((i, absComp c) :: absL xs) cp = _
    simp only [Pl.reqDep, reqDep, ih, absComp_req, absComp_resp, Option.isSome_map]
    cases cp <;> rcases c.req with _ | _ | _ | e <;> rfl

theorem lookup_abs (cs : List (Nat × Comp)) (i : Nat) :
    ((absL cs).find? (·.1 == i)).bind (·.2.resp) = ((cs.find? (·.1 == i)).bind (·.2.resp)).map absAct := by
  induction cs with
  | nil => rfl
  | cons x xs ih =>
    simp only [absL, List.map_cons, List.find?_cons] at ih ⊢
    cases hx : (x.1 == i) with
    | true => simp
    | false => simpa using ih

theorem enum_abs (cs : List Comp) : Pl.enum (cs.map absComp) = absL (enum cs) := by
  simp [Pl.enum, enum, absL, List.zip_map_right]

theorem order_abs (l : List (Nat × Comp)) :
    ((absL l).filter (·.2.resp.isSome)).map (·.1) = (l.filter (·.2.resp.isSome)).map (·.1) := by
  induction l with
  | nil => rfl
  | cons x xs ih =>
    simp only [absL, List.map_cons] at ih ⊢
    cases hx : x.2.resp <;> simp [hx, ih]

theorem proj_block (c : Call) (a : Act) (tl : List Ev) :
    proj (Ev.call c a :: (Ev.call c a).hEvents ++ tl) = (projEv (.call c a)).toList ++ proj tl := by
  have : proj (Ev.call c a).hEvents = [] := by
    cases a with
    | raise_ e => exact proj_handle _ _
    | _ => rfl
  rw [List.cons_append, proj_cons, proj_append, this, List.nil_append]

theorem absAct_raises (a : Act) : (absAct a != .raise_) = !a.raises := by cases a <;> rfl

theorem respLoop_abs (cs : List (Nat × Comp)) (hasRes : Bool) : ∀ (order : List Nat) (succ : Bool) (st : Status),
    proj (respLoop cs order hasRes succ st).1 <+: Pl.respLoop (absL cs) order hasRes succ ∧
    ((respLoop cs order hasRes succ st).2 ≠ .escaped →
      proj (respLoop cs order hasRes succ st).1 = Pl.respLoop (absL cs) order hasRes succ) := by
  intro order
  induction order with
  | nil => intro succ st; exact ⟨List.prefix_refl _, fun _ => rfl⟩
  | cons i rest ih =>
    intro succ st
    rw [Pl.respLoop, lookup_abs]
    cases h : (cs.find? (·.1 == i)).bind (·.2.resp) with
    | none => rw [respLoop, h]; exact ih succ st
    | some b =>
      obtain ⟨st', hc⟩ := respLoop_cons cs hasRes i rest succ st b h
      rw [hc]
      simp only [Option.map_some, absAct_raises]
      split
      · rw [← List.append_nil (_ :: _), proj_block]
        exact ⟨(List.prefix_cons_inj _).mpr (List.nil_prefix), fun hne => absurd rfl hne⟩
      · rw [proj_block]
        exact ⟨(List.prefix_cons_inj _).mpr (ih _ st').1, fun hne => congrArg _ ((ih _ st').2 hne)⟩

@[simp] theorem tbeq_route_route : (Pl.Target.route == Pl.Target.route) = true := by decide
@[simp] theorem tbeq_noMethod_noMethod : (Pl.Target.noMethod == Pl.Target.noMethod) = true := by decide
@[simp] theorem tbeq_sink_sink : (Pl.Target.sink == Pl.Target.sink) = true := by decide
@[simp] theorem tbeq_nothing_nothing : (Pl.Target.nothing == Pl.Target.nothing) = true := by decide

theorem afterReq_order (cfg : Cfg) (cs : List (Nat × Comp)) (order : List Nat) (t1 : List Ev) (cp1 : Bool)
    (x1 : Option (Call × Exc)) : (afterReq cfg cs order t1 cp1 x1).2.2.2 = order := by
  cases x1 <;> rfl

/-- `Pl.respLoop` is started with the `resource` flag (`.2.2.1`) and the success flag (`.2.1`: no exception reached an `except`
    clause) that `afterReq` reports -/
theorem afterReq_abs (cfg : Cfg) (order : List Nat) (t1 : List Ev) (cp1 : Bool) (x1 : Option (Call × Exc)) :
    Pl.afterReq (absCfg cfg) (proj t1) cp1 x1.isSome order =
      proj (afterReq cfg (enum cfg.comps) order t1 cp1 x1).1 ++
        Pl.respLoop (absL (enum cfg.comps)) order (afterReq cfg (enum cfg.comps) order t1 cp1 x1).2.2.1
          (!(afterReq cfg (enum cfg.comps) order t1 cp1 x1).2.1.isSome) := by
  cases x1 with
  | some ce => rw [Option.isSome_some, Pl.afterReq_raised]; simp only [absCfg, enum_abs, afterReq, Option.isSome_some, Bool.not_true]
  | none =>
    have hR : ∀ hasRes : Bool, (if hasRes = true then Pl.rsrcLoop (absL (enum cfg.comps)) else ([], false, false)) =
        (fun r : List Ev × Bool × Option (Call × Exc) => (proj r.1, r.2.1, r.2.2.isSome))
          (if hasRes = true then rsrcLoop (enum cfg.comps) else ([], false, none)) := by
      intro hasRes
      cases hasRes
      · rfl
      · exact rsrcLoop_abs _
    simp only [Pl.afterReq, absCfg, enum_abs, afterReq, tryBody2, responderOf, hR, Option.isSome_none, Bool.not_false, Bool.true_and]
    generalize (if (!cp1 && (cfg.target == .route || cfg.target == .noMethod)) = true then rsrcLoop (enum cfg.comps)
      else ([], false, none)) = r
    obtain ⟨t2, cp2, _ | ce⟩ := r
    · cases cp2
      · cases cp1
        · cases ht : cfg.target
          · cases hresp : cfg.responder <;> simp [absAct, projEv, Bool.beq_eq_decide_eq]
          · simp [projEv, Bool.beq_eq_decide_eq]
          · cases hresp : cfg.responder <;> simp [absAct, projEv, Bool.beq_eq_decide_eq]
          · simp [projEv, Bool.beq_eq_decide_eq]
        · simp
      · simp
    · simp

/-- `(tries cfg).2.2.2`: the response stack; `.2.2.1`: its `resource` flag; `.2.1`: the exception that reached an `except` clause -/
theorem tries_abs (cfg : Cfg) :
    Pl.run (absCfg cfg) = proj (tries cfg).1 ++
      Pl.respLoop (absL (enum cfg.comps)) (tries cfg).2.2.2 (tries cfg).2.2.1 (!(tries cfg).2.1.isSome) := by
  have e1 : (absCfg cfg).independent = cfg.independent := rfl
  have e2 : Pl.enum (absCfg cfg).comps = absL (enum cfg.comps) := enum_abs cfg.comps
  rw [Pl.run_eq_afterReq, e1, e2, reqIndep_abs, reqDep_abs, order_abs]
  unfold tries
  cases cfg.independent
  · simp only [Bool.false_eq_true, if_false, afterReq_order]
    exact afterReq_abs cfg ..
  · simp only [if_true, afterReq_order]
    exact afterReq_abs cfg ..

/-- to cite: the two halves `run_refines_Pl`, `run_prefix_Pl` below -/
theorem run_abs (cfg : Cfg) :
    proj (run cfg).1 <+: Pl.run (absCfg cfg) ∧ ((run cfg).2 ≠ .escaped → proj (run cfg).1 = Pl.run (absCfg cfg)) := by
  rw [tries_abs]
  unfold run
  rcases tries cfg with ⟨pre, x, hasRes, order⟩
  cases x with
  | none =>
    have := respLoop_abs (enum cfg.comps) hasRes order true .ok
    simp only [exceptClause, proj_append, Option.isSome_none, Bool.not_false]
    exact ⟨(List.prefix_append_right_inj _).mpr this.1, fun hne => by rw [this.2 hne]⟩
  | some ce =>
    obtain ⟨c, e⟩ := ce
    have hp := proj_handle c.site e
    simp only [exceptClause, Option.isSome_some, Bool.not_true]
    rcases hh : handle c.site e with ⟨h, _ | st⟩
    · rw [hh] at hp
      simp [hp]
    · rw [hh] at hp
      have := respLoop_abs (enum cfg.comps) hasRes order false st
      simp only [proj_append, hp, List.append_nil]
      exact ⟨(List.prefix_append_right_inj _).mpr this.1, fun hne => by rw [this.2 hne]⟩

/-- **refinement**: unless an exception leaves `__call__`, the calls made (handler invocations and falcon's own 404/405
    responder left out) are exactly `Pl.run` of the configuration with every raise abstracted to `raise_` -/
theorem run_refines_Pl (cfg : Cfg) (h : (run cfg).2 ≠ .escaped) : proj (run cfg).1 = Pl.run (absCfg cfg) :=
  (run_abs cfg).2 h

/-- … and if one does, they are an initial part of it: nothing is called out of order, nothing twice -/
theorem run_prefix_Pl (cfg : Cfg) : proj (run cfg).1 <+: Pl.run (absCfg cfg) := (run_abs cfg).1

/-- so `Pl.run_eq_spec` describes the refined run: its calls are the documented discipline -/
theorem run_eq_specTrace (cfg : Cfg) (h : (run cfg).2 ≠ .escaped) : proj (run cfg).1 = Pl.specTrace (absCfg cfg) := by
  rw [run_refines_Pl cfg h, Pl.run_eq_spec]

def isRespCall : Call → Bool | .resp .. => true | _ => false
def Ev.quiet : Ev → Bool
  | .call c a => !isRespCall c && !a.raises
  | .handler .. => false

theorem handle_escapes (s : Site) (e : Exc) : (handle s e).2 = none ↔ e.escapes = true := by
  cases e with
  | http c => simp [handle, Exc.escapes]
  | status => simp [handle, Exc.escapes]
  | app h => cases h <;> simp [handle, Exc.escapes]

/-- a handler is invoked for every raise except the one nothing is registered for; exactly once, with that error -/
theorem handle_once (s : Site) (e : Exc) :
    (handle s e).1 = if e = .app .none then [] else [.handler s e] := by
  cases e with
  | http c => simp [handle]
  | status => simp [handle]
  | app h => cases h <;> simp [handle]

theorem handle_events (s : Site) (e : Exc) : ∀ ev ∈ (handle s e).1, ev = .handler s e := by
  rw [handle_once]; split <;> simp

def actAt (cfg : Cfg) : Call → Option Act
  | .req i => (cfg.comps[i]?).bind (·.req)
  | .rsrc i => (cfg.comps[i]?).bind (·.rsrc)
  | .resp i _ _ => (cfg.comps[i]?).bind (·.resp)
  | .responder => if cfg.target = .route ∨ cfg.target = .sink then some cfg.responder else none
  | .defaultResponder =>
    match cfg.target with
    | .noMethod => some (.raise_ (.http .notAllowed))
    | .nothing => some (.raise_ (.http .notFound))
    | _ => none

def Labelled (cfg : Cfg) (t : List Ev) : Prop := ∀ c a, Ev.call c a ∈ t → actAt cfg c = some a

def Sub (cfg : Cfg) (l : List (Nat × Comp)) : Prop := ∀ p ∈ l, cfg.comps[p.1]? = some p.2

theorem enum_sub (cfg : Cfg) : Sub cfg (enum cfg.comps) := by
  intro p hp
  unfold enum at hp
  obtain ⟨k, hk, rfl⟩ := List.getElem_of_mem hp
  simp only [List.length_zip, List.length_range, Nat.min_self] at hk
  simp [hk]

theorem Labelled_append {cfg : Cfg} {a b : List Ev} (ha : Labelled cfg a) (hb : Labelled cfg b) : Labelled cfg (a ++ b) := by
  intro c x hm
  rcases List.mem_append.mp hm with h | h
  · exact ha c x h
  · exact hb c x h

theorem Labelled_nil (cfg : Cfg) : Labelled cfg [] := by intro c a h; cases h

theorem Labelled_single {cfg : Cfg} {c : Call} {a : Act} (h : actAt cfg c = some a) : Labelled cfg [.call c a] := by
  intro c' a' hm
  simp only [List.mem_singleton, Ev.call.injEq] at hm
  obtain ⟨rfl, rfl⟩ := hm
  exact h

theorem Labelled_handle (cfg : Cfg) (s : Site) (e : Exc) : Labelled cfg (handle s e).1 := by
  intro c a hm
  have := handle_events s e _ hm
  cases this

theorem Sub_tail {cfg : Cfg} {x : Nat × Comp} {xs : List (Nat × Comp)} (h : Sub cfg (x :: xs)) : Sub cfg xs :=
  fun p hp => h p (List.mem_cons_of_mem _ hp)

theorem responderOf_labelled (cfg : Cfg) : actAt cfg (responderOf cfg).1 = some (responderOf cfg).2 := by
  unfold responderOf
  cases h : cfg.target <;> simp [actAt, h]

def lastOf : Option (Call × Exc) → List Ev
  | none => []
  | some (c, e) => [.call c (.raise_ e)]

/-- what a `try` body leaves: calls that return or complete, then (if it ended with an exception) the call that raised it -/
def Shape (cfg : Cfg) (t : List Ev) (x : Option (Call × Exc)) : Prop :=
  (∃ init, init.all Ev.quiet = true ∧ t = init ++ lastOf x ∧ ∀ c e, x = some (c, e) → isRespCall c = false) ∧ Labelled cfg t

theorem Shape_nil (cfg : Cfg) : Shape cfg [] none := ⟨⟨[], rfl, rfl, fun _ _ h => nomatch h⟩, Labelled_nil cfg⟩

theorem Shape_cons {cfg : Cfg} {c : Call} {a : Act} {t : List Ev} {x : Option (Call × Exc)} (hc : isRespCall c = false)
    (ha : a.raises = false) (hl : actAt cfg c = some a) (h : Shape cfg t x) : Shape cfg (.call c a :: t) x := by
  obtain ⟨⟨init, h1, h2, h3⟩, hL⟩ := h
  refine ⟨⟨.call c a :: init, ?_, congrArg (_ :: ·) h2, h3⟩, Labelled_append (Labelled_single hl) hL⟩
  rw [List.all_cons, h1, Ev.quiet, hc, ha]; rfl

theorem Shape_raise {cfg : Cfg} {c : Call} {e : Exc} (hc : isRespCall c = false) (hl : actAt cfg c = some (.raise_ e)) :
    Shape cfg [.call c (.raise_ e)] (some (c, e)) :=
  ⟨⟨[], rfl, rfl, fun _ _ h => by cases h; exact hc⟩, Labelled_single hl⟩

theorem reqIndep_shape (cfg : Cfg) (l : List (Nat × Comp)) (hs : Sub cfg l) : Shape cfg (reqIndep l).1 (reqIndep l).2.2 := by
  induction l with
  | nil => exact Shape_nil cfg
  | cons x xs ih =>
    obtain ⟨i, c⟩ := x
    have ih := ih (Sub_tail hs)
    have hl : actAt cfg (.req i) = c.req := by rw [actAt, hs (i, c) List.mem_cons_self]; rfl
    rw [reqIndep]
    rcases hr : c.req with _ | _ | _ | e
    · exact ih
    · exact Shape_cons rfl rfl (hl.trans hr) ih
    · exact Shape_cons rfl rfl (hl.trans hr) (Shape_nil cfg)
    · exact Shape_raise rfl (hl.trans hr)

theorem rsrcLoop_shape (cfg : Cfg) (l : List (Nat × Comp)) (hs : Sub cfg l) : Shape cfg (rsrcLoop l).1 (rsrcLoop l).2.2 := by
  induction l with
  | nil => exact Shape_nil cfg
  | cons x xs ih =>
    obtain ⟨i, c⟩ := x
    have ih := ih (Sub_tail hs)
    have hl : actAt cfg (.rsrc i) = c.rsrc := by rw [actAt, hs (i, c) List.mem_cons_self]; rfl
    rw [rsrcLoop]
    rcases hr : c.rsrc with _ | _ | _ | e
    · exact ih
    · exact Shape_cons rfl rfl (hl.trans hr) ih
    · exact Shape_cons rfl rfl (hl.trans hr) (Shape_nil cfg)
    · exact Shape_raise rfl (hl.trans hr)

theorem reqDep_shape (cfg : Cfg) (l : List (Nat × Comp)) (hs : Sub cfg l) :
    ∀ cp : Bool, Shape cfg (reqDep l cp).1 (reqDep l cp).2.2.1 := by
  induction l with
  | nil => intro cp; exact Shape_nil cfg
  | cons x xs ih =>
    obtain ⟨i, c⟩ := x
    intro cp
    have ih := ih (Sub_tail hs)
    have hl : actAt cfg (.req i) = c.req := by rw [actAt, hs (i, c) List.mem_cons_self]; rfl
    rw [reqDep]
    cases cp with
    | true => exact ih true
    | false =>
      rcases hr : c.req with _ | _ | _ | e
      · exact ih false
      · exact Shape_cons rfl rfl (hl.trans hr) (ih false)
      · exact Shape_cons rfl rfl (hl.trans hr) (ih true)
      · exact Shape_raise rfl (hl.trans hr)

theorem responderOf_notResp (cfg : Cfg) : isRespCall (responderOf cfg).1 = false := by
  unfold responderOf; cases cfg.target <;> rfl

theorem Shape_append {cfg : Cfg} {t1 t2 : List Ev} {x : Option (Call × Exc)} (h1 : Shape cfg t1 none) (h2 : Shape cfg t2 x) :
    Shape cfg (t1 ++ t2) x := by
  obtain ⟨⟨i1, q1, rfl, _⟩, l1⟩ := h1
  obtain ⟨⟨i2, q2, rfl, r2⟩, l2⟩ := h2
  refine ⟨⟨i1 ++ i2, ?_, ?_, r2⟩, Labelled_append l1 l2⟩
  · rw [List.all_append, q1, q2]; rfl
  · rw [lastOf, List.append_nil, List.append_assoc]

theorem tryBody2_shape (cfg : Cfg) (cp1 hasRes : Bool) :
    Shape cfg (tryBody2 cfg (enum cfg.comps) cp1 hasRes).1 (tryBody2 cfg (enum cfg.comps) cp1 hasRes).2 := by
  have hR : Shape cfg (if hasRes = true then rsrcLoop (enum cfg.comps) else ([], false, none)).1
      (if hasRes = true then rsrcLoop (enum cfg.comps) else ([], false, none)).2.2 := by
    cases hasRes
    · exact Shape_nil cfg
    · exact rsrcLoop_shape cfg _ (enum_sub cfg)
  rw [tryBody2]
  generalize (if hasRes = true then rsrcLoop (enum cfg.comps) else ([], false, none)) = r at hR
  obtain ⟨t2, cp2, x2⟩ := r
  cases x2 with
  | some ce => exact hR
  | none =>
    dsimp only
    by_cases hcp : (cp1 || cp2) = true
    · rw [if_pos hcp]; exact hR
    · rw [if_neg hcp]
      have hn := responderOf_notResp cfg
      have hl := responderOf_labelled cfg
      generalize responderOf cfg = ca at hn hl ⊢
      obtain ⟨c, _ | _ | e⟩ := ca
      · exact Shape_append hR (Shape_cons hn rfl hl (Shape_nil cfg))
      · exact Shape_append hR (Shape_cons hn rfl hl (Shape_nil cfg))
      · exact Shape_append hR (Shape_raise hn hl)

theorem afterReq_shape (cfg : Cfg) (order : List Nat) (t1 : List Ev) (cp1 : Bool)
    (x1 : Option (Call × Exc)) (hs : Shape cfg t1 x1) :
    Shape cfg (afterReq cfg (enum cfg.comps) order t1 cp1 x1).1 (afterReq cfg (enum cfg.comps) order t1 cp1 x1).2.1 := by
  cases x1 with
  | some ce => exact hs
  | none => exact Shape_append hs (tryBody2_shape cfg cp1 _)

theorem tries_shape (cfg : Cfg) : Shape cfg (tries cfg).1 (tries cfg).2.1 := by
  unfold tries
  cases cfg.independent
  · exact afterReq_shape _ _ _ _ _ (reqDep_shape cfg _ (enum_sub cfg) false)
  · exact afterReq_shape _ _ _ _ _ (reqIndep_shape cfg _ (enum_sub cfg))

/-- the response stack in independent mode: every component defining `process_response`, last registered first -/
theorem tries_order_independent (cfg : Cfg) (h : cfg.independent = true) :
    (tries cfg).2.2.2 = (((enum cfg.comps).filter (·.2.resp.isSome)).map (·.1)).reverse := by
  unfold tries; simp only [h, if_true]; exact afterReq_order ..

/-- `run` = quiet calls, then possibly one raising call with its handler, then the response loop (unless that call's
    exception escaped).  The components of `tries cfg`, here and below: `.1` the trace of the two `try` statements, `.2.1` the
    exception that reached an `except` clause (with the call that raised it), `.2.2.1` whether `resource` is set, `.2.2.2` the
    response stack -/
theorem run_decomp (cfg : Cfg) : ∃ init : List Ev, init.all Ev.quiet = true ∧
    match (tries cfg).2.1 with
    | none => run cfg = (init ++ (respLoop (enum cfg.comps) (tries cfg).2.2.2 (tries cfg).2.2.1 true .ok).1,
                         (respLoop (enum cfg.comps) (tries cfg).2.2.2 (tries cfg).2.2.1 true .ok).2)
    | some (c, e) => isRespCall c = false ∧ ∃ st, run cfg =
        if e.escapes then (init ++ .call c (.raise_ e) :: (handle c.site e).1, .escaped)
        else (init ++ .call c (.raise_ e) :: (handle c.site e).1 ++
                (respLoop (enum cfg.comps) (tries cfg).2.2.2 (tries cfg).2.2.1 false st).1,
              (respLoop (enum cfg.comps) (tries cfg).2.2.2 (tries cfg).2.2.1 false st).2) := by
  obtain ⟨⟨init, q, e1, r⟩, _⟩ := tries_shape cfg
  refine ⟨init, q, ?_⟩
  unfold run
  rcases ht : tries cfg with ⟨pre, x, hasRes, order⟩
  rw [ht] at e1 r
  simp only at e1 r ⊢
  cases x with
  | none => simp [exceptClause, e1, lastOf]
  | some ce =>
    obtain ⟨c, e⟩ := ce
    refine ⟨r c e rfl, ?_⟩
    have he := handle_escapes c.site e
    simp only [exceptClause]
    rcases hh : handle c.site e with ⟨h, _ | st⟩
    · rw [hh] at he
      exact ⟨.ok, by rw [if_pos (he.mp rfl)]; simp [e1, lastOf]⟩
    · rw [hh] at he
      have hf : e.escapes = false := Bool.eq_false_iff.mpr fun hb => nomatch he.mpr hb
      exact ⟨st, by rw [hf, if_neg Bool.false_ne_true]; simp [e1, lastOf]⟩

def Call.flagIs (ok : Bool) : Call → Prop
  | .resp _ _ s => s = ok
  | _ => True

/-- a trace as `__call__` produces it: calls, each followed at once by what `_handle_exception` invokes for it, every
    `process_response` call carrying the flag "nothing raised so far", and nothing after a call whose error escapes -/
inductive Good : Bool → List Ev → Prop
  | nil (ok : Bool) : Good ok []
  | esc (ok : Bool) (c : Call) (e : Exc) : c.flagIs ok → e.escapes = true → Good ok (.call c (.raise_ e) :: (handle c.site e).1)
  | step (ok : Bool) (c : Call) (a : Act) (tl : List Ev) : c.flagIs ok → a.escapes = false → Good (ok && !a.raises) tl →
      Good ok (.call c a :: (Ev.call c a).hEvents ++ tl)

theorem flagIs_of_notResp {c : Call} (ok : Bool) (h : isRespCall c = false) : c.flagIs ok := by
  cases c <;> first | trivial | cases h

theorem Good_quiet_append : ∀ (init b : List Ev) (ok : Bool), init.all Ev.quiet = true → Good ok b → Good ok (init ++ b)
  | [], _, _, _, hb => hb
  | .handler .. :: _, _, _, h, _ => by cases h
  | .call c a :: rest, b, ok, h, hb => by
    rw [List.all_cons, Ev.quiet, Bool.and_eq_true, Bool.and_eq_true, Bool.not_eq_true', Bool.not_eq_true'] at h
    have ih := Good_quiet_append rest b ok h.2 hb
    cases a with
    | raise_ e => cases h.1.2
    | ret => exact .step ok c .ret _ (flagIs_of_notResp ok h.1.1) rfl ((Bool.and_true ok).symm ▸ ih)
    | complete => exact .step ok c .complete _ (flagIs_of_notResp ok h.1.1) rfl ((Bool.and_true ok).symm ▸ ih)

theorem handle_no_escape (s : Site) (e : Exc) : (handle s e).1.any Ev.escapes = false := by
  rw [handle_once]; split <;> rfl

theorem respLoop_good (cs : List (Nat × Comp)) (hasRes : Bool) : ∀ (order : List Nat) (succ : Bool) (st : Status),
    Good succ (respLoop cs order hasRes succ st).1 ∧
    ((respLoop cs order hasRes succ st).2 = .escaped ↔ (respLoop cs order hasRes succ st).1.any Ev.escapes = true) := by
  intro order
  induction order with
  | nil => intro succ st; exact ⟨.nil _, by simp [respLoop]⟩
  | cons i rest ih =>
    intro succ st
    cases h : (cs.find? (·.1 == i)).bind (·.2.resp) with
    | none => rw [respLoop, h]; exact ih succ st
    | some b =>
      obtain ⟨st', hc⟩ := respLoop_cons cs hasRes i rest succ st b h
      rw [hc]
      cases hb : b.escapes with
      | true =>
        rw [if_pos rfl]
        cases b with
        | raise_ e => exact ⟨.esc succ _ e rfl hb, by simp [Ev.escapes, show e.escapes = true from hb]⟩
        | ret => cases hb
        | complete => cases hb
      | false =>
        rw [if_neg Bool.false_ne_true]
        refine ⟨.step succ _ b _ rfl hb (ih _ st').1, (ih _ st').2.trans ?_⟩
        have h1 : (Ev.call (.resp i hasRes succ) b).escapes = false := by
          cases b with
          | raise_ e => exact hb
          | _ => rfl
        have h2 : (Ev.call (.resp i hasRes succ) b).hEvents.any Ev.escapes = false := by
          cases b with
          | raise_ e => exact handle_no_escape _ _
          | _ => rfl
        rw [List.cons_append, List.any_cons, List.any_append, h1, h2, Bool.false_or, Bool.false_or]

theorem any_quiet : ∀ (init : List Ev), init.all Ev.quiet = true → init.any Ev.escapes = false
  | [], _ => rfl
  | .handler .. :: _, h => by cases h
  | .call c a :: rest, h => by
    rw [List.all_cons, Ev.quiet, Bool.and_eq_true, Bool.and_eq_true, Bool.not_eq_true', Bool.not_eq_true'] at h
    rw [List.any_cons, any_quiet rest h.2, Bool.or_false]
    cases a <;> first | rfl | cases h.1.2

theorem run_good (cfg : Cfg) : Good true (run cfg).1 ∧ ((run cfg).2 = .escaped ↔ (run cfg).1.any Ev.escapes = true) := by
  obtain ⟨init, q, h⟩ := run_decomp cfg
  have hq := any_quiet init q
  cases hx : (tries cfg).2.1 with
  | none =>
    rw [hx] at h; simp only at h
    obtain ⟨g, o⟩ := respLoop_good (enum cfg.comps) (tries cfg).2.2.1 (tries cfg).2.2.2 true .ok
    rw [h]
    exact ⟨Good_quiet_append _ _ _ q g, by rw [List.any_append, hq, Bool.false_or]; exact o⟩
  | some ce =>
    obtain ⟨c, e⟩ := ce
    rw [hx] at h; simp only at h
    obtain ⟨hc, st, h⟩ := h
    have hf := flagIs_of_notResp true hc
    have hn := handle_no_escape c.site e
    rw [h]
    cases hesc : e.escapes with
    | true =>
      rw [if_pos rfl]
      exact ⟨Good_quiet_append _ _ _ q (.esc true c e hf hesc), by simp [Ev.escapes, hesc]⟩
    | false =>
      rw [if_neg Bool.false_ne_true]
      obtain ⟨g, o⟩ := respLoop_good (enum cfg.comps) (tries cfg).2.2.1 (tries cfg).2.2.2 false st
      refine ⟨?_, o.trans ?_⟩
      · rw [List.append_assoc]
        exact Good_quiet_append _ _ _ q (.step true c (.raise_ e) _ hf hesc g)
      · simp only [List.any_append, List.any_cons, hq, Ev.escapes, hesc, hn, Bool.false_or]

def WH (t : List Ev) : Prop := t = (t.filter Ev.isCall).flatMap (fun ev => ev :: ev.hEvents)

theorem handle_filter_isCall (s : Site) (e : Exc) : (handle s e).1.filter Ev.isCall = [] := by
  rw [handle_once]; split <;> rfl

theorem hEvents_filter_isCall (c : Call) (a : Act) : (Ev.call c a).hEvents.filter Ev.isCall = [] := by
  cases a with
  | raise_ e => exact handle_filter_isCall _ _
  | _ => rfl

theorem Good.wh {ok : Bool} {t : List Ev} (h : Good ok t) : WH t := by
  unfold WH
  induction h with
  | nil => rfl
  | esc ok c e _ _ =>
    rw [List.filter_cons_of_pos rfl, handle_filter_isCall, List.flatMap_cons, List.flatMap_nil, List.append_nil]; rfl
  | step ok c a tl _ _ _ ih =>
    rw [List.cons_append, List.filter_cons_of_pos rfl, List.filter_append, hEvents_filter_isCall, List.nil_append,
      List.flatMap_cons, ← ih]; rfl

/-- **every raise gets its handler invocation — once, right after the call that raised, for that error at that site — and
    no handler runs otherwise**: the trace is recovered from its calls by inserting after each call what
    `_handle_exception` invokes for what the call raised (`handle_once`: nothing if the call does not raise or no handler
    exists, else exactly one `handler site error` event) -/
theorem handler_called_once_per_raise_at_its_site (cfg : Cfg) : WH (run cfg).1 := (run_good cfg).1.wh

/-- right after the first call whose exception escapes come only its handler's invocation (if there is a handler) and
    the end of the trace -/
def Stops : List Ev → Prop
  | [] => True
  | ev :: rest => if ev.escapes = true then rest = ev.hEvents else Stops rest

theorem Stops_handler_append (s : Site) (e : Exc) (b : List Ev) : Stops ((handle s e).1 ++ b) ↔ Stops b := by
  rw [handle_once]; split <;> simp [Stops, Ev.escapes]

theorem Good.stops {ok : Bool} {t : List Ev} (h : Good ok t) : Stops t := by
  induction h with
  | nil => trivial
  | esc ok c e _ he => simp only [Stops, Ev.escapes, he, if_true, Ev.hEvents]
  | step ok c a tl _ ha _ ih =>
    cases a with
    | ret => exact ih
    | complete => exact ih
    | raise_ e =>
      simp only [List.cons_append, Stops, Ev.escapes, show e.escapes = false from ha, Bool.false_eq_true, if_false, Ev.hEvents]
      exact (Stops_handler_append _ _ _).mpr ih

theorem respLoop_stops (cs : List (Nat × Comp)) (hasRes : Bool) (order : List Nat) (succ : Bool) (st : Status) :
    Stops (respLoop cs order hasRes succ st).1 ∧
    ((respLoop cs order hasRes succ st).2 = .escaped ↔ (respLoop cs order hasRes succ st).1.any Ev.escapes = true) :=
  ⟨(respLoop_good cs hasRes order succ st).1.stops, (respLoop_good cs hasRes order succ st).2⟩

theorem run_stops (cfg : Cfg) :
    Stops (run cfg).1 ∧ ((run cfg).2 = .escaped ↔ (run cfg).1.any Ev.escapes = true) :=
  ⟨(run_good cfg).1.stops, (run_good cfg).2⟩

theorem Stops_split : ∀ (pre : List Ev) (ev : Ev) (post : List Ev), Stops (pre ++ ev :: post) → ev.escapes = true →
    post = ev.hEvents
  | [], ev, post, h, he => by simpa [Stops, he] using h
  | p :: pre, ev, post, h, he => by
    simp only [List.cons_append, Stops] at h
    split at h
    · -- an earlier escaping call: the trace would already have ended with handler events, none of which is a call that escapes
      rename_i hp
      obtain ⟨c, e, rfl, _⟩ := Ev.raise_of_escapes hp
      have hmem : ev ∈ (handle c.site e).1 := by rw [← Ev.hEvents, ← h]; simp
      cases handle_events c.site e ev hmem
      cases he
    · exact Stops_split pre ev post h he

/-- **an unhandled exception propagates and stops everything**: if a call raises an error for which no handler exists, or
    whose handler raises a plain exception, then after that call come only the handler's invocation (when there is a
    handler) and the end of the trace — no further `process_response`, no responder — and the outcome is `escaped` -/
theorem unhandled_propagates_and_stops (cfg : Cfg) (pre post : List Ev) (c : Call) (e : Exc)
    (h : (run cfg).1 = pre ++ .call c (.raise_ e) :: post) (he : e = .app .none ∨ e = .app .raisesPlain) :
    post = (if e = .app .none then [] else [.handler c.site e]) ∧ (run cfg).2 = .escaped := by
  have hs := run_stops cfg
  have hesc : (Ev.call c (.raise_ e)).escapes = true := Exc.escapes_iff.mpr he
  constructor
  · have := Stops_split pre _ post (h ▸ hs.1) hesc
    rw [this, Ev.hEvents, handle_once]
  · rw [hs.2, h]; simp [hesc]

/-- **the request escapes iff some call that was made raised an error that has no handler or whose handler raised a plain
    exception** (`labels_correct`: that is the action the configuration assigns to that method) -/
theorem escape_iff (cfg : Cfg) :
    (run cfg).2 = .escaped ↔ ∃ c e, Ev.call c (.raise_ e) ∈ (run cfg).1 ∧ (e = .app .none ∨ e = .app .raisesPlain) := by
  rw [(run_stops cfg).2, List.any_eq_true]
  constructor
  · rintro ⟨ev, hm, he⟩
    obtain ⟨c, e, rfl, he⟩ := Ev.raise_of_escapes he
    exact ⟨c, e, hm, Exc.escapes_iff.mp he⟩
  · rintro ⟨c, e, hm, he⟩
    exact ⟨_, hm, Exc.escapes_iff.mpr he⟩

def FlagsOk : Bool → List Ev → Prop
  | _, [] => True
  | ok, ev :: rest => (∀ i h s a, ev = .call (.resp i h s) a → s = ok) ∧ FlagsOk (ok && !ev.raises) rest

theorem FlagsOk_handler_append (s : Site) (e : Exc) (b : List Ev) (ok : Bool) :
    FlagsOk ok ((handle s e).1 ++ b) ↔ FlagsOk ok b := by
  rw [handle_once]; split <;> simp [FlagsOk, Ev.raises]

theorem flag_of_flagIs {ok : Bool} {c : Call} {a : Act} (hf : c.flagIs ok) :
    ∀ i h s a', Ev.call c a = .call (.resp i h s) a' → s = ok := by
  intro _ _ _ _ he; injection he with he _; subst he; exact hf

theorem Good.flags {ok : Bool} {t : List Ev} (h : Good ok t) : FlagsOk ok t := by
  induction h with
  | nil => trivial
  | esc ok c e hf _ =>
    refine ⟨flag_of_flagIs hf, ?_⟩
    have := (FlagsOk_handler_append c.site e [] (ok && !(Ev.call c (.raise_ e)).raises)).mpr trivial
    rwa [List.append_nil] at this
  | step ok c a tl hf _ _ ih =>
    refine ⟨flag_of_flagIs hf, ?_⟩
    cases a with
    | ret => exact ih
    | complete => exact ih
    | raise_ e => exact (FlagsOk_handler_append _ _ _ _).mpr ih

theorem respLoop_flags (cs : List (Nat × Comp)) (hasRes : Bool) (order : List Nat) (succ : Bool) (st : Status) :
    FlagsOk succ (respLoop cs order hasRes succ st).1 := (respLoop_good cs hasRes order succ st).1.flags

theorem run_flags (cfg : Cfg) : FlagsOk true (run cfg).1 := (run_good cfg).1.flags

theorem FlagsOk_at (t : List Ev) : ∀ (ok : Bool) (k : Nat) (i : Nat) (h s : Bool) (a : Act), FlagsOk ok t →
    t[k]? = some (.call (.resp i h s) a) → s = (ok && (t.take k).all (fun ev => !ev.raises)) := by
  induction t with
  | nil => intro _ _ _ _ _ _ _ he; simp at he
  | cons ev rest ih =>
    intro ok k i h s a hf he
    cases k with
    | zero =>
      rw [List.getElem?_cons_zero, Option.some.injEq] at he
      rw [hf.1 i h s a he, List.take_zero, List.all_nil, Bool.and_true]
    | succ k =>
      rw [List.getElem?_cons_succ] at he
      rw [ih _ k i h s a hf.2 he, List.take_succ_cons, List.all_cons, Bool.and_assoc]

/-- **the success flag is true exactly when nothing raised**: whatever position a `process_response` call has in the trace,
    its `req_succeeded` argument is true iff no call before it raised — no request / resource method, not the responder
    (the application's or falcon's 404/405 one), no earlier `process_response` — handled or not -/
theorem succeeded_iff_nothing_raised (cfg : Cfg) (k i : Nat) (h s : Bool) (a : Act)
    (he : (run cfg).1[k]? = some (.call (.resp i h s) a)) :
    s = ((run cfg).1.take k).all (fun ev => !ev.raises) := by
  simpa using FlagsOk_at _ true k i h s a (run_flags cfg) he

def respActs (cs : List (Nat × Comp)) (order : List Nat) : List (Nat × Act) :=
  order.filterMap fun i => ((cs.find? (·.1 == i)).bind (·.2.resp)).map (i, ·)

theorem respActs_cons_none (cs : List (Nat × Comp)) (i : Nat) (rest : List Nat)
    (h : (cs.find? (·.1 == i)).bind (·.2.resp) = none) : respActs cs (i :: rest) = respActs cs rest := by
  unfold respActs; rw [List.filterMap_cons, h]; rfl

theorem respActs_cons_some (cs : List (Nat × Comp)) (i : Nat) (rest : List Nat) (a : Act)
    (h : (cs.find? (·.1 == i)).bind (·.2.resp) = some a) : respActs cs (i :: rest) = (i, a) :: respActs cs rest := by
  unfold respActs; rw [List.filterMap_cons, h]; rfl

theorem handle_filter_isResp (s : Site) (e : Exc) : (handle s e).1.filter Ev.isResp = [] := by
  rw [handle_once]; split <;> simp [Ev.isResp]

theorem block_filter_isCall (c : Call) (a : Act) (tl : List Ev) :
    (Ev.call c a :: (Ev.call c a).hEvents ++ tl).filter Ev.isCall = .call c a :: tl.filter Ev.isCall := by
  rw [List.cons_append, List.filter_cons_of_pos rfl, List.filter_append, hEvents_filter_isCall, List.nil_append]

theorem respLoop_call_at (cs : List (Nat × Comp)) (hasRes : Bool) :
    ∀ (order : List Nat) (succ : Bool) (st : Status) (k j : Nat) (a : Act),
    (respActs cs order)[k]? = some (j, a) →
    ((respActs cs order).take k).all (fun p => !p.2.escapes) = true →
    ((respLoop cs order hasRes succ st).1.filter Ev.isCall)[k]? =
      some (.call (.resp j hasRes (succ && ((respActs cs order).take k).all (fun p => !p.2.raises))) a) := by
  intro order
  induction order with
  | nil => intro succ st k j a hk; cases hk
  | cons i rest ih =>
    intro succ st k j a hk hno
    cases h : (cs.find? (·.1 == i)).bind (·.2.resp) with
    | none =>
      rw [respActs_cons_none cs i rest h] at hk hno ⊢
      rw [respLoop, h]
      exact ih succ st k j a hk hno
    | some b =>
      rw [respActs_cons_some cs i rest b h] at hk hno ⊢
      obtain ⟨st', hc⟩ := respLoop_cons cs hasRes i rest succ st b h
      rw [hc]
      cases k with
      | zero =>
        cases hk
        rw [List.take_zero, List.all_nil, Bool.and_true]
        split
        · rw [← List.append_nil (_ :: _), block_filter_isCall]; rfl
        · rw [block_filter_isCall]; rfl
      | succ k =>
        rw [List.take_succ_cons, List.all_cons, Bool.and_eq_true, Bool.not_eq_true'] at hno
        rw [if_neg (by rw [hno.1]; exact Bool.false_ne_true), block_filter_isCall, List.getElem?_cons_succ,
          ih _ st' k j a hk hno.2, List.take_succ_cons, List.all_cons, Bool.and_assoc]
theorem block_filter_isResp (i : Nat) (h s : Bool) (a : Act) (tl : List Ev) :
    (Ev.call (.resp i h s) a :: (Ev.call (.resp i h s) a).hEvents ++ tl).filter Ev.isResp =
      .call (.resp i h s) a :: tl.filter Ev.isResp := by
  have : (Ev.call (.resp i h s) a).hEvents.filter Ev.isResp = [] := by
    cases a with
    | raise_ e => exact handle_filter_isResp _ _
    | _ => rfl
  rw [List.cons_append, List.filter_cons_of_pos rfl, List.filter_append, this, List.nil_append]

theorem respLoop_filter (cs : List (Nat × Comp)) (hasRes : Bool) : ∀ (order : List Nat) (succ : Bool) (st : Status),
    (respLoop cs order hasRes succ st).1.filter Ev.isResp = (respLoop cs order hasRes succ st).1.filter Ev.isCall := by
  intro order
  induction order with
  | nil => intro succ st; rfl
  | cons i rest ih =>
    intro succ st
    cases h : (cs.find? (·.1 == i)).bind (·.2.resp) with
    | none => rw [respLoop, h]; exact ih succ st
    | some b =>
      obtain ⟨st', hc⟩ := respLoop_cons cs hasRes i rest succ st b h
      rw [hc]
      split
      · rw [← List.append_nil (_ :: _), block_filter_isResp, block_filter_isCall]; rfl
      · rw [block_filter_isResp, block_filter_isCall, ih]

theorem isResp_of_notRespCall (c : Call) (a : Act) (h : isRespCall c = false) : (Ev.call c a).isResp = false := by
  cases c <;> first | rfl | cases h

theorem filter_isResp_quiet : ∀ init : List Ev, init.all Ev.quiet = true → init.filter Ev.isResp = []
  | [], _ => rfl
  | .handler .. :: _, h => by cases h
  | .call c a :: rest, h => by
    rw [List.all_cons, Ev.quiet, Bool.and_eq_true, Bool.and_eq_true, Bool.not_eq_true'] at h
    rw [List.filter_cons_of_neg (by rw [isResp_of_notRespCall c a h.1.1]; exact Bool.false_ne_true)]
    exact filter_isResp_quiet rest h.2

/-- **the `k`-th method of the response stack is called whatever the earlier ones did, short of letting an exception
    escape**: if the exception (if any) that ended the request/resource/responder phase was handled and none of the first
    `k` `process_response` methods raises an error that escapes, then the `k`-th one is called, with `req_succeeded` true iff
    nothing raised before it -/
theorem resp_call_at (cfg : Cfg) (k j : Nat) (a : Act)
    (hx : ∀ c e, (tries cfg).2.1 = some (c, e) → e.escapes = false)
    (hk : (respActs (enum cfg.comps) (tries cfg).2.2.2)[k]? = some (j, a))
    (hno : ((respActs (enum cfg.comps) (tries cfg).2.2.2).take k).all (fun p => !p.2.escapes) = true) :
    ((run cfg).1.filter Ev.isResp)[k]? =
      some (.call (.resp j (tries cfg).2.2.1
        (!(tries cfg).2.1.isSome && ((respActs (enum cfg.comps) (tries cfg).2.2.2).take k).all (fun p => !p.2.raises))) a) := by
  obtain ⟨init, q, h⟩ := run_decomp cfg
  have hq := filter_isResp_quiet init q
  cases hx' : (tries cfg).2.1 with
  | none =>
    rw [hx'] at h; simp only at h
    rw [h]
    simp only [List.filter_append, hq, List.nil_append, respLoop_filter, Option.isSome_none, Bool.not_false]
    exact respLoop_call_at _ _ _ true .ok k j a hk hno
  | some ce =>
    obtain ⟨c, e⟩ := ce
    rw [hx'] at h; simp only at h
    obtain ⟨hc, st, h⟩ := h
    rw [h, hx c e hx', if_neg Bool.false_ne_true]
    have := respLoop_call_at (enum cfg.comps) (tries cfg).2.2.1 _ false st k j a hk hno
    simp only [List.filter_append, hq, List.nil_append, respLoop_filter, List.filter_cons, isResp_of_notRespCall c _ hc,
      Bool.false_eq_true, if_false, handle_filter_isResp, Option.isSome_some, Bool.not_true]
    exact this

/-- **a handled raise does not end the response phase**: if the `k`-th `process_response` raises an error that is handled
    (its handler exists and raises at most HTTPError/HTTPStatus), the next method of the stack is called all the same,
    with `req_succeeded = False` -/
theorem handled_raise_continues_response_phase (cfg : Cfg) (k j j' : Nat) (e : Exc) (a' : Act)
    (hx : ∀ c e, (tries cfg).2.1 = some (c, e) → e.escapes = false)
    (hk : (respActs (enum cfg.comps) (tries cfg).2.2.2)[k]? = some (j, .raise_ e)) (he : e.escapes = false)
    (hk' : (respActs (enum cfg.comps) (tries cfg).2.2.2)[k + 1]? = some (j', a'))
    (hno : ((respActs (enum cfg.comps) (tries cfg).2.2.2).take k).all (fun p => !p.2.escapes) = true) :
    ((run cfg).1.filter Ev.isResp)[k + 1]? = some (.call (.resp j' (tries cfg).2.2.1 false) a') := by
  have hno' : ((respActs (enum cfg.comps) (tries cfg).2.2.2).take (k + 1)).all (fun p => !p.2.escapes) = true := by
    rw [List.take_add_one, hk, List.all_append, hno]; simp [Act.escapes, he]
  have := resp_call_at cfg (k + 1) j' a' hx hk' hno'
  rw [this, List.take_add_one, hk, List.all_append]
  simp [Act.raises]

-- `handled_raise_continues_response_phase` applies: stack [2, 1, 0]; the second method raises, its handler raises HTTPStatus
example : ((run { comps := [⟨some .ret, none, some .ret⟩, ⟨some .ret, some .ret, some (.raiseApp .raisesStatus)⟩, ⟨none, none, some .ret⟩],
                  independent := true, target := .route, responder := .raiseHttp }).1.filter Ev.isResp)[2]?
    = some (.call (.resp 0 true false) .ret) :=
  handled_raise_continues_response_phase _ 1 1 0 (.app .raisesStatus) .ret
    (by intro c e h
        have : (tries { comps := [⟨some .ret, none, some .ret⟩, ⟨some .ret, some .ret, some (.raiseApp .raisesStatus)⟩, ⟨none, none, some .ret⟩],
                        independent := true, target := .route, responder := .raiseHttp }).2.1 = some (.responder, .http .app) := by decide
        rw [this] at h; injection h with h; injection h with _ h; subst h; rfl)
    (by decide) rfl (by decide) (by decide)

theorem respLoop_labelled (cfg : Cfg) (cs : List (Nat × Comp)) (hs : Sub cfg cs) (hasRes : Bool) :
    ∀ (order : List Nat) (succ : Bool) (st : Status), Labelled cfg (respLoop cs order hasRes succ st).1 := by
  intro order
  induction order with
  | nil => intro succ st; exact Labelled_nil cfg
  | cons i rest ih =>
    intro succ st
    cases h : (cs.find? (·.1 == i)).bind (·.2.resp) with
    | none => rw [respLoop, h]; exact ih succ st
    | some b =>
      have hl : Labelled cfg [.call (.resp i hasRes succ) b] := by
        apply Labelled_single
        obtain ⟨p, hf, hb⟩ := Option.bind_eq_some_iff.mp h
        have hp : p.1 = i := by simpa using List.find?_some hf
        rw [actAt, ← hp, hs p (List.mem_of_find?_eq_some hf)]
        exact hb
      have hh : Labelled cfg (Ev.call (.resp i hasRes succ) b).hEvents := by
        cases b with
        | raise_ e => exact Labelled_handle cfg _ _
        | _ => exact Labelled_nil cfg
      obtain ⟨st', hc⟩ := respLoop_cons cs hasRes i rest succ st b h
      rw [hc]
      split
      · exact Labelled_append hl hh
      · exact Labelled_append (Labelled_append hl hh) (ih _ st')

/-- **the label of every call in the trace is the action the configuration assigns to the method called** (component `i`'s
    `process_request` / `process_resource` / `process_response`, the application's responder when a route or sink matched,
    falcon's 405 / 404 responder otherwise) -/
theorem labels_correct (cfg : Cfg) (c : Call) (a : Act) (h : Ev.call c a ∈ (run cfg).1) : actAt cfg c = some a := by
  have ht := (tries_shape cfg).2
  revert c a
  show Labelled cfg (run cfg).1
  unfold run
  rcases htr : tries cfg with ⟨pre, x, hasRes, order⟩
  rw [htr] at ht
  simp only at ht ⊢
  cases x with
  | none => exact Labelled_append ht (respLoop_labelled cfg _ (enum_sub cfg) _ _ _ _)
  | some ce =>
    obtain ⟨c, e⟩ := ce
    have hh' := Labelled_handle cfg c.site e
    simp only [exceptClause]
    rcases hh : handle c.site e with ⟨hd, _ | st⟩
    · rw [hh] at hh'; exact Labelled_append ht hh'
    · rw [hh] at hh'; exact Labelled_append (Labelled_append ht hh') (respLoop_labelled cfg _ (enum_sub cfg) _ _ _ _)

/-- no method of the configuration raises an error that has no handler or whose handler raises a plain exception -/
def Benign (cfg : Cfg) : Prop :=
  (∀ c ∈ cfg.comps, ∀ a, c.req = some a ∨ c.rsrc = some a ∨ c.resp = some a → a.escapes = false) ∧
  cfg.responder.escapes = false

theorem benign_not_escaped (cfg : Cfg) (hb : Benign cfg) : (run cfg).2 ≠ .escaped := by
  intro hesc
  obtain ⟨c, e, hm, he⟩ := (escape_iff cfg).mp hesc
  have hl := labels_correct cfg c _ hm
  have hne : (Act.raise_ e).escapes = false := by
    cases c with
    | req i =>
      obtain ⟨comp, hc, h⟩ := Option.bind_eq_some_iff.mp hl
      exact hb.1 comp (List.mem_of_getElem? hc) _ (.inl h)
    | rsrc i =>
      obtain ⟨comp, hc, h⟩ := Option.bind_eq_some_iff.mp hl
      exact hb.1 comp (List.mem_of_getElem? hc) _ (.inr (.inl h))
    | resp i _ _ =>
      obtain ⟨comp, hc, h⟩ := Option.bind_eq_some_iff.mp hl
      exact hb.1 comp (List.mem_of_getElem? hc) _ (.inr (.inr h))
    | responder =>
      rw [actAt] at hl
      split at hl
      · injection hl with hl
        exact hl ▸ hb.2
      · cases hl
    | defaultResponder =>
      rw [actAt] at hl
      split at hl
      · cases hl; rfl
      · cases hl; rfl
      · cases hl
  cases (Exc.escapes_iff.mpr he).symm.trans hne

/-- **`run_refines_Pl` for the configurations `Pl.run` was written for**: if every raise in the configuration is one that
    "some registered handler takes" (the handler exists and does not raise a plain exception), the calls made are exactly
    `Pl.run` — hence `Pl.run_eq_spec` and every theorem about `Pl.run` describe them — and a response is produced -/
theorem run_refines_Pl_of_benign (cfg : Cfg) (hb : Benign cfg) :
    proj (run cfg).1 = Pl.run (absCfg cfg) ∧ ∃ st, (run cfg).2 = .responded st := by
  have hne := benign_not_escaped cfg hb
  refine ⟨run_refines_Pl cfg hne, ?_⟩
  cases ho : (run cfg).2 with
  | escaped => exact absurd ho hne
  | responded st => exact ⟨st, rfl⟩

-- three components, independent mode; the responder raises an HTTPError (handled by falcon's own handler); the last
-- component's process_response raises an application error whose handler raises HTTPStatus: the loop goes on, flag false
example : run { comps := [⟨some .ret, none, some .ret⟩, ⟨some .ret, some .ret, some (.raiseApp .raisesStatus)⟩, ⟨none, none, some .ret⟩],
                independent := true, target := .route, responder := .raiseHttp }
    = ([.call (.req 0) .ret, .call (.req 1) .ret, .call (.rsrc 1) .ret, .call .responder .raiseHttp, .handler .responder (.http .app),
        .call (.resp 2 true false) .ret, .call (.resp 1 true false) (.raiseApp .raisesStatus), .handler (.resp 1) (.app .raisesStatus),
        .call (.resp 0 true false) .ret], .responded .handlerStatus) := by decide +kernel
-- the same stack, but that handler raises a plain exception: the exception escapes, component 0 is not called
example : run { comps := [⟨some .ret, none, some .ret⟩, ⟨some .ret, some .ret, some (.raiseApp .raisesPlain)⟩, ⟨none, none, some .ret⟩],
                independent := true, target := .route, responder := .ret }
    = ([.call (.req 0) .ret, .call (.req 1) .ret, .call (.rsrc 1) .ret, .call .responder .ret,
        .call (.resp 2 true true) .ret, .call (.resp 1 true true) (.raiseApp .raisesPlain), .handler (.resp 1) (.app .raisesPlain)],
       .escaped) := by decide +kernel
-- dependent mode, no route: falcon's 404 responder raises, `_http_error_handler` takes it
example : run { comps := [⟨some .ret, none, some .ret⟩], independent := false, target := .nothing, responder := .ret }
    = ([.call (.req 0) .ret, .call .defaultResponder (.raise_ (.http .notFound)), .handler .defaultResponder (.http .notFound),
        .call (.resp 0 false false) .ret], .responded (.http .notFound)) := by decide +kernel
-- an error nothing is registered for, raised by a process_request: no handler event, nothing further
example : run { comps := [⟨some .ret, none, some .ret⟩, ⟨some (.raiseApp .none), none, some .ret⟩], independent := true,
                target := .route, responder := .ret }
    = ([.call (.req 0) .ret, .call (.req 1) (.raiseApp .none)], .escaped) := by decide +kernel
example : Benign { comps := [⟨some .ret, none, some (.raiseApp .raisesHttp)⟩, ⟨some .raiseStatus, none, some .complete⟩],
                   independent := false, target := .sink, responder := .raiseApp .default } := by
  refine ⟨?_, rfl⟩
  intro c hc a ha
  simp only [List.mem_cons, List.not_mem_nil, or_false] at hc
  rcases hc with rfl | rfl <;> rcases ha with h | h | h <;> simp at h <;> subst h <;> rfl

/-! ### link to the C04 model of `_handle_exception` (`Eh.handle`): same verdict on "does the exception leave `__call__`" -/

/-- the behaviour (in the vocabulary of `Eh`) of the handler found for `e`; `none`: no handler is found.  The statuses and bodies
    (418, 409, 299, no text / data / media) are arbitrary: `handle_agrees_Eh` compares only whether the result is `none` -/
def behOf : Exc → Option Eh.Beh
  | .http _ => some .defaultHttp
  | .status => some .defaultStatus
  | .app .sets => some (.sets (some 418) none none none)
  | .app .default => some .defaultException
  | .app .raisesHttp => some (.raisesHttp 409)
  | .app .raisesStatus => some (.raisesStatus 299)
  | .app .raisesPlain => some .raisesOther
  | .app .none => none

theorem handle_agrees_Eh (s : Site) (e : Exc) (reg : Eh.Reg) (beh : Eh.Handler → Eh.Beh) (mro : List Eh.Cls) (rs : Nat) (r : Eh.Resp)
    (hfind : match behOf e with
             | none => Eh.find reg mro = none
             | some b => ∃ h, Eh.find reg mro = some h ∧ beh h = b) :
    (Eh.handle reg beh mro rs r = none ↔ (handle s e).2 = none) := by
  unfold Eh.handle
  cases e with
  | http c => obtain ⟨h, h1, h2⟩ := hfind; simp [h1, h2, handle]
  | status => obtain ⟨h, h1, h2⟩ := hfind; simp [h1, h2, handle]
  | app hb =>
    cases hb with
    | none => simp only [behOf] at hfind; simp [hfind, handle]
    | sets => obtain ⟨h, h1, h2⟩ := hfind; simp [h1, h2, handle]
    | default => obtain ⟨h, h1, h2⟩ := hfind; simp [h1, h2, handle]
    | raisesHttp => obtain ⟨h, h1, h2⟩ := hfind; simp [h1, h2, handle]
    | raisesStatus => obtain ⟨h, h1, h2⟩ := hfind; simp [h1, h2, handle]
    | raisesPlain => obtain ⟨h, h1, h2⟩ := hfind; simp [h1, h2, handle]

end Pe
