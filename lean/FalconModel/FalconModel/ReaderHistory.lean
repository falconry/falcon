import FalconModel.RULoop
/-! C14: `history_refines_cursor` for the sync reader (with the F21 repair of `_read`): any history of `_read(n)` and
    `_read_until(delimiter, n)` calls returns, call by call, what a flat cursor over the same text returns. -/
namespace Rd
variable {σ : Type} [Source σ] [LawfulSource σ]

inductive ROp where
  | read (n : Nat)                         -- `_read(n)`
  | readUntil (d : Bytes) (n : Nat)        -- `_read_until(d, n, consume_delimiter=False)`

/-- the flat cursor -/
def specStep (A : Bytes) : ROp → Bytes × Bytes
  | .read n => (A.take n, A.drop n)
  | .readUntil d n => (A.take (stopAt d A n), A.drop (stopAt d A n))

def specRun : Bytes → List ROp → List Bytes × Bytes
  | A, [] => ([], A)
  | A, op :: rest =>
    let (o, A1) := specStep A op
    let (os, A2) := specRun A1 rest
    (o :: os, A2)

/-- the implementation -/
def implStep (r : R σ) : ROp → Res × R σ
  | .read n => let (o, r') := read' r n; (.ok o, r')
  | .readUntil d n => readUntil' r d n false

def implRun : R σ → List ROp → List Res × R σ
  | r, [] => ([], r)
  | r, op :: rest =>
    let (o, r1) := implStep r op
    let (os, r2) := implRun r1 rest
    (o :: os, r2)

/-- delimiters are non-empty and no longer than the chunk size (what `_read_until` itself demands) -/
def okOp (chunk : Int) : ROp → Prop
  | .read _ => True
  | .readUntil d _ => d ≠ [] ∧ (d.length : Int) ≤ chunk

theorem implStep_refines (r : R σ) (op : ROp) (hinv : Inv r) (hpl : r.pos ≤ r.len) (hok : okOp r.chunk op) :
    (implStep r op).1 = .ok (specStep (abs r) op).1 ∧ abs (implStep r op).2 = (specStep (abs r) op).2 ∧
    Inv (implStep r op).2 ∧ (implStep r op).2.pos ≤ (implStep r op).2.len ∧ (implStep r op).2.chunk = r.chunk := by
  cases op with
  | read n =>
    obtain ⟨o1, o2, o3, o4⟩ := read'_spec r n hinv hpl (Int.natCast_nonneg n)
    rw [Int.toNat_natCast] at o1 o2
    exact ⟨congrArg Res.ok o1, o2, o3, o4, read'_chunk r n⟩
  | readUntil d n =>
    obtain ⟨r', e1, e2, e3, e4, e5⟩ := readUntil'_refines r d n hinv hpl (Int.natCast_nonneg n) hok.1 hok.2
    rw [Int.toNat_natCast] at e1 e2
    simp only [implStep, specStep, e1]
    exact ⟨trivial, e2, e3, e4, e5⟩

/-- **C14 `history_refines_cursor` (sync reader)** -/
theorem history_refines_cursor (ops : List ROp) : ∀ (r : R σ), Inv r → r.pos ≤ r.len →
    (∀ op ∈ ops, okOp r.chunk op) →
    (implRun r ops).1 = (specRun (abs r) ops).1.map .ok ∧ abs (implRun r ops).2 = (specRun (abs r) ops).2 ∧
    Inv (implRun r ops).2 ∧ (implRun r ops).2.pos ≤ (implRun r ops).2.len := by
  induction ops with
  | nil => intro r hinv hpl _; exact ⟨rfl, rfl, hinv, hpl⟩
  | cons op rest ih =>
    intro r hinv hpl hok
    obtain ⟨s1, s2, s3, s4, s5⟩ := implStep_refines r op hinv hpl (hok op List.mem_cons_self)
    obtain ⟨t1, t2, t3, t4⟩ := ih _ s3 s4 fun op' h' => s5 ▸ hok op' (List.mem_cons_of_mem _ h')
    rw [s2] at t1 t2
    exact ⟨congr (congrArg List.cons s1) t1, t2, t3, t4⟩

#print axioms history_refines_cursor
end Rd
