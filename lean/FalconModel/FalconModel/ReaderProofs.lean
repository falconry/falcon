import FalconModel.Reader
/-! `_perform_read` and `_read` of the sync reader (falcon/util/reader.py) against the flat cursor. What the reader assumes of
    its `read` callable is the class `LawfulSource`; `avail r` is what the source may still deliver within the declared length and
    `abs r` (unread buffer ++ `avail r`) what a flat cursor would still return. `_perform_read` is its retry loop entered with
    nothing read (`performRead_eq_loop`), so one lemma about the loop (`performReadLoop_full`) gives `performRead_spec`: how the
    source chunks the data, and how short its reads are, is invisible. `read'_spec` is the refinement statement for `_read`. -/
namespace Rd

theorem pyIdx_nonneg (n : Nat) (i : Int) (h : 0 ≤ i) : pyIdx n i = min i.toNat n := by
  unfold pyIdx
  rw [if_neg (Int.not_lt.mpr h)]
  split <;> omega

theorem sliceFrom_nonneg (b : Bytes) (i : Int) (h : 0 ≤ i) : sliceFrom b i = b.drop i.toNat := by
  rw [sliceFrom, pyIdx_nonneg _ _ h]
  exact List.drop_eq_drop_iff.mpr (by rw [Nat.min_assoc, Nat.min_self])

theorem sliceTo_nonneg (b : Bytes) (j : Int) (h : 0 ≤ j) : sliceTo b j = b.take j.toNat := by
  rw [sliceTo, pyIdx_nonneg _ _ h]
  exact List.take_eq_take_iff.mpr (by rw [Nat.min_assoc, Nat.min_self])

theorem slice_nonneg (b : Bytes) (i j : Int) (hi : 0 ≤ i) (hij : i ≤ j) :
    slice b i j = (b.drop i.toNat).take (j.toNat - i.toNat) := by
  have hac : i.toNat ≤ j.toNat := Int.toNat_le_toNat hij
  unfold slice
  dsimp only
  rw [pyIdx_nonneg _ _ hi, pyIdx_nonneg _ _ (Int.le_trans hi hij)]
  generalize i.toNat = a, j.toNat = c at hac ⊢
  have e : b.drop (min a b.length) = b.drop a := List.drop_eq_drop_iff.mpr (by rw [Nat.min_assoc, Nat.min_self])
  rw [e]
  rcases Nat.le_total c b.length with h | h
  · rw [Nat.min_eq_left h, Nat.min_eq_left (Nat.le_trans hac h)]
  · rw [Nat.min_eq_right h, List.take_of_length_le, List.take_of_length_le]
    · rw [List.length_drop]; exact Nat.sub_le_sub_right h a
    · rw [List.length_drop]; exact Nat.sub_le_sub_left (Nat.min_le_left a _) _

theorem drop_take_append_drop (l : Bytes) (k c : Nat) (h : k ≤ c) :
    (l.take c).drop k ++ l.drop c = l.drop k := by
  have e : l.drop c = (l.drop k).drop (c - k) := by rw [List.drop_drop, Nat.add_sub_of_le h]
  rw [List.drop_take, e, List.take_append_drop]

theorem toNat_min (a b : Int) : (min a b).toNat = min a.toNat b.toNat := by
  rcases Int.le_total a b with h | h
  · rw [Int.min_eq_left h, Nat.min_eq_left (Int.toNat_le_toNat h)]
  · rw [Int.min_eq_right h, Nat.min_eq_right (Int.toNat_le_toNat h)]

theorem take_take_length {α : Type} (l : List α) (R W : Nat) :
    (l.take R).take W = l.take (min W (l.take R).length) := by
  rw [List.take_take, List.length_take]
  exact List.take_eq_take_iff.mpr (by simp only [Nat.min_assoc, Nat.min_self])

/-! What `_perform_read` and `_read` leave alone holds for any `read` callable. -/
section
variable {σ : Type} [Source σ]

theorem performRead_nonpos (r : R σ) (size : Int) (h : min size r.rem ≤ 0) : performRead r size = ([], r) := by
  unfold performRead; exact if_pos h

theorem performRead_eq_loop (r : R σ) (size : Int) (W : Nat) (hW : min size r.rem = W) (h : 0 < W) :
    performRead r size = performReadLoop (W + 1) W [] 0 r := by
  have hn : ¬ (W : Int) ≤ 0 := by omega
  have h0 : ((W : Int) == 0) = false := beq_false_of_ne (by omega)
  obtain ⟨n, rfl⟩ : ∃ n, W = n + 1 := ⟨W - 1, by omega⟩
  unfold performRead
  rw [performReadLoop, hW]
  simp only [Int.sub_zero, hn, if_false, List.nil_append, Int.toNat_natCast]
  split
  · rename_i hfull
    rw [performReadLoop, eq_of_beq hfull]
    simp only [Int.sub_self, Int.le_refl, if_true, h0, Bool.false_eq_true, if_false]
  · split <;> rfl

theorem performReadLoop_frame : ∀ (fuel : Nat) (size : Int) (result : Bytes) (cl : Int) (r : R σ),
    (performReadLoop fuel size result cl r).2.buf = r.buf ∧ (performReadLoop fuel size result cl r).2.pos = r.pos ∧
    (performReadLoop fuel size result cl r).2.len = r.len ∧ (performReadLoop fuel size result cl r).2.chunk = r.chunk := by
  intro fuel
  induction fuel with
  | zero => intro _ _ _ r; exact ⟨rfl, rfl, rfl, rfl⟩
  | succ n ih =>
    intro size result cl r
    rw [performReadLoop]
    split
    · exact ⟨rfl, rfl, rfl, rfl⟩
    · dsimp only
      split
      · exact ⟨rfl, rfl, rfl, rfl⟩
      · exact ih _ _ _ _

theorem performRead_frame (r : R σ) (size : Int) :
    (performRead r size).2.buf = r.buf ∧ (performRead r size).2.pos = r.pos ∧
    (performRead r size).2.len = r.len ∧ (performRead r size).2.chunk = r.chunk := by
  by_cases h : 0 < min size r.rem
  · obtain ⟨W, hW⟩ := Int.eq_ofNat_of_zero_le (Int.le_of_lt h)
    rw [performRead_eq_loop r size W hW (by omega)]; exact performReadLoop_frame _ _ _ _ _
  · rw [performRead_nonpos r size (Int.not_lt.mp h)]; exact ⟨rfl, rfl, rfl, rfl⟩

theorem read'_chunk (r : R σ) (size : Int) : (read' r size).2.chunk = r.chunk := by
  unfold read'
  split
  · split <;> rfl
  · split
    · exact (performRead_frame r size).2.2.2
    · dsimp only
      split
      · exact (performRead_frame _ _).2.2.2
      · exact (performRead_frame _ _).2.2.2

end

def capOf (sh : List Nat) (n : Nat) : Nat :=
  match sh with | [] => n | c :: _ => if c == 0 then n else min c n

def Src.readLen (s : Src) (size : Int) : Nat := min (capOf s.shorts size.toNat) s.data.length

theorem Src.read_fst (s : Src) (size : Int) : (s.read size).1 = s.data.take (s.readLen size) := by
  simp only [Src.read, Src.readLen, capOf]
  cases s.shorts <;> rfl

theorem Src.read_snd_data (s : Src) (size : Int) : (s.read size).2.data = s.data.drop (s.readLen size) := by
  simp only [Src.read, Src.readLen, capOf]
  cases s.shorts <;> rfl

theorem capOf_le (sh : List Nat) (n : Nat) : capOf sh n ≤ n := by
  unfold capOf; split
  · omega
  · split <;> omega

theorem capOf_pos (sh : List Nat) (n : Nat) (h : 0 < n) : 0 < capOf sh n := by
  unfold capOf; split
  · exact h
  · split
    · exact h
    · rename_i c _ hc
      have : c ≠ 0 := fun e => hc (by rw [e]; rfl)
      omega

theorem Src.readLen_le_size (s : Src) (size : Int) (h : 0 ≤ size) : (s.readLen size : Int) ≤ size := by
  have := capOf_le s.shorts size.toNat
  unfold Src.readLen; omega

theorem Src.readLen_le_data (s : Src) (size : Int) : s.readLen size ≤ s.data.length := Nat.min_le_right _ _

theorem Src.readLen_pos (s : Src) (size : Int) (h : 0 < size) (hd : s.data ≠ []) : 0 < s.readLen size := by
  have h1 := capOf_pos s.shorts size.toNat (by omega)
  have h2 : 0 < s.data.length := List.length_pos_iff.mpr hd
  unfold Src.readLen; omega

/-- The contract `BufferedReader` assumes of its `read` callable, as laws about an abstract "text still to come":
    a read returns a prefix of it, of at most the requested length, non-empty unless the text is finished (or nothing
    was requested), and the source advances by exactly what it returned. Nothing is assumed about *how much* comes
    back, so the proofs hold for every chunking and every pattern of short reads. -/
class LawfulSource (σ : Type) [Source σ] where
  data : σ → Bytes
  readLen : σ → Int → Nat
  read_fst : ∀ (s : σ) (size : Int), (Source.read s size).1 = (data s).take (readLen s size)
  read_snd_data : ∀ (s : σ) (size : Int), data (Source.read s size).2 = (data s).drop (readLen s size)
  readLen_le_size : ∀ (s : σ) (size : Int), 0 ≤ size → (readLen s size : Int) ≤ size
  readLen_le_data : ∀ (s : σ) (size : Int), readLen s size ≤ (data s).length
  readLen_pos : ∀ (s : σ) (size : Int), 0 < size → data s ≠ [] → 0 < readLen s size
  bound_ge : ∀ (s : σ), (data s).length ≤ Source.bound s

instance : LawfulSource Src where
  data := Src.data
  readLen := Src.readLen
  read_fst := Src.read_fst
  read_snd_data := Src.read_snd_data
  readLen_le_size := Src.readLen_le_size
  readLen_le_data := Src.readLen_le_data
  readLen_pos := Src.readLen_pos
  bound_ge := fun _ => Nat.le_refl _

variable {σ : Type} [Source σ] [LawfulSource σ]
open LawfulSource (data readLen)

def avail (r : R σ) : Bytes := (data r.src).take r.rem.toNat

theorem avail_length (r : R σ) : (avail r).length = min r.rem.toNat (data r.src).length := List.length_take

theorem avail_congr (r r' : R σ) (h1 : r'.src = r.src) (h2 : r'.rem = r.rem) : avail r' = avail r := by
  unfold avail; rw [h1, h2]

theorem read_avail (r : R σ) (s : Int) (hs : 0 < s) (hr : s ≤ r.rem) :
    (Source.read r.src s).1 = (avail r).take (readLen r.src s) ∧
    (Source.read r.src s).1.length = readLen r.src s ∧
    (readLen r.src s : Int) ≤ s ∧ readLen r.src s ≤ (avail r).length ∧
    (readLen r.src s = 0 → data r.src = []) ∧
    (data (Source.read r.src s).2).take (r.rem - readLen r.src s).toNat = (avail r).drop (readLen r.src s) := by
  have h1 := LawfulSource.readLen_le_size r.src s (Int.le_of_lt hs)
  have h2 := LawfulSource.readLen_le_data r.src s
  have h3 : readLen r.src s ≤ r.rem.toNat := by omega
  refine ⟨?_, ?_, h1, ?_, ?_, ?_⟩
  · rw [LawfulSource.read_fst, avail, List.take_take, Nat.min_eq_left h3]
  · rw [LawfulSource.read_fst, List.length_take, Nat.min_eq_left h2]
  · rw [avail_length]; exact Nat.le_min.mpr ⟨h3, h2⟩
  · intro hz
    cases hd : data r.src with
    | nil => rfl
    | cons a t =>
      have := LawfulSource.readLen_pos r.src s hs (by rw [hd]; exact List.cons_ne_nil a t)
      omega
  · rw [LawfulSource.read_snd_data, avail, List.drop_take]
    congr 1
    omega

/-- the short-read loop of `_perform_read` with `W` bytes still wanted -/
theorem performReadLoop_full :
    ∀ (fuel : Nat) (size : Int) (result : Bytes) (cl : Int) (r : R σ) (out : Bytes) (r' : R σ) (W : Nat),
      performReadLoop fuel size result cl r = (out, r') → size - cl = W → W ≤ fuel → (W : Int) ≤ r.rem →
      out = result ++ (avail r).take W ∧ avail r' = (avail r).drop W ∧
      data r'.src = (data r.src).drop (min W (avail r).length) ∧ 0 ≤ r'.rem ∧
      r'.rem ≤ r.rem - min W (avail r).length ∧ ((avail r).length < W → r'.rem = 0) := by
  intro fuel
  induction fuel with
  | zero =>
    intro size result cl r out r' W h hW hf hr
    obtain ⟨rfl, rfl⟩ := Prod.mk.inj h
    obtain rfl : W = 0 := Nat.le_zero.mp hf
    exact ⟨by simp, rfl, rfl, hr, by simp, fun h => absurd h (Nat.not_lt_zero _)⟩
  | succ n ih =>
    intro size result cl r out r' W h hW hf hr
    rw [performReadLoop, hW] at h
    split at h
    · obtain ⟨rfl, rfl⟩ := Prod.mk.inj h
      obtain rfl : W = 0 := by omega
      exact ⟨by simp, rfl, rfl, hr, by simp, fun h => absurd h (Nat.not_lt_zero _)⟩
    · rename_i hpos
      obtain ⟨a1, a2, a3, a4, a5, a6⟩ := read_avail r W (by omega) hr
      have asrc := LawfulSource.read_snd_data r.src W
      dsimp only at h
      rw [a2] at h
      generalize readLen r.src W = k at *
      split at h
      · rename_i hz
        obtain ⟨rfl, rfl⟩ := Prod.mk.inj h
        obtain rfl : k = 0 := by simpa using hz
        have hL : avail r = [] := by rw [avail, a5 rfl, List.take_nil]
        rw [hL]
        exact ⟨by simp, by simp [avail], by simpa using asrc, Int.le_refl 0, by simp; omega, fun _ => rfl⟩
      · rename_i hz
        have hk : 0 < k := Nat.pos_of_ne_zero fun e => hz (by rw [e]; rfl)
        have hkW : k ≤ W := Int.ofNat_le.mp a3
        have hWk : k + (W - k) = W := Nat.add_sub_of_le hkW
        obtain ⟨b1, b2, b3, b4, b5, b6⟩ := ih _ _ _ _ out r' (W - k) h (Int.natCast_sub hkW).symm (by omega)
          (by rw [Int.natCast_sub hkW]; exact Int.sub_le_sub_right hr _)
        rw [show avail { r with src := (Source.read r.src W).2, rem := r.rem - k } = (avail r).drop k from a6] at b1 b2 b3 b5 b6
        rw [List.length_drop] at b3 b5 b6
        dsimp only at b3 b5
        have key : k + min (W - k) ((avail r).length - k) = min W (avail r).length := by omega
        refine ⟨?_, ?_, ?_, b4, ?_, fun hlt => b6 (by omega)⟩
        · rw [b1, a1, List.append_assoc, ← List.take_add, hWk]
        · rw [b2, List.drop_drop, hWk]
        · rw [b3, asrc, List.drop_drop, key]
        · rw [← key, Int.natCast_add]; omega

#print axioms performReadLoop_full

theorem performReadLoop_spec :
    ∀ (fuel : Nat) (size : Int) (result : Bytes) (cl : Int) (r : R σ) (out : Bytes) (r' : R σ),
      performReadLoop fuel size result cl r = (out, r') →
      0 ≤ cl → cl ≤ size → (size - cl).toNat ≤ fuel → size - cl ≤ r.rem →
      ∃ k : Nat, out = result ++ (data r.src).take k ∧ data r'.src = (data r.src).drop k ∧
        (k : Int) ≤ size - cl := by
  intro fuel size result cl r out r' h _ h1 h2 h3
  obtain ⟨W, hW⟩ := Int.eq_ofNat_of_zero_le (Int.sub_nonneg.mpr h1)
  rw [hW] at h2 h3 ⊢
  obtain ⟨b1, _, b3, _⟩ := performReadLoop_full fuel size result cl r out r' W h hW h2 h3
  exact ⟨min W (avail r).length, by rw [b1, avail, take_take_length], b3, Int.ofNat_le.mpr (Nat.min_le_left _ _)⟩

#print axioms performReadLoop_spec

theorem avail_length_le_rem (r : R σ) (h : 0 ≤ r.rem) : ((avail r).length : Int) ≤ r.rem := by
  rw [avail_length]; omega

/-- `_perform_read(size)`: returns exactly the next `min size |avail|` declared bytes, for every short-read oracle -/
theorem performRead_spec (r : R σ) (size : Int) (out : Bytes) (r' : R σ) (hrem : 0 ≤ r.rem)
    (h : performRead r size = (out, r')) :
    out = (avail r).take size.toNat ∧ avail r' = (avail r).drop size.toNat ∧ 0 ≤ r'.rem ∧
      r'.buf = r.buf ∧ r'.pos = r.pos ∧ r'.len = r.len ∧ r'.chunk = r.chunk ∧
      ((out.length : Int) < min size r.rem → r'.rem = 0) ∧ r'.rem ≤ r.rem - out.length := by
  suffices hk : out = (avail r).take size.toNat ∧ avail r' = (avail r).drop size.toNat ∧ 0 ≤ r'.rem ∧
      ((out.length : Int) < min size r.rem → r'.rem = 0) ∧ r'.rem ≤ r.rem - out.length by
    obtain ⟨f1, f2, f3, f4⟩ := performRead_frame r size
    rw [h] at f1 f2 f3 f4
    exact ⟨hk.1, hk.2.1, hk.2.2.1, f1, f2, f3, f4, hk.2.2.2⟩
  have hl := avail_length_le_rem r hrem
  by_cases hpos : 0 < min size r.rem
  · obtain ⟨W, hW⟩ := Int.eq_ofNat_of_zero_le (Int.le_of_lt hpos)
    have hs1 : (W : Int) ≤ size := hW ▸ Int.min_le_left _ _
    have hs2 : (W : Int) ≤ r.rem := hW ▸ Int.min_le_right _ _
    have hm : min W (avail r).length = min size.toNat (avail r).length := by
      rcases Int.le_total size r.rem with hle | hle
      · rw [← Int.toNat_natCast W, ← hW, Int.min_eq_left hle]
      · have hWr : (W : Int) = r.rem := by rw [← hW, Int.min_eq_right hle]
        have h1 : (avail r).length ≤ W := Int.ofNat_le.mp (hWr ▸ hl)
        rw [Nat.min_eq_right h1, Nat.min_eq_right (Nat.le_trans h1 (Int.le_toNat (Int.le_trans hrem hle) |>.mpr hs1))]
    rw [performRead_eq_loop r size W hW (by omega)] at h
    obtain ⟨b1, b2, _, b4, b5, b6⟩ := performReadLoop_full _ _ _ _ r out r' W h (Int.sub_zero _) (Nat.le_succ _) hs2
    rw [List.nil_append, List.take_eq_take_iff.mpr hm] at b1
    rw [List.drop_eq_drop_iff.mpr hm] at b2
    have hol : out.length = min W (avail r).length := by rw [b1, List.length_take, hm]
    rw [hW, hol]
    exact ⟨b1, b2, b4, fun hlt => b6 (by omega), b5⟩
  · rw [performRead_nonpos r size (Int.not_lt.mp hpos)] at h
    obtain ⟨rfl, rfl⟩ := Prod.mk.inj h
    have hz : min 0 (avail r).length = min size.toNat (avail r).length := by omega
    exact ⟨List.take_eq_take_iff.mpr hz, List.drop_eq_drop_iff.mpr hz, hrem,
      fun hlt => absurd hlt (by simp; omega), by simp⟩

#print axioms performRead_spec

structure Inv (r : R σ) : Prop where
  len_eq : r.len = r.buf.length
  pos_nonneg : 0 ≤ r.pos
  rem_nonneg : 0 ≤ r.rem
  chunk_pos : 0 < r.chunk
  pos_le : r.pos ≤ r.len ∨ r.rem = 0

def abs (r : R σ) : Bytes := sliceFrom r.buf r.pos ++ avail r

theorem abs_eq (r : R σ) (h : Inv r) (hpl : r.pos ≤ r.len) : abs r = r.buf.drop r.pos.toNat ++ avail r := by
  unfold abs; rw [sliceFrom_nonneg _ _ h.pos_nonneg]

theorem unread_length (r : R σ) (h : Inv r) (hpl : r.pos ≤ r.len) :
    ((r.buf.drop r.pos.toNat).length : Int) = r.len - r.pos := by
  have := h.len_eq; have := h.pos_nonneg
  rw [List.length_drop]; omega

theorem read'_fits (r : R σ) (size : Int) (hinv : Inv r) (hs : 0 ≤ size)
    (hfit : size ≤ r.len - r.pos) :
    (read' r size).1 = (r.buf.drop r.pos.toNat).take size.toNat ∧
    sliceFrom (read' r size).2.buf (read' r size).2.pos = (r.buf.drop r.pos.toNat).drop size.toNat ∧
    (read' r size).2.src = r.src ∧ (read' r size).2.rem = r.rem ∧ (read' r size).2.chunk = r.chunk ∧
    Inv (read' r size).2 ∧ (read' r size).2.pos ≤ (read' r size).2.len := by
  obtain ⟨hlen, hp0, hr0, hc0, _⟩ := hinv
  unfold read'
  rw [if_pos hfit]
  split
  · rename_i hall
    simp only [Bool.and_eq_true, beq_iff_eq] at hall
    obtain ⟨h1, h2⟩ := hall
    have hn : size.toNat = r.buf.length := by rw [h1, hlen, Int.toNat_natCast]
    rw [h2, hn]
    exact ⟨by simp, by simp [sliceFrom], rfl, rfl, rfl, ⟨rfl, Int.le_refl 0, hr0, hc0, Or.inl (Int.le_refl 0)⟩, Int.le_refl 0⟩
  · have h1 : 0 ≤ r.pos + size := Int.add_nonneg hp0 hs
    have h2 : r.pos + size ≤ r.len := Int.add_le_of_le_sub_left hfit
    refine ⟨?_, ?_, rfl, rfl, rfl, ⟨hlen, h1, hr0, hc0, Or.inl h2⟩, h2⟩
    · dsimp only
      rw [Int.add_sub_cancel, slice_nonneg _ _ _ hp0 (Int.le_add_of_nonneg_right hs), Int.toNat_add hp0 hs,
        Nat.add_sub_cancel_left]
    · dsimp only
      rw [sliceFrom_nonneg _ _ h1, List.drop_drop, Int.toNat_add hp0 hs]

theorem performRead_split (r : R σ) (size : Int) (nc : Bytes) (r1 : R σ) (hinv : Inv r) (hpl : r.pos ≤ r.len)
    (h : performRead r size = (nc, r1)) :
    nc ++ avail r1 = avail r ∧ r1.buf = r.buf ∧ r1.pos = r.pos ∧ r1.len = r.len ∧ r1.chunk = r.chunk ∧
      Inv r1 ∧ r1.pos ≤ r1.len := by
  obtain ⟨h1, h2, h3, h4, h5, h6, h7, _, _⟩ := performRead_spec r size nc r1 hinv.rem_nonneg h
  have hpl1 : r1.pos ≤ r1.len := by rw [h5, h6]; exact hpl
  exact ⟨by rw [h1, h2, List.take_append_drop], h4, h5, h6, h7,
    ⟨by rw [h6, h4]; exact hinv.len_eq, by rw [h5]; exact hinv.pos_nonneg, h3, by rw [h7]; exact hinv.chunk_pos,
      Or.inl hpl1⟩, hpl1⟩

/-- `_read(size)` refines the cursor: it returns the next `size` bytes, advances by exactly that, and leaves the position
    inside the buffer (the last needs the F21 repair) -/
theorem read'_spec (r : R σ) (size : Int) (hinv : Inv r) (hpl : r.pos ≤ r.len) (hs : 0 ≤ size) :
    (read' r size).1 = (abs r).take size.toNat ∧ abs (read' r size).2 = (abs r).drop size.toNat ∧
    Inv (read' r size).2 ∧ (read' r size).2.pos ≤ (read' r size).2.len := by
  have hB := unread_length r hinv hpl
  rw [abs_eq r hinv hpl]
  by_cases hfit : size ≤ r.len - r.pos
  · obtain ⟨o1, o2, o3, o4, _, o6, o7⟩ := read'_fits r size hinv hs hfit
    have hle : size.toNat ≤ (r.buf.drop r.pos.toNat).length := Int.toNat_le.mpr (hB ▸ hfit)
    refine ⟨?_, ?_, o6, o7⟩
    · rw [o1, List.take_append_of_le_length hle]
    · rw [abs, o2, avail_congr r _ o3 o4, List.drop_append_of_le_length hle]
  · have hlen := hinv.len_eq
    have hp0 := hinv.pos_nonneg
    have hr0 := hinv.rem_nonneg
    obtain ⟨m, hm⟩ := Int.eq_ofNat_of_zero_le (a := size - (r.len - r.pos)) (by omega)
    have hn : size.toNat = (r.buf.drop r.pos.toNat).length + m := by omega
    rw [hn, List.take_length_add_append, List.drop_length_add_append]
    unfold read'
    rw [if_neg hfit, hm, sliceFrom_nonneg _ _ hp0]
    split
    · rename_i hbig
      simp only [Bool.and_eq_true, beq_iff_eq] at hbig
      have hb0 : r.buf.drop r.pos.toNat = [] := List.eq_nil_of_length_eq_zero (by omega)
      generalize hp : performRead r size = p
      obtain ⟨h1, h2, _⟩ := performRead_spec r size p.1 p.2 hr0 hp
      obtain ⟨_, s2, s3, _, _, s6, s7⟩ := performRead_split r size p.1 p.2 hinv hpl hp
      rw [hn, hb0, List.length_nil, Nat.zero_add] at h1 h2
      refine ⟨by rw [h1, hb0, List.nil_append], ?_, s6, s7⟩
      rw [abs, s2, s3, sliceFrom_nonneg _ _ hp0, hb0, h2, List.nil_append]
    · dsimp only
      split
      · generalize hp : performRead { r with len := 0, pos := 0, buf := [] } m = p
        obtain ⟨h1, h2, _⟩ := performRead_spec { r with len := 0, pos := 0, buf := [] } m p.1 p.2 hr0 hp
        obtain ⟨_, s2, s3, _, _, s6, s7⟩ := performRead_split { r with len := 0, pos := 0, buf := [] } m p.1 p.2
          ⟨rfl, Int.le_refl 0, hr0, hinv.chunk_pos, Or.inl (Int.le_refl 0)⟩ (Int.le_refl 0) hp
        rw [Int.toNat_natCast] at h1 h2
        refine ⟨by rw [h1]; rfl, ?_, s6, s7⟩
        rw [abs, s2, s3, h2]; rfl
      · rename_i hlt
        have hmc : m ≤ r.chunk.toNat := by omega
        generalize hp : performRead r r.chunk = p
        obtain ⟨h1, h2, h3, _, _, _, h7, _, _⟩ := performRead_spec r r.chunk p.1 p.2 hr0 hp
        refine ⟨?_, ?_, ⟨rfl, Int.le_min.mpr ⟨Int.natCast_nonneg m, Int.natCast_nonneg _⟩, h3, h7 ▸ hinv.chunk_pos,
          Or.inl (Int.min_le_right _ _)⟩, Int.min_le_right _ _⟩
        · dsimp only
          rw [sliceTo_nonneg _ _ (Int.natCast_nonneg m), Int.toNat_natCast, h1, List.take_take, Nat.min_eq_left hmc]
        · have hsl : sliceFrom p.1 (min (m : Int) p.1.length) = p.1.drop m := by
            rw [sliceFrom_nonneg _ _ (Int.le_min.mpr ⟨Int.natCast_nonneg m, Int.natCast_nonneg _⟩), toNat_min,
              Int.toNat_natCast, Int.toNat_natCast]
            exact List.drop_eq_drop_iff.mpr (by rw [Nat.min_assoc, Nat.min_self])
          show sliceFrom p.1 (min (m : Int) p.1.length) ++ avail p.2 = _
          rw [hsl, h2, h1]
          exact drop_take_append_drop _ _ _ hmc

theorem read'_refines (r : R σ) (size : Int) (out : Bytes) (r' : R σ) (hinv : Inv r)
    (hpl : r.pos ≤ r.len) (hs : 0 ≤ size) (h : read' r size = (out, r')) :
    out = (abs r).take size.toNat ∧ abs r' = (abs r).drop size.toNat ∧ Inv r' := by
  obtain ⟨a, b, c, _⟩ := read'_spec r size hinv hpl hs
  rw [h] at a b c
  exact ⟨a, b, c⟩

#print axioms read'_refines

/-- with the F21 repair `_read` always leaves the position inside the buffer -/
theorem read'_pos_le (r : R σ) (size : Int) (hinv : Inv r) (hpl : r.pos ≤ r.len) (hs : 0 ≤ size) :
    (read' r size).2.pos ≤ (read' r size).2.len :=
  (read'_spec r size hinv hpl hs).2.2.2

#print axioms read'_pos_le
end Rd
