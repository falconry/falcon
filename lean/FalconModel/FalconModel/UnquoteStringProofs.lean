import FalconModel.ForwardedProofs
/-! `falcon.util.uri.unquote_string` (model `Fw.unquoteString`, Forwarded.lean: a transcription of the three paths of the
    function) stated for C10, without the RFC 9110 validity restriction of `Fw.unquoteString_quoted`:

    * `unquoteString_general`: for EVERY sequence of positions - a plain character other than the backslash (any other
      character, control characters and a bare `"` included) or a backslash followed by any character - the result is the
      sequence of characters the positions denote (left-to-right removal of the quotes and of each quoted-pair backslash);
    * `unquoteString_quote`: `unquote_string` inverts the quoted-string writer for every string;
    * `unquoteString_unchanged`: anything that does not start AND end with `"` (or is shorter than 2) is returned as it is;
    * an `example`: what the code does with a lone backslash before the closing quote (dropped). -/
namespace Fw
open Hp

/-- **unquote_string on any well-bracketed input**: the characters the positions denote, whatever the characters are -/
theorem unquoteString_general (items : List QItem) (hv : ∀ c, QItem.plain c ∈ items → c ≠ '\\') :
    unquoteString ('"' :: (renderItems items ++ ['"'])) = items.map QItem.char := by
  rw [unquoteString_bracketed, unqGen_items_general items hv]

/-- the quoted-string writer: `"` and `\` get a backslash, everything else is written as it is -/
def quoteItems (s : Str) : List QItem := s.map fun c => if c = '"' ∨ c = '\\' then .esc c else .plain c
def quoteString (s : Str) : Str := '"' :: (renderItems (quoteItems s) ++ ['"'])

/-- **round trip**: `unquote_string` inverts the quoted-string writer, for every string -/
theorem unquoteString_quote (s : Str) : unquoteString (quoteString s) = s := by
  unfold quoteString
  rw [unquoteString_general]
  · unfold quoteItems
    rw [List.map_map]
    conv => rhs; rw [← List.map_id s]
    apply List.map_congr_left
    intro c _
    simp only [Function.comp]
    split <;> rfl
  · intro c h
    unfold quoteItems at h
    rw [List.mem_map] at h
    obtain ⟨a, _, ha⟩ := h
    split at ha
    · cases ha
    · rename_i hn
      cases ha
      exact fun e => hn (.inr e)

example : quoteString ['a', '"', '\\', 'b'] = ['"', 'a', '\\', '"', '\\', '\\', 'b', '"'] := by decide +kernel
example : unquoteString ['"', 'a', '\\', '"', '\\', '\\', 'b', '"'] = ['a', '"', '\\', 'b'] := by decide +kernel

/-- input that is not bracketed by double quotes is returned unchanged ("prevent side-effect") -/
theorem unquoteString_unchanged (q : Str) (h : q.length < 2 ∨ q.head? ≠ some '"' ∨ q.getLast? ≠ some '"') :
    unquoteString q = q := by
  unfold unquoteString
  by_cases h1 : q.length < 2
  · rw [if_pos h1]
  · rw [if_neg h1]
    have h2 : (q.head? != some '"' || q.getLast? != some '"') = true := by
      rcases h with h | h | h
      · exact absurd h h1
      · simp [h]
      · simp [h]
    rw [if_pos h2]

/-- what the code does with a lone backslash in front of the closing quote (not a quoted-string): it is dropped -/
example : unquoteString ['"', 'a', '\\', '"'] = ['a'] := by decide +kernel
example : unquoteString ['"'] = ['"'] := by decide +kernel
example : unquoteString ['"', '"'] = [] := by decide +kernel
end Fw
