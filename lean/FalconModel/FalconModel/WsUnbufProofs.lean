import FalconModel.WsUnbuf
/-! C18, unbuffered mode: FIFO / lossless / once, disconnect exactly after the preceding messages and sticky, nothing buffered,
    fairness-free enabledness — for every schedule (list of labels), by induction over the run. -/
namespace Wu

/-- no disconnect event among the events of `l` -/
def noDisc (l : List CEv) : Prop := ∀ e ∈ l, e.isDisc = false

structure Inv (arrived : List CEv) (s : S) : Prop where
  /-- handed-over ++ still at the server = arrived: order, no loss, no duplication at the server boundary -/
  conserve : s.taken ++ s.pending = arrived
  /-- every handed-over event was observed by the application in the same step, in order: nothing is held in between -/
  observed_eq : observed s = s.taken.map CEv.id
  /-- one outstanding pull exactly while a receive is parked -/
  pulls_eq : s.pulls = if s.app.isSome then 1 else 0
  /-- a receive parks only on an accepted (later possibly closed) socket -/
  parked_not_handshake : s.app.isSome → s.state ≠ .handshake
  /-- once a disconnect event was handed over: closed, nobody parked, the code is the client's -/
  disc_closed : ∀ c, CEv.disc c ∈ s.taken → s.state = .closed ∧ s.app = none ∧ s.closeCode = some (c.getD 1000)
  /-- a disconnect event can only be the last event handed over -/
  disc_last : noDisc s.taken.dropLast

theorem observed_emit (s : S) (o : Obs) : observed (emit s o) = observed s ++ (o.id?.toList) := by
  unfold observed emit
  simp only [List.filterMap_append]
  cases h : o.id? <;> simp [List.filterMap, h]

theorem inv_init (arrived : List CEv) : Inv arrived (init arrived) := by
  refine ⟨?_, ?_, ?_, ?_, ?_, ?_⟩ <;> simp [init, observed, noDisc]

theorem payloadObs_id (k : RecvKind) (e : CEv) : (payloadObs k e).id? = some e.id := by
  cases e <;> cases k <;> rfl

/-- a step that hands nothing over and observes nothing consumed: what remains to check is the pull count, that a parked
    receive is not in the handshake state, and that a socket closed by the disconnect event stays as that event left it -/
theorem inv_of_quiet (arrived : List CEv) (s s' : S) (o : Obs) (h : Inv arrived s)
    (hp : s'.pending = s.pending) (ht : s'.taken = s.taken) (hout : s'.out = s.out) (ho : o.id? = none)
    (hpl : s'.pulls = if s'.app.isSome then 1 else 0)
    (hst : s'.app.isSome → s'.state ≠ .handshake)
    (hcl : s.state = .closed → s.app = none → s'.state = .closed ∧ s'.app = none ∧ s'.closeCode = s.closeCode) :
    Inv arrived (emit s' o) := by
  refine ⟨?_, ?_, hpl, hst, ?_, ?_⟩
  · show s'.taken ++ s'.pending = arrived
    rw [hp, ht]; exact h.conserve
  · rw [observed_emit, ho]
    show observed s' ++ [] = s'.taken.map CEv.id
    rw [List.append_nil, ht, ← h.observed_eq]
    unfold observed; rw [hout]
  · intro c hc
    obtain ⟨a, b, d⟩ := h.disc_closed c (ht ▸ hc)
    obtain ⟨e1, e2, e3⟩ := hcl a b
    exact ⟨e1, e2, e3 ▸ d⟩
  · show noDisc s'.taken.dropLast
    rw [ht]; exact h.disc_last

/-- the hand-over step: the head of `pending` moves to `taken` and is observed; a disconnect event closes the socket -/
theorem inv_of_deliver (arrived : List CEv) (s s' : S) (k : RecvKind) (e : CEv) (rest : List CEv) (h : Inv arrived s)
    (happ : s.app = some k) (hpend : s.pending = e :: rest)
    (hp : s'.pending = rest) (ht : s'.taken = s.taken ++ [e]) (ha : s'.app = none) (hpl : s'.pulls = s.pulls - 1)
    (hout : s'.out = s.out)
    (hd : ∀ c, e = .disc c → s'.state = .closed ∧ s'.closeCode = some (c.getD 1000)) :
    Inv arrived (emit s' (payloadObs k e)) := by
  have hnd : noDisc s.taken := by
    intro x hx
    cases x with
    | disc c => have := (h.disc_closed c hx).2.1; rw [happ] at this; cases this
    | text n => rfl
    | bytes n => rfl
  refine ⟨?_, ?_, ?_, ?_, ?_, ?_⟩
  · show s'.taken ++ s'.pending = arrived
    rw [hp, ht, List.append_assoc, List.singleton_append, ← hpend]; exact h.conserve
  · rw [observed_emit, payloadObs_id]
    show observed s' ++ [e.id] = s'.taken.map CEv.id
    rw [ht, List.map_append, ← h.observed_eq]
    unfold observed; rw [hout]; rfl
  · show s'.pulls = if s'.app.isSome then 1 else 0
    rw [hpl, ha, h.pulls_eq, happ]; rfl
  · intro hsome
    rw [show (emit s' (payloadObs k e)).app = none from ha] at hsome
    cases hsome
  · intro c hc
    rw [show (emit s' (payloadObs k e)).taken = s.taken ++ [e] from ht] at hc
    rcases List.mem_append.mp hc with hc | hc
    · cases hnd _ hc
    · obtain ⟨h1, h2⟩ := hd c (List.mem_singleton.mp hc).symm
      exact ⟨h1, ha, h2⟩
  · show noDisc s'.taken.dropLast
    rw [ht, List.dropLast_concat]; exact hnd

/-- **every step preserves the invariant** -/
theorem step_preserves (arrived : List CEv) (s s' : S) (l : Label) (h : Inv arrived s) (hs : step s l = some s') :
    Inv arrived s' := by
  have same : ∀ o : Obs, o.id? = none → Inv arrived (emit s o) := fun o ho =>
    inv_of_quiet arrived s s o h rfl rfl rfl ho h.pulls_eq h.parked_not_handshake (fun a b => ⟨a, b, rfl⟩)
  cases l with
  | accept =>
    simp only [step] at hs
    split at hs
    · cases hs; exact same _ rfl
    · rename_i hst
      cases hs
      have hhs : s.state = .handshake := by simpa using hst
      exact inv_of_quiet arrived s _ _ h rfl rfl rfl rfl h.pulls_eq nofun (fun a _ => by rw [hhs] at a; cases a)
  | recv k =>
    simp only [step] at hs
    split at hs
    · cases hs
    · rename_i hnp
      have happ : s.app = none := by cases ha : s.app <;> simp_all
      split at hs
      · cases hs; exact same _ rfl
      · cases hs; exact same _ rfl
      · rename_i hacc
        cases hs
        exact inv_of_quiet arrived s _ _ h rfl rfl rfl rfl (by show s.pulls + 1 = 1; rw [h.pulls_eq, happ]; rfl)
          (fun _ => by show s.state ≠ _; rw [hacc]; nofun) (fun a _ => by rw [hacc] at a; cases a)
  | deliver =>
    simp only [step] at hs
    split at hs
    · rename_i k e rest happ hpend
      cases e <;> (dsimp only at hs; cases hs)
      · exact inv_of_deliver arrived s _ k _ rest h happ hpend rfl rfl rfl rfl rfl nofun
      · exact inv_of_deliver arrived s _ k _ rest h happ hpend rfl rfl rfl rfl rfl nofun
      · exact inv_of_deliver arrived s _ k _ rest h happ hpend rfl rfl rfl rfl rfl (fun c hc => by cases hc; exact ⟨rfl, rfl⟩)
    · cases hs
  | cancel =>
    simp only [step] at hs
    split at hs
    · rename_i k happ
      cases hs
      exact inv_of_quiet arrived s _ _ h rfl rfl rfl rfl (by show s.pulls - 1 = 0; rw [h.pulls_eq, happ]; rfl)
        nofun (fun _ b => by rw [happ] at b; cases b)
    · cases hs
  | send r =>
    simp only [step] at hs
    split at hs
    · cases hs; exact same _ rfl
    · cases hs; exact same _ rfl
    · rename_i hacc
      have hne : s.state = .closed → False := by intro a; rw [hacc] at a; cases a
      split at hs <;> cases hs <;>
        exact inv_of_quiet arrived s _ _ h rfl rfl rfl rfl h.pulls_eq (fun _ => by simp [hacc]) (fun a _ => (hne a).elim)
  | close code =>
    simp only [step] at hs
    split at hs
    · cases hs; exact same _ rfl
    · split at hs
      · cases hs; exact same _ rfl
      · rename_i hncl
        cases hs
        exact inv_of_quiet arrived s _ _ h rfl rfl rfl rfl h.pulls_eq nofun (fun a _ => absurd a hncl)

/-- **the invariant holds after every schedule** -/
theorem run_inv (arrived : List CEv) : ∀ (ls : List Label) (s s' : S), Inv arrived s → runFrom s ls = some s' → Inv arrived s' := by
  intro ls
  induction ls with
  | nil => intro s s' h hr; simp only [runFrom, Option.some.injEq] at hr; subst hr; exact h
  | cons l ls ih =>
    intro s s' h hr
    simp only [runFrom] at hr
    split at hr
    · rename_i s1 hs1
      exact ih s1 s' (step_preserves arrived s s1 l h hs1) hr
    · cases hr

/-- **C18 unbuffered `fifo_lossless_once`**: after every schedule, what the receives consumed (returned, or reported as
    `PayloadTypeError` / `WebSocketDisconnected`), followed by what is still at the server, is exactly the arrival sequence:
    same order, nothing lost, nothing duplicated -/
theorem fifo_lossless_once (arrived : List CEv) (ls : List Label) (s : S) (hr : runFrom (init arrived) ls = some s) :
    observed s ++ s.pending.map CEv.id = arrived.map CEv.id ∧ s.taken ++ s.pending = arrived ∧
    observed s = s.taken.map CEv.id := by
  have h := run_inv arrived ls _ s (inv_init arrived) hr
  refine ⟨?_, h.conserve, h.observed_eq⟩
  rw [h.observed_eq, ← List.map_append, h.conserve]

example : (runFrom (init [.text 0, .bytes 1, .text 2, .disc (some 1001)])
    [.recv .text, .accept, .recv .text, .deliver, .send none, .recv .text, .cancel, .recv .text, .deliver, .recv .data]).map
    (fun s => (observed s, s.pending.map CEv.id, s.out)) =
    some ([0, 1], [2, discId],
      [.notAllowed, .acceptOk, .parked, .ret 0, .sendOk, .parked, .cancelled, .parked, .payloadErr 1, .parked]) := by decide +kernel

/-- events handed to the framework that the application has not been given yet -/
def heldU (s : S) : Nat := s.taken.length - (observed s).length

/-- **C18 unbuffered `nothing_buffered`**: after every schedule the framework holds no event (bound 0), at most one pull of the
    server is outstanding, and one is outstanding exactly while a receive is parked: nothing is pulled ahead -/
theorem nothing_buffered (arrived : List CEv) (ls : List Label) (s : S) (hr : runFrom (init arrived) ls = some s) :
    heldU s = 0 ∧ (observed s).length = s.taken.length ∧ s.pulls ≤ 1 ∧ (s.pulls = 1 ↔ s.app.isSome) := by
  have h := run_inv arrived ls _ s (inv_init arrived) hr
  have hp := h.pulls_eq
  refine ⟨?_, ?_, ?_, ?_⟩
  · simp [heldU, h.observed_eq]
  · simp [h.observed_eq]
  · cases ha : s.app <;> simp [ha] at hp <;> omega
  · cases ha : s.app <;> simp [ha] at hp <;> simp [hp]

theorem mem_last_of_not_dropLast (l : List CEv) (e : CEv) (he : e ∈ l) (hn : e ∉ l.dropLast) : l = l.dropLast ++ [e] := by
  have hne : l ≠ [] := by intro h; rw [h] at he; cases he
  have h := List.dropLast_concat_getLast hne
  rw [← h] at he
  simp only [List.mem_append, List.mem_singleton] at he
  rcases he with he | he
  · exact absurd he hn
  · rw [he]; exact h.symm

/-- **C18 unbuffered `disconnect_after_preceding`**: if, after any schedule, a disconnect event has been handed over, then it is
    the last event handed over, everything that arrived before it was consumed by receives before it (in order, each once), and
    the receive that took it raised `WebSocketDisconnected` as the last consuming observation -/
theorem disconnect_after_preceding (arrived : List CEv) (ls : List Label) (s : S) (hr : runFrom (init arrived) ls = some s)
    (c : Option Nat) (hc : CEv.disc c ∈ s.taken) :
    ∃ pre, noDisc pre ∧ s.taken = pre ++ [.disc c] ∧ arrived = pre ++ .disc c :: s.pending ∧
      observed s = pre.map CEv.id ++ [discId] := by
  have h := run_inv arrived ls _ s (inv_init arrived) hr
  have hn : CEv.disc c ∉ s.taken.dropLast := by
    intro hm; have := h.disc_last _ hm; simp [CEv.isDisc] at this
  have ht := mem_last_of_not_dropLast _ _ hc hn
  refine ⟨s.taken.dropLast, h.disc_last, ht, ?_, ?_⟩
  · rw [← h.conserve]; conv => lhs; rw [ht]
    simp
  · rw [h.observed_eq]; conv => lhs; rw [ht]
    simp [CEv.id]

example : (runFrom (init [.text 0, .disc none, .text 1])
    [.accept, .recv .text, .deliver, .recv .text, .deliver, .recv .text]).map
    (fun s => (observed s, s.pending, s.out.drop 3)) =
    some ([0, discId], [.text 1], [.parked, .wsdEvent 1000, .wsdState 1000]) := by decide +kernel

/-- the socket is closed, nobody is parked in a receive, and `_close_code = code` -/
def Dead (code : Option Nat) (s : S) : Prop := s.state = .closed ∧ s.app = none ∧ s.closeCode = code

/-- `closed` is monotone through every step (even while a receive is still parked) -/
theorem closed_monotone (s s' : S) (l : Label) (hs : step s l = some s') (hc : s.state = .closed) : s'.state = .closed := by
  cases l with
  | accept => simp only [step, hc] at hs; simp at hs; cases hs; exact hc
  | recv k =>
    simp only [step, hc] at hs
    split at hs
    · cases hs
    · cases hs; exact hc
  | deliver =>
    simp only [step] at hs
    split at hs
    · rename_i k e rest _ _
      cases e <;> (simp only at hs; cases hs) <;> first | rfl | exact hc
    · cases hs
  | cancel =>
    simp only [step] at hs
    split at hs
    · cases hs; exact hc
    · cases hs
  | send r => simp only [step, hc] at hs; cases hs; exact hc
  | close code =>
    simp only [step, hc] at hs
    split at hs <;> (simp at hs; cases hs; exact hc)

/-- in a dead state every step leaves the server boundary, the close code and the sent events untouched and consumes nothing;
    a receive raises `WebSocketDisconnected(_close_code)` without pulling -/
theorem dead_step (code : Option Nat) (s s' : S) (l : Label) (hd : Dead code s) (hs : step s l = some s') :
    Dead code s' ∧ s'.pending = s.pending ∧ s'.taken = s.taken ∧ s'.pulls = s.pulls ∧ s'.sent = s.sent ∧
    ∃ o, s'.out = s.out ++ [o] ∧ o.id? = none ∧ (∀ k, l = .recv k → o = .wsdState (excCode code)) := by
  obtain ⟨h1, h2, h3⟩ := hd
  cases l with
  | accept =>
    simp only [step, h1] at hs; simp at hs; cases hs
    exact ⟨⟨h1, h2, h3⟩, rfl, rfl, rfl, rfl, _, rfl, rfl, by intro k hk; cases hk⟩
  | recv k =>
    simp only [step, h1, h2] at hs; simp at hs; cases hs
    refine ⟨⟨h1, h2, h3⟩, rfl, rfl, rfl, rfl, _, rfl, rfl, ?_⟩
    intro k' _; rw [h3]
  | deliver => simp only [step, h2] at hs; cases hs
  | cancel => simp only [step, h2] at hs; cases hs
  | send r =>
    simp only [step, h1] at hs; cases hs
    exact ⟨⟨h1, h2, h3⟩, rfl, rfl, rfl, rfl, _, rfl, rfl, by intro k hk; cases hk⟩
  | close c =>
    simp only [step, h1] at hs
    split at hs <;> (simp at hs; cases hs) <;>
      exact ⟨⟨h1, h2, h3⟩, rfl, rfl, rfl, rfl, _, rfl, rfl, by intro k hk; cases hk⟩

theorem dead_run (code : Option Nat) : ∀ (ls : List Label) (s s' : S), Dead code s → runFrom s ls = some s' →
    Dead code s' ∧ s'.pending = s.pending ∧ s'.taken = s.taken ∧ observed s' = observed s := by
  intro ls
  induction ls with
  | nil => intro s s' h hr; simp only [runFrom, Option.some.injEq] at hr; subst hr; exact ⟨h, rfl, rfl, rfl⟩
  | cons l ls ih =>
    intro s s' h hr
    simp only [runFrom] at hr
    split at hr
    · rename_i s1 hs1
      obtain ⟨d1, p1, t1, _, _, o, ho, hid, _⟩ := dead_step code s s1 l h hs1
      obtain ⟨d2, p2, t2, o2⟩ := ih s1 s' d1 hr
      refine ⟨d2, by rw [p2, p1], by rw [t2, t1], ?_⟩
      rw [o2]; unfold observed; rw [ho]; simp [List.filterMap_append, List.filterMap, hid]
    · cases hr

/-- **C18 unbuffered `disconnect_sticky`**: once a receive has taken the client's disconnect event (after any schedule), then
    after every further schedule nothing more is consumed or pulled, and every receive call raises `WebSocketDisconnected`
    carrying the client's code -/
theorem disconnect_sticky (arrived : List CEv) (ls : List Label) (s : S) (hr : runFrom (init arrived) ls = some s)
    (c : Option Nat) (hc : CEv.disc c ∈ s.taken) (ls' : List Label) (s' : S) (hr' : runFrom s ls' = some s') :
    s'.taken = s.taken ∧ s'.pending = s.pending ∧ observed s' = observed s ∧ s'.pulls = 0 ∧
    ∀ k, step s' (.recv k) = some (emit s' (.wsdState (excCode (some (c.getD 1000))))) := by
  have h := run_inv arrived ls _ s (inv_init arrived) hr
  have hd : Dead (some (c.getD 1000)) s := h.disc_closed c hc
  obtain ⟨⟨d1, d2, d3⟩, p, t, o⟩ := dead_run _ ls' s s' hd hr'
  have hinv := run_inv arrived ls' s s' h hr'
  refine ⟨t, p, o, ?_, ?_⟩
  · have := hinv.pulls_eq; simpa [d2] using this
  · intro k; simp only [step, d1, d2, d3]; simp

/-- a receive call is always possible when none is in progress -/
theorem recv_enabled (s : S) (k : RecvKind) (h : s.app = none) : (step s (.recv k)).isSome = true := by
  simp only [step, h]
  cases s.state <;> simp

/-- the server can hand over an event exactly when a receive is parked and an event is available -/
theorem deliver_enabled_iff (s : S) : (step s .deliver).isSome = true ↔ s.app.isSome = true ∧ s.pending ≠ [] := by
  simp only [step]
  cases ha : s.app with
  | none => simp
  | some k =>
    cases hp : s.pending with
    | nil => simp
    | cons e rest => cases e <;> simp

/-- **C18 unbuffered `parked_receive_completes`**: a parked receive with an event available at the server has an enabled step,
    and that step completes the receive with exactly that event (no lost wake-up: nothing inside the framework stands between
    the server's event and the parked call) -/
theorem parked_receive_completes (s : S) (k : RecvKind) (e : CEv) (rest : List CEv) (ha : s.app = some k)
    (hp : s.pending = e :: rest) :
    ∃ s', step s .deliver = some s' ∧ s'.app = none ∧ s'.pending = rest ∧ s'.taken = s.taken ++ [e] ∧
      s'.out = s.out ++ [payloadObs k e] := by
  simp only [step, ha, hp]
  cases e <;> exact ⟨_, rfl, rfl, rfl, rfl, rfl⟩

end Wu
