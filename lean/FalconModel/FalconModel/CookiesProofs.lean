import FalconModel.Cookies
import FalconModel.HeaderParsersProofs
/-! C09 proofs for `Cookies.lean`: an RFC 6265 cookie-string of valid names is read as the mapping name -> values in order
    (`cookie_valid_eq_rfc`), `req.cookies` is the first value (`cookies_first_value`), `_unquote` inverts quoting. -/
namespace Ck
open Hp (Str)

/-! ### the RFC 6265 side: cookie-string = cookie-pair *( ";" SP cookie-pair ), cookie-pair = cookie-name "=" cookie-value -/
/-- cookie-octet: %x21 / %x23-2B / %x2D-3A / %x3C-5B / %x5D-7E -/
def isCookieOctet (c : Char) : Bool :=
  let n := c.toNat
  n == 0x21 || (0x23 ≤ n && n ≤ 0x2B) || (0x2D ≤ n && n ≤ 0x3A) || (0x3C ≤ n && n ≤ 0x5B) || (0x5D ≤ n && n ≤ 0x7E)

/-- a cookie-pair; `pre` = the blanks after the preceding `;` (RFC 6265: exactly one SP; the parser accepts any white space);
    `quoted` = the value is written between DQUOTEs -/
structure Pair where
  pre : Str
  name : Str
  val : Str
  quoted : Bool
  deriving Repr, DecidableEq

/-- cookie-name is a token: no CTLs, separators or non-ASCII characters (`= !isReserved` on Latin-1) -/
def Pair.valid (p : Pair) : Bool :=
  p.pre.all Hp.isWs && !p.name.isEmpty && p.name.all (fun c => !isReserved c) && p.val.all isCookieOctet

def Pair.rawValue (p : Pair) : Str := if p.quoted then '"' :: (p.val ++ ['"']) else p.val
def Pair.render (p : Pair) : Str := p.pre ++ (p.name ++ '=' :: p.rawValue)

def renderCookies : List Pair → Str
  | [] => []
  | [p] => p.render
  | p :: q :: ps => p.render ++ ';' :: renderCookies (q :: ps)

theorem splitOn_ne_nil (c : Char) : ∀ (s : Str), splitOn c s ≠ []
  | [] => by simp [splitOn]
  | x :: r => by
    simp only [splitOn]
    split
    · simp
    · split <;> simp

theorem splitOn_none (c : Char) : ∀ (a : Str), c ∉ a → splitOn c a = [a]
  | [], _ => rfl
  | x :: a, h => by
    have hx : (x == c) = false := by simp; intro e; exact h (by simp [e])
    have ha : c ∉ a := fun e => h (by simp [e])
    simp [splitOn, hx, splitOn_none c a ha]

theorem splitOn_append (c : Char) : ∀ (a rest : Str), c ∉ a → splitOn c (a ++ c :: rest) = a :: splitOn c rest
  | [], rest, _ => by simp [splitOn]
  | x :: a, rest, h => by
    have hx : (x == c) = false := by simp; intro e; exact h (by simp [e])
    have ha : c ∉ a := fun e => h (by simp [e])
    simp [splitOn, hx, splitOn_append c a rest ha]

theorem lstripW_pre (w : Char → Bool) (pre s : Str) (hp : pre.all w = true) : Hp.lstripW w (pre ++ s) = Hp.lstripW w s := by
  induction pre with
  | nil => rfl
  | cons x t ih =>
    simp only [List.all_cons, Bool.and_eq_true] at hp
    simp only [Hp.lstripW, List.cons_append, List.dropWhile, hp.1] at ih ⊢
    exact ih hp.2

theorem strip_pre (w : Char → Bool) (pre s : Str) (hp : pre.all w = true) (hs : ∀ x ∈ s, w x = false) : Hp.stripW w (pre ++ s) = s := by
  have := Hp.strip_of_ends (w := w) s (fun x hx => hs x (List.mem_of_mem_head? hx))
    (fun x hx => hs x (List.mem_reverse.mp (List.mem_of_mem_head? hx)))
  unfold Hp.stripW at this ⊢
  rw [lstripW_pre w pre s hp]; exact this

theorem strip_of_all (w : Char → Bool) (s : Str) (hs : ∀ x ∈ s, w x = false) : Hp.stripW w s = s := strip_pre w [] s rfl hs

theorem isWs_reserved {c : Char} (h : Hp.isWs c = true) : isReserved c = true := by
  simp only [Hp.isWs, Bool.or_eq_true, Bool.and_eq_true, decide_eq_true_eq, beq_iff_eq] at h
  simp only [isReserved, Bool.or_eq_true, Bool.and_eq_true, decide_eq_true_eq, beq_iff_eq]
  by_cases h32 : c.toNat = 32
  · have : c = ' ' := by apply Char.toNat_inj.mp; simpa using h32
    simp [this]
  · omega

theorem not_ws_of_not_reserved {c : Char} (h : isReserved c = false) : Hp.isWs c = false := by
  cases hw : Hp.isWs c with
  | false => rfl
  | true => rw [isWs_reserved hw] at h; exact absurd h (by decide)

theorem octet_not_ws {c : Char} (h : isCookieOctet c = true) : Hp.isWs c = false := by
  simp only [isCookieOctet, Bool.or_eq_true, Bool.and_eq_true, decide_eq_true_eq, beq_iff_eq] at h
  simp only [Hp.isWs, Bool.or_eq_false_iff, Bool.and_eq_false_iff, decide_eq_false_iff_not, beq_eq_false_iff_ne]
  omega

theorem octet_ne {c : Char} (h : isCookieOctet c = true) : c ≠ ';' ∧ c ≠ '"' ∧ c ≠ '\\' := by
  refine ⟨?_, ?_, ?_⟩ <;> (intro e; subst e; revert h; decide)

theorem not_reserved_ne {c : Char} (h : isReserved c = false) : c ≠ ';' ∧ c ≠ '=' := by
  refine ⟨?_, ?_⟩ <;> (intro e; subst e; revert h; decide)

theorem ws_ne {c : Char} (h : Hp.isWs c = true) : c ≠ ';' ∧ c ≠ '=' := by
  refine ⟨?_, ?_⟩ <;> (intro e; subst e; revert h; decide)

theorem unq_cons_ne (x : Char) (r : Str) (h : x ≠ '\\') : unq (x :: r) = x :: unq r := by
  rw [unq.eq_def]
  split
  · rename_i e; simp at e
  · rename_i e; simp at e; exact absurd e.1 h
  · rename_i e; simp at e; exact absurd e.1 h
  · rename_i e; simp at e; obtain ⟨rfl, rfl⟩ := e; rfl

theorem unq_noBs : ∀ (s : Str), '\\' ∉ s → unq s = s
  | [], _ => by simp [unq]
  | x :: r, h => by
    have hx : x ≠ '\\' := fun e => h (by simp [e])
    rw [unq_cons_ne x r hx, unq_noBs r (fun e => h (by simp [e]))]

/-- between DQUOTEs `_unquote` is `unq`, and `cookieValue` calls it -/
theorem cUnquote_dq (v : Str) : cUnquote ('"' :: (v ++ ['"'])) = unq v := by
  unfold cUnquote
  have hl : ¬ ('"' :: (v ++ ['"'])).length < 2 := by simp
  have hd : (('"' :: (v ++ ['"'])).drop 1).dropLast = v := by simp
  simp only [hl, if_false, List.head?_cons, Hp.getLast?_quote, hd, bne_self_eq_false, Bool.or_self, Bool.false_eq_true]

theorem cookieValue_dq (v : Str) : cookieValue ('"' :: (v ++ ['"'])) = unq v := by
  unfold cookieValue
  have hl : 2 ≤ ('"' :: (v ++ ['"'])).length := by simp
  simp only [hl, decide_true, List.head?_cons, Hp.getLast?_quote, beq_self_eq_true, Bool.and_self, if_true, cUnquote_dq]

/-- a value between DQUOTEs that contains no backslash is returned without the DQUOTEs -/
theorem cUnquote_plain (v : Str) (h : '\\' ∉ v) : cUnquote ('"' :: (v ++ ['"'])) = v := by
  rw [cUnquote_dq, unq_noBs v h]

theorem cookieValue_raw (p : Pair) (hv : ∀ c ∈ p.val, isCookieOctet c = true) : cookieValue p.rawValue = p.val := by
  unfold Pair.rawValue
  cases p.quoted with
  | true => exact (cookieValue_dq p.val).trans (unq_noBs _ fun e => (octet_ne (hv _ e)).2.2 rfl)
  | false =>
    unfold cookieValue
    cases hvv : p.val with
    | nil => rfl
    | cons c r =>
      have : c ≠ '"' := (octet_ne (hv c (by simp [hvv]))).2.1
      simp [this]

theorem strip_rawValue (p : Pair) (hv : ∀ c ∈ p.val, isCookieOctet c = true) : Hp.strip p.rawValue = p.rawValue := by
  unfold Pair.rawValue
  cases p.quoted with
  | true => exact Hp.strip_of_ends _ (by simp; decide) (by simp; decide)
  | false => exact strip_of_all _ _ fun x hx => octet_not_ws (hv x hx)

/-- one token `pre name "=" raw` with blanks `pre`, an RFC 6265 token `name` and a value without blanks around it -/
theorem stepToken_pair (d : Jar) (pre name raw : Str) (hpre : ∀ c ∈ pre, Hp.isWs c = true) (hne : name ≠ [])
    (hname : ∀ c ∈ name, isReserved c = false) (hraw : Hp.strip raw = raw) :
    stepToken d (pre ++ (name ++ '=' :: raw)) = insertVal d name (cookieValue raw) := by
  have heq : '=' ∉ pre ++ name := by
    intro e
    rcases List.mem_append.mp e with e | e
    · exact (ws_ne (hpre _ e)).2 rfl
    · exact (not_reserved_ne (hname _ e)).2 rfl
  have hpart : Hp.partition (pre ++ (name ++ '=' :: raw)) '=' = (pre ++ name, true, raw) := by
    rw [← List.append_assoc]
    exact Hp.partition_append _ _ '=' heq
  have hsn : Hp.strip (pre ++ name) = name :=
    strip_pre _ _ _ (List.all_eq_true.mpr hpre) fun x hx => not_ws_of_not_reserved (hname x hx)
  have hany : name.any isReserved = false := by
    simp only [List.any_eq_false]
    intro c hc; simp [hname c hc]
  have hemp : name.isEmpty = false := by cases name with | nil => exact absurd rfl hne | cons _ _ => rfl
  unfold stepToken
  simp only [hpart, hsn, hemp, hany, Bool.false_eq_true, if_false, hraw]

theorem Pair.valid_iff (p : Pair) : p.valid = true ↔ (∀ c ∈ p.pre, Hp.isWs c = true) ∧ p.name ≠ [] ∧
    (∀ c ∈ p.name, isReserved c = false) ∧ ∀ c ∈ p.val, isCookieOctet c = true := by
  simp [Pair.valid, and_assoc]

theorem stepToken_render (d : Jar) (p : Pair) (hv : p.valid = true) : stepToken d p.render = insertVal d p.name p.val := by
  obtain ⟨hpre, hne, hname, hval⟩ := (Pair.valid_iff p).mp hv
  rw [Pair.render, stepToken_pair d _ _ _ hpre hne hname (strip_rawValue p hval), cookieValue_raw p hval]

theorem semi_not_mem_render (p : Pair) (hv : p.valid = true) : ';' ∉ p.render := by
  obtain ⟨hpre, _, hname, hval⟩ := (Pair.valid_iff p).mp hv
  unfold Pair.render Pair.rawValue
  intro e
  rcases List.mem_append.mp e with e | e
  · exact (ws_ne (hpre _ e)).1 rfl
  · rcases List.mem_append.mp e with e | e
    · exact (not_reserved_ne (hname _ e)).1 rfl
    · have : ';' ∈ p.val := by cases hq : p.quoted <;> simpa [hq] using e
      exact (octet_ne (hval _ this)).1 rfl

theorem splitOn_renderCookies : ∀ (ps : List Pair), ps ≠ [] → (∀ p ∈ ps, p.valid = true) →
    splitOn ';' (renderCookies ps) = ps.map Pair.render
  | [], h, _ => absurd rfl h
  | [p], _, hv => by simp [renderCookies, splitOn_none ';' _ (semi_not_mem_render p (hv p (by simp)))]
  | p :: q :: ps, _, hv => by
    simp only [renderCookies]
    rw [splitOn_append ';' _ _ (semi_not_mem_render p (hv p (by simp))),
      splitOn_renderCookies (q :: ps) (by simp) (fun x hx => hv x (by simp [hx]))]
    rfl

theorem foldl_stepToken (ps : List Pair) (hv : ∀ p ∈ ps, p.valid = true) : ∀ (d : Jar),
    (ps.map Pair.render).foldl stepToken d = ps.foldl (fun d p => insertVal d p.name p.val) d := by
  induction ps with
  | nil => intro d; rfl
  | cons p t ih =>
    intro d
    simp only [List.map_cons, List.foldl_cons]
    rw [stepToken_render d p (hv p (by simp)), ih (fun x hx => hv x (by simp [hx]))]

/-- the jar built from a grammatical cookie-string: every pair is entered, in order, with the DQUOTEs of a quoted value removed -/
theorem parseCookieHeader_render (ps : List Pair) (hv : ∀ p ∈ ps, p.valid = true) :
    parseCookieHeader (renderCookies ps) = ps.foldl (fun d p => insertVal d p.name p.val) [] := by
  cases ps with
  | nil => simp [parseCookieHeader, renderCookies, splitOn, stepToken, Hp.partition, Hp.breakOn, Hp.strip, Hp.stripW, Hp.rstripW, Hp.lstripW]
  | cons p t =>
    unfold parseCookieHeader
    rw [splitOn_renderCookies (p :: t) (by simp) hv, foldl_stepToken (p :: t) hv]

theorem lookup_insertVal (nm k v : Str) : ∀ (d : Jar),
    lookup (insertVal d k v) nm = if k = nm then some ((lookup d nm).getD [] ++ [v]) else lookup d nm
  | [] => by
    by_cases h : k = nm <;> simp [insertVal, lookup, List.find?, h]
  | (k', vs) :: t => by
    have ih := lookup_insertVal nm k v t
    by_cases h1 : k' = k
    · subst h1
      by_cases h2 : k' = nm
      · simp [insertVal, lookup, List.find?, h2]
      · have : (k' == nm) = false := by simp [h2]
        simp [insertVal, lookup, List.find?, h2, this]
    · have e1 : (k' == k) = false := by simp [h1]
      by_cases h2 : k' = nm
      · subst h2
        have : ¬ k = k' := fun e => h1 e.symm
        simp [insertVal, e1, lookup, List.find?, this]
      · have e2 : (k' == nm) = false := by simp [h2]
        simp only [insertVal, e1, Bool.false_eq_true, if_false]
        simp only [lookup, List.find?, e2] at ih ⊢
        exact ih

/-- all values given for `nm`, in the order of the header -/
def valuesOf (ps : List Pair) (nm : Str) : List Str := (ps.filter fun p => p.name == nm).map (·.val)

def merge (o : Option (List Str)) (vs : List Str) : Option (List Str) :=
  match o, vs with
  | none, [] => none
  | o, vs => some (o.getD [] ++ vs)

theorem lookup_foldl (nm : Str) (ps : List Pair) : ∀ (d : Jar),
    lookup (ps.foldl (fun d p => insertVal d p.name p.val) d) nm = merge (lookup d nm) (valuesOf ps nm) := by
  induction ps with
  | nil => intro d; cases h : lookup d nm <;> simp [valuesOf, merge, h]
  | cons p t ih =>
    intro d
    rw [List.foldl_cons, ih, lookup_insertVal]
    by_cases h : p.name = nm
    · simp [valuesOf, h, merge]
    · have : (p.name == nm) = false := by simp [h]
      simp [valuesOf, h, this]

theorem reqJar_some (s : Str) : reqJar (some s) = parseCookieHeader s := by
  cases s with
  | nil => simp [reqJar, parseCookieHeader, splitOn, stepToken, Hp.partition, Hp.breakOn, Hp.strip, Hp.stripW, Hp.rstripW, Hp.lstripW]
  | cons c r => rfl

/-- **RFC 6265**: for a cookie-string of valid pairs, `req.get_cookie_values(name)` is the list of all values given for that
    name, in header order (DQUOTEs of quoted values removed), and `None` when the name does not occur -/
theorem cookie_valid_eq_rfc (ps : List Pair) (hv : ∀ p ∈ ps, p.valid = true) (nm : Str) :
    getCookieValues (some (renderCookies ps)) nm = match valuesOf ps nm with | [] => none | vs => some vs := by
  unfold getCookieValues
  rw [reqJar_some, parseCookieHeader_render ps hv, lookup_foldl]
  cases valuesOf ps nm <;> simp [lookup, merge]

/-- dictionary lookup in `req.cookies` -/
def cookieOf (hdr : Option Str) (nm : Str) : Option Str := ((reqCookies hdr).find? fun nv => nv.1 == nm).map (·.2)

theorem cookieOf_eq (hdr : Option Str) (nm : Str) : cookieOf hdr nm = (getCookieValues hdr nm).map (·.headD []) := by
  unfold cookieOf reqCookies getCookieValues lookup
  induction reqJar hdr with
  | nil => rfl
  | cons a t ih =>
    simp only [List.map_cons, List.find?]
    cases h : (a.1 == nm) with
    | true => simp
    | false => simpa using ih

theorem head_valuesOf (ps : List Pair) (nm : Str) : (valuesOf ps nm).head? = (ps.find? fun p => p.name == nm).map (·.val) := by
  induction ps with
  | nil => rfl
  | cons p t ih =>
    cases h : (p.name == nm) with
    | true => simp [valuesOf, List.find?, h]
    | false => simp [valuesOf, List.find?, h] at ih ⊢

/-- `req.cookies[name]` is the first value given for the name -/
theorem cookies_first_value (ps : List Pair) (hv : ∀ p ∈ ps, p.valid = true) (nm : Str) :
    cookieOf (some (renderCookies ps)) nm = (ps.find? fun p => p.name == nm).map (·.val) := by
  rw [cookieOf_eq, cookie_valid_eq_rfc ps hv nm, ← head_valuesOf]
  cases valuesOf ps nm <;> simp

/-- the names of `req.cookies` are exactly the cookie names of the header -/
theorem cookies_has_name (ps : List Pair) (hv : ∀ p ∈ ps, p.valid = true) (nm : Str) :
    (cookieOf (some (renderCookies ps)) nm).isSome = ps.any fun p => p.name == nm := by
  rw [cookies_first_value ps hv nm]
  clear hv
  induction ps with
  | nil => rfl
  | cons p t ih =>
    cases h : (p.name == nm) <;> simp [List.find?, h]
    simpa using ih

/-! ### `_unquote` inverts `http.cookies._quote`-style escaping (including the octal escapes) -/
theorem toNat_ofNat_small (k : Nat) (h : k < 256) : (Char.ofNat k).toNat = k := by
  have : k.isValidChar := by left; omega
  simp [Char.ofNat, this, Char.ofNatAux, Char.toNat]

/-- `'%03o' % n` for `n < 512` -/
def octDigits (n : Nat) : Str := [Char.ofNat (48 + n / 64), Char.ofNat (48 + n / 8 % 8), Char.ofNat (48 + n % 8)]

/-- what `_quote` writes for one character: `"` and `\` get a backslash, characters outside `legal` become `\ooo` -/
def escChar (legal : Char → Bool) (c : Char) : Str :=
  if c == '"' then ['\\', '"'] else if c == '\\' then ['\\', '\\'] else if legal c then [c] else '\\' :: octDigits c.toNat

def quoteBody (legal : Char → Bool) : Str → Str
  | [] => []
  | c :: r => escChar legal c ++ quoteBody legal r

theorem unq_esc_lit (c : Char) (r : Str) (hc : c = '"' ∨ c = '\\') : unq ('\\' :: c :: r) = c :: unq r := by
  have hn : (c != '\n') = true := by rcases hc with rfl | rfl <;> decide
  have ho : ∀ b d, isOct3 c b d = false := by intro b d; rcases hc with rfl | rfl <;> simp [isOct3]
  rw [unq.eq_def]
  split
  · rename_i e; simp at e
  · rename_i a b d r2 e
    simp at e; obtain ⟨rfl, rfl⟩ := e
    simp [ho, hn]
  · rename_i a r' _ e
    simp at e; obtain ⟨rfl, rfl⟩ := e
    simp [hn]
  · rename_i x r' h1 h2 e
    simp at e; obtain ⟨rfl, rfl⟩ := e; exact (h2 c r rfl rfl).elim

theorem oct_digits (n : Nat) (hn : n < 256) : n / 64 ≤ 3 ∧ n / 8 % 8 ≤ 7 ∧ n % 8 ≤ 7 ∧ n / 64 * 64 + n / 8 % 8 * 8 + n % 8 = n := by omega

theorem octDigit_toNat (a : Nat) (h : a ≤ 7) : (Char.ofNat (48 + a)).toNat = 48 + a := toNat_ofNat_small _ (by omega)

theorem unq_oct (n : Nat) (hn : n < 256) (r : Str) : unq ('\\' :: (octDigits n ++ r)) = Char.ofNat n :: unq r := by
  obtain ⟨ha, hb, hc, hs⟩ := oct_digits n hn
  simp only [octDigits, List.cons_append, List.nil_append]
  generalize n / 64 = a at *
  generalize n / 8 % 8 = b at *
  generalize n % 8 = c at *
  have ta := octDigit_toNat a (Nat.le_trans ha (by decide))
  have tb := octDigit_toNat b hb
  have tc := octDigit_toNat c hc
  have ho : isOct3 (Char.ofNat (48 + a)) (Char.ofNat (48 + b)) (Char.ofNat (48 + c)) = true := by
    simp only [isOct3, ta, tb, tc, Bool.and_eq_true, decide_eq_true_eq]
    omega
  rw [unq, if_pos ho, octChar, ta, tb, tc, Nat.add_sub_cancel_left, Nat.add_sub_cancel_left, Nat.add_sub_cancel_left, hs]

theorem escChar_quote (legal : Char → Bool) : escChar legal '"' = ['\\', '"'] := by simp [escChar]
theorem escChar_bs (legal : Char → Bool) : escChar legal '\\' = ['\\', '\\'] := by simp [escChar]
theorem escChar_other (legal : Char → Bool) (c : Char) (h1 : c ≠ '"') (h2 : c ≠ '\\') :
    escChar legal c = if legal c then [c] else '\\' :: octDigits c.toNat := by simp [escChar, h1, h2]

/-- for every Latin-1 string and every choice of `legal`: un-quoting the escaped text gives the text back -/
theorem unquote_quote (legal : Char → Bool) : ∀ (s : Str), (∀ c ∈ s, c.toNat < 256) → unq (quoteBody legal s) = s
  | [], _ => by simp [quoteBody, unq]
  | c :: r, h => by
    have ih := unquote_quote legal r (fun x hx => h x (by simp [hx]))
    simp only [quoteBody]
    by_cases h1 : c = '"'
    · subst h1; rw [escChar_quote]; simp only [List.cons_append, List.nil_append]
      rw [unq_esc_lit _ _ (Or.inl rfl), ih]
    · by_cases h2 : c = '\\'
      · subst h2; rw [escChar_bs]; simp only [List.cons_append, List.nil_append]
        rw [unq_esc_lit _ _ (Or.inr rfl), ih]
      · rw [escChar_other legal c h1 h2]
        cases legal c with
        | true => simp only [if_true, List.cons_append, List.nil_append]; rw [unq_cons_ne c _ h2, ih]
        | false =>
          simp only [Bool.false_eq_true, if_false, List.cons_append]
          rw [unq_oct c.toNat (h c (by simp)) _, ih, Char.ofNat_toNat]

/-- the whole `_unquote`: `"` + escaped text + `"` -/
theorem cUnquote_quote (legal : Char → Bool) (s : Str) (h : ∀ c ∈ s, c.toNat < 256) :
    cUnquote ('"' :: (quoteBody legal s ++ ['"'])) = s := by
  rw [cUnquote_dq, unquote_quote legal s h]

/-! ### non-vacuity -/
/-- `SID=31d4; lang="en-US";  SID=x` -/
def exPairs : List Pair :=
  [⟨[], "SID".toList, "31d4".toList, false⟩, ⟨[' '], "lang".toList, "en-US".toList, true⟩, ⟨[' ', '\t'], "SID".toList, "x".toList, false⟩]
example : renderCookies exPairs = "SID=31d4; lang=\"en-US\"; \tSID=x".toList := by decide +kernel
example : ∀ p ∈ exPairs, p.valid = true := by decide +kernel
example : getCookieValues (some (renderCookies exPairs)) "SID".toList = some ["31d4".toList, "x".toList] := by decide +kernel
example : reqCookies (some (renderCookies exPairs)) = [("SID".toList, "31d4".toList), ("lang".toList, "en-US".toList)] := by decide +kernel
example : getCookieValues (some (renderCookies exPairs)) "none".toList = none := by decide +kernel
-- lenient readings outside the grammar: bad names are skipped, `""` is the empty value, escapes are decoded
example : reqJar (some "a b=1; =x; c=\"\"; d=\"\\101\\\"\\\\z\"; e".toList) =
    [("c".toList, [[]]), ("d".toList, ["A\"\\z".toList]), ("e".toList, [[]])] := by decide +kernel
example : quoteBody (fun c => c.isAlphanum) "a\"\\;".toList = "a\\\"\\\\\\073".toList := by decide +kernel

end Ck
