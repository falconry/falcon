import FalconModel.Cors
/-! C20: the policy theorems for `processF` — `CORSMiddleware.process_response` as it is in the tree (with the F12 repair) —
    through its three stages (origin/credentials grant, expose-headers, preflight patch): `changed_only_for_allowed_origin`,
    `others_untouched`, `allow_untouched_unless_preflight`, `credentialsF_only_configured`, `credentialsF_imply_echo`,
    `wildcard_never_with_credentials`, `preflight_approved_iff`, `approved_preflight_exact`, `preflight_removes_allow`.
    `Cors.lean` has `denied_preflight_grants_nothing` for `processF` and, for `process` (before the repair),
    `no_origin_untouched`, `disallowed_untouched`, `credentials_only_configured`, `credentials_imply_echo`, `f12_witness`. -/
namespace Co

/-- the preflight patch adds only `Access-Control-Allow-Methods`, `…-Allow-Headers` and `…-Max-Age` -/
theorem preflightStage_absent (r : Req) (s : Bool) (h : Hdrs) (k : H) (h1 : k ≠ .acam) (h2 : k ≠ .acah) (h3 : k ≠ .acma)
    (hk : get h k = none) : get (preflightStage r s h) k = none := by
  unfold preflightStage
  split
  · split
    · exact get_del_any _ _ _ (get_del_any _ _ _ (get_del_any _ _ _ (get_del_any _ _ _ (get_del_any _ _ _
        (get_del_any _ _ _ (get_del_any _ _ _ hk))))))
    · rw [get_set_ne _ _ _ _ h3, get_set_ne _ _ _ _ h2, get_set_ne _ _ _ _ h1]
      exact get_del_any _ _ _ hk
  · exact hk

/-- `Access-Control-Allow-Origin` is left alone, or deleted together with `Access-Control-Allow-Credentials` by a denied
    preflight -/
theorem preflightStage_acao (r : Req) (s : Bool) (h : Hdrs) :
    get (preflightStage r s h) .acao = get h .acao ∨
      get (preflightStage r s h) .acao = none ∧ get (preflightStage r s h) .acac = none := by
  unfold preflightStage
  split
  · split
    · exact Or.inr ⟨get_del_any _ _ _ (get_del_self _ _), get_del_self _ _⟩
    · left
      simp only [get_set_ne, get_del_ne, ne_eq, reduceCtorEq, not_false_eq_true]
  · exact Or.inl rfl

/-- the preflight patch touches no header outside the CORS grants and `Allow` -/
theorem preflightStage_other (r : Req) (s : Bool) (h : Hdrs) (n : Nat) :
    get (preflightStage r s h) (.other n) = get h (.other n) := by
  unfold preflightStage
  split
  · split
    · simp only [get_del_ne, ne_eq, reduceCtorEq, not_false_eq_true]
    · simp only [get_set_ne, get_del_ne, ne_eq, reduceCtorEq, not_false_eq_true]
  · rfl

/-- approved = `Access-Control-Allow-Methods` present afterwards -/
theorem preflightStage_acam (r : Req) (s : Bool) (h : Hdrs) (hm : get h .acam = none) :
    (get (preflightStage r s h) .acam).isSome = (s && r.isOptions && truthy r.acrm && (get h .allow).isSome) := by
  unfold preflightStage
  cases s && r.isOptions && truthy r.acrm with
  | false => simp only [Bool.false_eq_true, if_false, hm, Option.isSome_none, Bool.false_and]
  | true =>
    cases get h .allow with
    | none => simp only [if_true, get_del_ne, ne_eq, reduceCtorEq, not_false_eq_true, get_del_self, Option.isSome_none,
        Bool.and_false]
    | some a => simp only [if_true, get_set_ne, ne_eq, reduceCtorEq, not_false_eq_true, get_set_self, Option.isSome_some,
        Bool.and_true]

/-! ### no Origin / Origin not allowed: nothing is touched -/
theorem noOriginF_untouched (c : Cfg) (r : Req) (h : Hdrs) (s : Bool) (ho : r.origin = none) :
    processF c r h s = h := by simp [processF, ho]

theorem disallowedF_untouched (c : Cfg) (r : Req) (h : Hdrs) (s : Bool) (o : String)
    (ho : r.origin = some o) (hd : c.allowOrigins.has o = false) : processF c r h s = h := by
  simp [processF, ho, hd]

/-- **grants only for an allowed origin**: if the response differs in any header, the request carried an Origin that the
    configuration allows -/
theorem changed_only_for_allowed_origin (c : Cfg) (r : Req) (h : Hdrs) (s : Bool)
    (hne : processF c r h s ≠ h) : ∃ o, r.origin = some o ∧ c.allowOrigins.has o = true := by
  cases ho : r.origin with
  | none => exact absurd (noOriginF_untouched c r h s ho) hne
  | some o =>
    cases ha : c.allowOrigins.has o with
    | false => exact absurd (disallowedF_untouched c r h s o ho ha) hne
    | true => exact ⟨o, rfl, ha⟩

/-- headers other than the six grant headers and `Allow` are never touched -/
theorem others_untouched (c : Cfg) (r : Req) (h : Hdrs) (s : Bool) (n : Nat) :
    get (processF c r h s) (.other n) = get h (.other n) := by
  cases ho : r.origin with
  | none => rw [noOriginF_untouched c r h s ho]
  | some o =>
    cases ha : c.allowOrigins.has o with
    | false => rw [disallowedF_untouched c r h s o ho ha]
    | true =>
      rw [processF_stages c r h s o ho ha, preflightStage_other, exposeStage_get _ _ _ (by simp),
        grantStage_get _ _ _ _ (by simp) (by simp)]

/-- outside a successful preflight exchange only the two origin grants and `Access-Control-Expose-Headers` can change -/
theorem processF_get_of_no_preflight (c : Cfg) (r : Req) (h : Hdrs) (s : Bool) (k : H)
    (hnp : (s && r.isOptions && truthy r.acrm) = false) (h1 : k ≠ .acao) (h2 : k ≠ .acac) (h3 : k ≠ .aceh) :
    get (processF c r h s) k = get h k := by
  cases ho : r.origin with
  | none => rw [noOriginF_untouched c r h s ho]
  | some o =>
    cases ha : c.allowOrigins.has o with
    | false => rw [disallowedF_untouched c r h s o ho ha]
    | true =>
      rw [processF_stages c r h s o ho ha, preflightStage, hnp, if_neg Bool.false_ne_true, exposeStage_get _ _ _ h3,
        grantStage_get _ _ _ _ h1 h2]

/-- `Allow` is touched only by a successful preflight exchange -/
theorem allow_untouched_unless_preflight (c : Cfg) (r : Req) (h : Hdrs) (s : Bool)
    (hnp : (s && r.isOptions && truthy r.acrm) = false) : get (processF c r h s) .allow = get h .allow :=
  processF_get_of_no_preflight c r h s .allow hnp (by simp) (by simp) (by simp)

/-- credentials are granted by the middleware only to an allowed origin that is configured for credentials -/
theorem credentialsF_only_configured (c : Cfg) (r : Req) (h : Hdrs) (s : Bool)
    (h0 : get h .acac = none) (hres : (get (processF c r h s) .acac).isSome = true) :
    ∃ o, r.origin = some o ∧ c.allowOrigins.has o = true ∧ c.allowCredentials.has o = true := by
  cases ho : r.origin with
  | none => rw [noOriginF_untouched c r h s ho, h0] at hres; cases hres
  | some o =>
    cases ha : c.allowOrigins.has o with
    | false => rw [disallowedF_untouched c r h s o ho ha, h0] at hres; cases hres
    | true =>
      refine ⟨o, rfl, ha, ?_⟩
      cases hc : c.allowCredentials.has o with
      | true => rfl
      | false =>
        have e1 : get (exposeStage c (grantStage c o h)) .acac = none := by
          rw [exposeStage_get _ _ _ (by simp), grantStage_acac c o h hc, h0]
        rw [processF_stages c r h s o ho ha, preflightStage_absent r s _ .acac (by simp) (by simp) (by simp) e1] at hres
        cases hres

/-- **echo, never a wildcard of the policy's own**: whenever the middleware grants credentials, the
    `Access-Control-Allow-Origin` it leaves is the request's own Origin -/
theorem credentialsF_imply_echo (c : Cfg) (r : Req) (h : Hdrs) (s : Bool)
    (h0 : get h .acac = none) (h1 : get h .acao = none)
    (hres : (get (processF c r h s) .acac).isSome = true) :
    ∃ o, r.origin = some o ∧ get (processF c r h s) .acao = some o := by
  obtain ⟨o, ho, ha, hc⟩ := credentialsF_only_configured c r h s h0 hres
  refine ⟨o, ho, ?_⟩
  rw [processF_stages c r h s o ho ha] at hres ⊢
  -- a denied preflight deletes both headers, so the credentials grant would be gone too
  rcases preflightStage_acao r s (exposeStage c (grantStage c o h)) with e | ⟨_, e⟩
  · rw [e, exposeStage_get _ _ _ (by simp), grantStage_acao c o h h1, hc, if_pos rfl]
  · rw [e] at hres; cases hres

/-- **the wildcard never coexists with a credentials grant of the middleware** (for a request Origin other than the
    literal `*`) -/
theorem wildcard_never_with_credentials (c : Cfg) (r : Req) (h : Hdrs) (s : Bool)
    (h0 : get h .acac = none) (h1 : get h .acao = none) (hstar : r.origin ≠ some "*")
    (hres : (get (processF c r h s) .acac).isSome = true) : get (processF c r h s) .acao ≠ some "*" := by
  obtain ⟨o, ho, he⟩ := credentialsF_imply_echo c r h s h0 h1 hres
  rw [he]
  intro hc
  apply hstar
  rw [ho, hc]

/-- **a preflight is approved iff** the origin is allowed and the exchange is a successful OPTIONS carrying
    `Access-Control-Request-Method` whose response advertises an `Allow` (approved = `Access-Control-Allow-Methods` present;
    the responder is assumed not to have set that header itself) -/
theorem preflight_approved_iff (c : Cfg) (r : Req) (h : Hdrs) (s : Bool) (hm : get h .acam = none) :
    (get (processF c r h s) .acam).isSome = true ↔
      (∃ o, r.origin = some o ∧ c.allowOrigins.has o = true) ∧
        s = true ∧ r.isOptions = true ∧ truthy r.acrm = true ∧ (get h .allow).isSome = true := by
  cases ho : r.origin with
  | none => rw [noOriginF_untouched c r h s ho, hm]; simp
  | some o =>
    cases ha : c.allowOrigins.has o with
    | false => rw [disallowedF_untouched c r h s o ho ha, hm]; simp [ha]
    | true =>
      have e1 : get (exposeStage c (grantStage c o h)) .acam = none := by
        rw [exposeStage_get _ _ _ (by simp), grantStage_get _ _ _ _ (by simp) (by simp)]; exact hm
      have e2 : get (exposeStage c (grantStage c o h)) .allow = get h .allow := by
        rw [exposeStage_get _ _ _ (by simp), grantStage_get _ _ _ _ (by simp) (by simp)]
      rw [processF_stages c r h s o ho ha, preflightStage_acam r s _ e1, e2]
      simp only [Bool.and_eq_true, Option.some.injEq, exists_eq_left', ha, true_and, and_assoc]

/-- an approved preflight names exactly the advertised `Allow` as the permitted methods, echoes the requested headers
    (`*` when none were named), sets the 24 h max-age and removes `Allow` -/
theorem approved_preflight_exact (c : Cfg) (r : Req) (h : Hdrs) (o a : String)
    (ho : r.origin = some o) (ha : c.allowOrigins.has o = true)
    (hpre : (r.isOptions && truthy r.acrm) = true) (hal : get h .allow = some a) :
    get (processF c r h true) .acam = some a ∧
    get (processF c r h true) .acah = some (r.acrh.getD "*") ∧
    get (processF c r h true) .acma = some "86400" ∧
    get (processF c r h true) .allow = none := by
  rw [processF_stages c r h true o ho ha]
  have e2 : get (exposeStage c (grantStage c o h)) .allow = some a := by
    rw [exposeStage_get _ _ _ (by simp), grantStage_get _ _ _ _ (by simp) (by simp)]; exact hal
  unfold preflightStage
  simp only [Bool.true_and, hpre, if_true, e2]
  refine ⟨?_, ?_, ?_, ?_⟩ <;>
    simp only [get_set_ne, get_set_self, get_del_self, ne_eq, reduceCtorEq, not_false_eq_true]

/-- a successful preflight always loses its `Allow` header, approved or not -/
theorem preflight_removes_allow (c : Cfg) (r : Req) (h : Hdrs) (o : String)
    (ho : r.origin = some o) (ha : c.allowOrigins.has o = true)
    (hpre : (r.isOptions && truthy r.acrm) = true) : get (processF c r h true) .allow = none := by
  cases hal : get h .allow with
  | some a => exact (approved_preflight_exact c r h o a ho ha hpre hal).2.2.2
  | none =>
    rw [processF_stages c r h true o ho ha]
    refine preflightStage_absent r true _ .allow (by simp) (by simp) (by simp) ?_
    rw [exposeStage_get _ _ _ (by simp), grantStage_get _ _ _ _ (by simp) (by simp), hal]

end Co
