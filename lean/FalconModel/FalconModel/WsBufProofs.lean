import FalconModel.WsBuf
/-! C18, the buffered receiver `Wb`.  The specification of both receive paths is the plain FIFO queue `Fq` (used here and in
    WsBufRefine.lean).  The safety invariant is inductive over every atomic segment and hence true in every state reachable
    under every schedule; every segment, and every accepted log, is a run of `Fq` under the abstraction function `held`
    (queue ++ the event the pump has in hand), with conservation as its corollary; the bound `held ≤ capacity + 1`; no lost
    wake-up; the disconnect flag; `stop()`. -/
namespace Fq

inductive Op where
  | enq (m : Nat) | deq (m : Nat)
deriving Repr, DecidableEq

def run : List Nat → List Op → Option (List Nat)
  | q, [] => some q
  | q, .enq m :: r => run (q ++ [m]) r
  | [], .deq _ :: _ => none
  | m' :: q, .deq m :: r => if m' = m then run q r else none

def enqs : List Op → List Nat
  | [] => []
  | .enq m :: r => m :: enqs r
  | .deq _ :: r => enqs r

def deqs : List Op → List Nat
  | [] => []
  | .enq _ :: r => deqs r
  | .deq m :: r => m :: deqs r

theorem run_append (a b : List Op) : ∀ q, run q (a ++ b) = (run q a).bind (fun q' => run q' b) := by
  intro q
  fun_induction run q a with
  | case1 q => rfl
  | case2 q m r ih => exact ih
  | case3 => rfl
  | case4 q m r ih => rw [List.cons_append, run, if_pos rfl]; exact ih
  | case5 m' q m r hne => rw [List.cons_append, run, if_neg hne]; rfl

theorem run_sound (ops : List Op) : ∀ q q', run q ops = some q' → deqs ops ++ q' = q ++ enqs ops := by
  intro q q' h
  fun_induction run q ops with
  | case1 q => cases h; exact (List.append_nil _).symm
  | case2 q m r ih => rw [deqs, enqs, ih h, List.append_assoc]; rfl
  | case3 => cases h
  | case4 q m r ih => exact congrArg (m :: ·) (ih h)
  | case5 => cases h

theorem run_deq_prefix (a b : List Nat) : run (a ++ b) (a.map Op.deq) = some b := by
  induction a with
  | nil => simp [run]
  | cons m r ih => simp only [List.cons_append, List.map_cons, run, if_true]; exact ih

end Fq

namespace Wb

/-- the part of the invariant that mentions neither `pump` nor `disc`: it survives every move of the pump (`Core.frame`) -/
structure Core (s : S) : Prop where
  cap_pos : 0 < s.cap
  q_le : s.q.length ≤ s.cap
  pop_attr : s.popWAttr = true ↔ s.popW = some false
  put_attr : s.putWAttr = true ↔ s.putW = some false
  pop_pending_empty : s.popW = some false → s.q = []
  put_pending_full : s.putW = some false → s.q.length = s.cap
  app_wait : s.app = .waiting ↔ s.popW ≠ none

structure Inv (s : S) : Prop extends Core s where
  pump_hold : (∃ m, s.pump = .holding m) ↔ s.putW ≠ none

theorem inv_init (cap : Nat) (h : 0 < cap) : Inv { cap := cap } := by
  refine ⟨⟨h, Nat.zero_le _, ?_, ?_, ?_, ?_, ?_⟩, ?_⟩ <;> simp

/-! Both pump branches that have an event `m` in hand (`got m`, and `holding m` once its waiter was resolved) end the same
    way: park for room if the queue is full, else enqueue.  `pumpPut` is that common tail. -/

def pumpPut (s : S) (m : Nat) : List Ev × S :=
  if s.q.length ≥ s.cap then ([Ev.mkfutPump], { s with pump := .holding m, putW := some false, putWAttr := true })
  else pumpEnqueue s m

theorem pumpSegs_got {s : S} {m : Nat} (nx : Option Ev) (h : s.pump = .got m) :
    pumpSegs s nx = [pumpPut { s with disc := s.disc || m == discMsg } m] := by
  unfold pumpSegs pumpPut
  rw [h]
  dsimp only
  split <;> rfl

theorem pumpSegs_holding {s : S} {m : Nat} (nx : Option Ev) (h : s.pump = .holding m) :
    pumpSegs s nx = if s.putW = some true then [pumpPut { s with putW := none, putWAttr := false } m] else [] := by
  obtain ⟨q, cap, pump, putW, popW, popWAttr, putWAttr, disc, app⟩ := s
  subst h
  unfold pumpSegs pumpPut
  dsimp only
  by_cases hp : putW = some true
  · rw [if_pos hp, if_pos (by rw [hp]; rfl)]
    split <;> rfl
  · rw [if_neg hp, if_neg (by simpa using hp)]

theorem mem_otherSegs {s : S} {seg : List Ev × S} :
    seg ∈ otherSegs s ↔ seg = ([if s.disc then .sendDisc else .sendOk], s) ∨
      seg = ([.stop], { s with pump := .exited, putW := none, putWAttr := false }) := by
  simp only [otherSegs, List.mem_cons, List.mem_nil_iff, or_false]

theorem forall_mem_segments {s : S} {nx : Option Ev} {P : List Ev × S → Prop}
    (pull : s.pump = .idle → P ([.pull], { s with pump := .pulling }))
    (deliver : ∀ m, s.pump = .pulling → P ([.deliver m], { s with pump := .got m }))
    (got : ∀ m, s.pump = .got m → P (pumpPut { s with disc := s.disc || m == discMsg } m))
    (resumed : ∀ m, s.pump = .holding m → s.putW = some true → P (pumpPut { s with putW := none, putWAttr := false } m))
    (recv : s.app = .idle → P (popSeg s [.recvStart]))
    (woken : s.app = .waiting → s.popW = some true → P (popSeg { s with popW := none, popWAttr := false } []))
    (synthetic : s.app = .waiting → s.pump = .exited →
      P ([.cancelApp, .recvSynthetic], { s with popW := none, popWAttr := false, app := .idle }))
    (cancelled : s.app = .waiting → P ([.recvCancelled], { s with popW := none, popWAttr := false, app := .idle }))
    (send : P ([if s.disc then .sendDisc else .sendOk], s))
    (stop : P ([.stop], { s with pump := .exited, putW := none, putWAttr := false })) :
    ∀ seg ∈ segments s nx, P seg := by
  intro seg hseg
  simp only [segments, List.mem_append] at hseg
  rcases hseg with (hp | ha) | ho
  · cases hpc : s.pump with
    | idle =>
      simp only [pumpSegs, hpc, List.mem_singleton] at hp
      exact hp ▸ pull hpc
    | pulling =>
      simp only [pumpSegs, hpc] at hp
      split at hp
      · exact List.mem_singleton.mp hp ▸ deliver _ hpc
      · cases hp
    | got m =>
      rw [pumpSegs_got nx hpc] at hp
      exact List.mem_singleton.mp hp ▸ got m hpc
    | holding m =>
      rw [pumpSegs_holding nx hpc] at hp
      split at hp
      · rename_i hres
        exact List.mem_singleton.mp hp ▸ resumed m hpc hres
      · cases hp
    | exited =>
      simp only [pumpSegs, hpc] at hp
      cases hp
  · unfold appSegs at ha
    split at ha
    · rename_i hap
      exact List.mem_singleton.mp ha ▸ recv hap
    · rename_i hap
      rcases List.mem_append.mp ha with ha | ha
      · split at ha
        · rename_i hres
          exact List.mem_singleton.mp ha ▸ woken hap (by simpa using hres)
        · split at ha
          · rename_i hex
            refine List.mem_singleton.mp ha ▸ synthetic hap ?_
            cases hpc : s.pump with
            | exited => rfl
            | _ => rw [hpc] at hex; cases hex
          · cases ha
      · exact List.mem_singleton.mp ha ▸ cancelled hap
  · rcases mem_otherSegs.mp ho with ho | ho
    · exact ho ▸ send
    · exact ho ▸ stop

theorem pumpEnqueue_eq (s : S) (m : Nat) :
    pumpEnqueue s m =
      (.append m :: ((if s.popWAttr then [.resolveApp] else []) ++ if s.disc then [] else [.pull]),
       { s with q := s.q ++ [m], popW := if s.popWAttr then s.popW.map (fun _ => true) else s.popW, popWAttr := false,
                pump := if s.disc then .exited else .pulling }) := by
  obtain ⟨q, cap, pump, putW, popW, popWAttr, putWAttr, disc, app⟩ := s
  cases popWAttr <;> cases disc <;> rfl

theorem popSeg_nil {s : S} (pre : List Ev) (h : s.q = []) :
    popSeg s pre = (pre ++ [.mkfutApp], { s with popW := some false, popWAttr := true, app := .waiting }) := by
  unfold popSeg
  rw [h]

theorem popSeg_cons {s : S} {m : Nat} {rest : List Nat} (pre : List Ev) (h : s.q = m :: rest) :
    popSeg s pre =
      (pre ++ (.popleft m :: if s.putWAttr then [.resolvePump] else []) ++ [.recvRet m],
       { s with q := rest, putW := if s.putWAttr then s.putW.map (fun _ => true) else s.putW, putWAttr := false,
                app := .idle }) := by
  obtain ⟨q, cap, pump, putW, popW, popWAttr, putWAttr, disc, app⟩ := s
  subst h
  cases putWAttr <;> rfl

/-- `w` is a waiter cell, `a` the attribute that says whether it is pending -/
theorem resolve_waiter {a : Bool} {w : Option Bool} (h : a = true ↔ w = some false) :
    (if a then w.map (fun _ => true) else w) ≠ some false ∧ ((if a then w.map (fun _ => true) else w) = none ↔ w = none) := by
  cases a with
  | false => exact ⟨fun hw => (nomatch h.mpr hw), Iff.rfl⟩
  | true => rw [h.mp rfl]; decide

theorem Core.frame {s : S} (h : Core s) (p : PumpPc) (d : Bool) : Core { s with pump := p, disc := d } :=
  ⟨h.cap_pos, h.q_le, h.pop_attr, h.put_attr, h.pop_pending_empty, h.put_pending_full, h.app_wait⟩

theorem Core.clearPut {s : S} (h : Core s) : Core { s with putW := none, putWAttr := false } :=
  ⟨h.cap_pos, h.q_le, h.pop_attr, ⟨nofun, nofun⟩, h.pop_pending_empty, nofun, h.app_wait⟩

theorem Inv.putW_none {s : S} (h : Inv s) (hp : ∀ m, s.pump ≠ .holding m) : s.putW = none :=
  Decidable.of_not_not fun hne => let ⟨m, hm⟩ := h.pump_hold.mpr hne; hp m hm

theorem Inv.setPump {s : S} (h : Inv s) (p : PumpPc) (hs : ∀ m, s.pump ≠ .holding m) (hp : ∀ m, p ≠ .holding m) :
    Inv { s with pump := p } :=
  ⟨h.toCore.frame p s.disc, ⟨fun ⟨m, hm⟩ => absurd hm (hp m), fun hne => absurd (h.putW_none hs) hne⟩⟩

theorem Inv.clearPop {s : S} (h : Inv s) : Inv { s with popW := none, popWAttr := false, app := .idle } :=
  ⟨⟨h.cap_pos, h.q_le, ⟨nofun, nofun⟩, h.put_attr, nofun, h.put_pending_full, ⟨nofun, fun hn => absurd rfl hn⟩⟩, h.pump_hold⟩

theorem pumpEnqueue_inv (s : S) (m : Nat) (h : Core s) (hlt : s.q.length < s.cap)
    (hput : s.putW = none) :
    Inv (pumpEnqueue s m).2 := by
  rw [pumpEnqueue_eq]
  obtain ⟨hne, hnone⟩ := resolve_waiter h.pop_attr
  refine ⟨⟨h.cap_pos, ?_, ⟨nofun, fun hp => absurd hp hne⟩, h.put_attr, fun hp => absurd hp hne, ?_,
    h.app_wait.trans (not_congr hnone.symm)⟩, ⟨fun ⟨m', hm'⟩ => ?_, fun hp => absurd hput hp⟩⟩
  · rw [List.length_append]; exact hlt
  · intro hp; rw [hput] at hp; cases hp
  · dsimp only at hm'; split at hm' <;> cases hm'

theorem pumpPut_inv (s : S) (m : Nat) (h : Core s) (hput : s.putW = none) : Inv (pumpPut s m).2 := by
  unfold pumpPut
  split
  · rename_i hfull
    exact ⟨⟨h.cap_pos, h.q_le, h.pop_attr, ⟨fun _ => rfl, fun _ => rfl⟩, h.pop_pending_empty,
      fun _ => Nat.le_antisymm h.q_le hfull, h.app_wait⟩, ⟨fun _ => nofun, fun _ => ⟨m, rfl⟩⟩⟩
  · rename_i hroom
    exact pumpEnqueue_inv s m h (Nat.lt_of_not_ge hroom) hput

/-- `popSeg` sets `app` itself, so the invariant is needed only up to that field -/
theorem popSeg_inv (s : S) (pre : List Ev) (h : Inv { s with app := .idle }) : Inv (popSeg s pre).2 := by
  cases hq : s.q with
  | nil =>
    rw [popSeg_nil pre hq]
    exact ⟨⟨h.cap_pos, h.q_le, ⟨fun _ => rfl, fun _ => rfl⟩, h.put_attr, fun _ => hq, h.put_pending_full,
      ⟨fun _ => nofun, fun _ => rfl⟩⟩, h.pump_hold⟩
  | cons m rest =>
    rw [popSeg_cons pre hq]
    obtain ⟨hne, hnone⟩ := resolve_waiter h.put_attr
    have hle : rest.length ≤ s.cap := Nat.le_of_succ_le (hq ▸ h.q_le : (m :: rest).length ≤ s.cap)
    have hpop : s.popW = none := Decidable.of_not_not fun hn => by cases h.app_wait.mpr hn
    exact ⟨⟨h.cap_pos, hle, h.pop_attr, ⟨nofun, fun hp => absurd hp hne⟩, (fun hp => by rw [hpop] at hp; cases hp),
      fun hp => absurd hp hne, h.app_wait⟩, h.pump_hold.trans (not_congr hnone.symm)⟩

/-- Every atomic segment of either task preserves the invariant: so it holds under every schedule. -/
theorem segments_preserve (s : S) (nx : Option Ev) (h : Inv s) :
    ∀ seg ∈ segments s nx, Inv seg.2 := by
  apply forall_mem_segments
  case pull => exact fun hpc => h.setPump _ (fun m hm => by rw [hpc] at hm; cases hm) nofun
  case deliver => exact fun m hpc => h.setPump _ (fun m hm => by rw [hpc] at hm; cases hm) nofun
  case got =>
    exact fun m hpc => pumpPut_inv _ m (h.toCore.frame s.pump _) (h.putW_none fun m hm => by rw [hpc] at hm; cases hm)
  case resumed => exact fun m _ _ => pumpPut_inv _ m h.toCore.clearPut rfl
  case recv => exact fun hap => popSeg_inv s _ (hap ▸ h)
  case woken => exact fun _ _ => popSeg_inv _ _ h.clearPop
  case synthetic => exact fun _ _ => h.clearPop
  case cancelled => exact fun _ => h.clearPop
  case send => exact h
  case stop => exact ⟨h.toCore.clearPut.frame .exited s.disc, ⟨fun ⟨_, hm⟩ => (by cases hm), fun hn => absurd rfl hn⟩⟩

#print axioms segments_preserve
def ops : List Ev → List Fq.Op
  | [] => []
  | .deliver m :: r => .enq m :: ops r
  | .recvRet m :: r => .deq m :: ops r
  | _ :: r => ops r

theorem ops_append (a b : List Ev) : ops (a ++ b) = ops a ++ ops b := by
  induction a with
  | nil => rfl
  | cons e r ih =>
    cases e with
    | deliver m => exact congrArg (.enq m :: ·) ih
    | recvRet m => exact congrArg (.deq m :: ·) ih
    | _ => exact ih

theorem ops_enqs (l : List Ev) : Fq.enqs (ops l) = delivered l := by
  induction l with
  | nil => rfl
  | cons e r ih =>
    cases e with
    | deliver m => exact congrArg (m :: ·) ih
    | _ => exact ih

theorem ops_deqs (l : List Ev) : Fq.deqs (ops l) = returned l := by
  induction l with
  | nil => rfl
  | cons e r ih =>
    cases e with
    | recvRet m => exact congrArg (m :: ·) ih
    | _ => exact ih

/-- a pump segment that starts with `m` in hand is a stutter: `m` is still held, behind the queue -/
theorem pumpPut_refines (s0 s : S) (m : Nat) (hb : held s0 = s.q ++ [m]) :
    Fq.run (held s0) (ops (pumpPut s m).1) = some (held (pumpPut s m).2) := by
  rw [hb]
  unfold pumpPut
  split
  · rfl
  · rw [pumpEnqueue_eq]
    cases s.popWAttr <;> cases s.disc <;> exact congrArg some (List.append_nil _).symm

theorem popSeg_refines (s0 : S) (pre : List Ev) (hpre : ops pre = []) :
    Fq.run (held s0) (ops (popSeg s0 pre).1) = some (held (popSeg s0 pre).2) := by
  cases hq : s0.q with
  | nil => rw [popSeg_nil pre hq, ops_append, hpre]; rfl
  | cons m rest =>
    rw [popSeg_cons pre hq]
    cases s0.putWAttr <;> simp [ops_append, hpre, ops, Fq.run, held, hq]

theorem segment_refines (s : S) (nx : Option Ev) :
    ∀ seg ∈ segments s nx, Ev.stop ∉ seg.1 → Fq.run (held s) (ops seg.1) = some (held seg.2) := by
  apply forall_mem_segments
  case pull => intro hpc _; simp [held, hpc, ops, Fq.run]
  case deliver => intro m hpc _; simp [held, hpc, ops, Fq.run]
  case got => intro m hpc _; exact pumpPut_refines s _ m (by simp [held, hpc])
  case resumed => intro m hpc _ _; exact pumpPut_refines s _ m (by simp [held, hpc])
  case recv => intro _ _; exact popSeg_refines s _ rfl
  case woken => intro _ _ _; exact popSeg_refines { s with popW := none, popWAttr := false } [] rfl
  case synthetic => intro _ _ _; rfl
  case cancelled => intro _ _; rfl
  case send => intro _; cases s.disc <;> rfl
  case stop => intro hns; exact absurd (List.mem_singleton.mpr rfl) hns

/-- **C18 `segments_conserve`**: apart from `stop()` (which drops what the cancelled pump holds), every atomic segment of
    either task keeps `returned-to-the-app ++ held-by-the-framework = held-before ++ delivered-by-the-server`, in order -/
theorem segments_conserve (s : S) (nx : Option Ev) :
    ∀ seg ∈ segments s nx, Ev.stop ∉ seg.1 → returned seg.1 ++ held seg.2 = held s ++ delivered seg.1 := by
  intro seg hseg hns
  have h := Fq.run_sound _ _ _ (segment_refines s nx seg hseg hns)
  rwa [ops_deqs, ops_enqs] at h

theorem isPrefix_eq (a b : List Ev) (h : isPrefix a b = true) : b = a ++ b.drop a.length := by
  induction a generalizing b with
  | nil => rfl
  | cons x xs ih =>
    cases b with
    | nil => cases h
    | cons y ys =>
      simp only [isPrefix, Bool.and_eq_true, decide_eq_true_eq] at h
      obtain ⟨rfl, h2⟩ := h
      exact congrArg (x :: ·) (ih ys h2)

/-- The checker's own Boolean test `invOk` plays no part in the proofs: `Inv` is carried by `segments_preserve`. -/
theorem accept_succ {fuel : Nat} {s s' : S} {e : Ev} {rest : List Ev} {i : Nat} (h : accept (fuel + 1) s (e :: rest) i = .ok s') :
    ∃ evs s1, (evs, s1) ∈ segments s (some e) ∧ e :: rest = evs ++ (e :: rest).drop evs.length ∧
      accept fuel s1 ((e :: rest).drop evs.length) (i + evs.length) = .ok s' := by
  simp only [accept] at h
  split at h
  · cases h
  · split at h
    · rename_i evs s1 hfind
      have hpred := List.find?_some hfind
      simp only [Bool.and_eq_true] at hpred
      exact ⟨evs, s1, List.mem_of_find?_eq_some hfind, isPrefix_eq evs _ hpred.2, h⟩
    · cases h

/-- Cited through its two halves: `buffered_refines_fifo` (WsBufRefine.lean) and `fifo_lossless_once`. -/
theorem accept_refines : ∀ (fuel : Nat) (s : S) (log : List Ev) (i : Nat) (s' : S),
    accept fuel s log i = .ok s' → Ev.stop ∉ log → Fq.run (held s) (ops log) = some (held s') ∧ (Inv s → Inv s') := by
  intro fuel
  induction fuel with
  | zero => intro s log i s' h; cases h
  | succ n ih =>
    intro s log i s' h hns
    cases log with
    | nil => cases h; exact ⟨rfl, id⟩
    | cons e rest =>
      obtain ⟨evs, s1, hmem, hpre, hacc⟩ := accept_succ h
      rw [hpre] at hns ⊢
      obtain ⟨r1, r2⟩ := ih s1 _ _ s' hacc fun hin => hns (List.mem_append_right _ hin)
      refine ⟨?_, fun hinv => r2 (segments_preserve s _ hinv (evs, s1) hmem)⟩
      rw [ops_append, Fq.run_append, segment_refines s _ (evs, s1) hmem fun hin => hns (List.mem_append_left _ hin)]
      exact r1

/-- **C18 `fifo_lossless_once`**: for every log that the trace-inclusion checker accepts from state `s` (no `stop()` in
    it), what `receive()` returned, followed by what the framework still holds, is exactly what it held before followed
    by what the server delivered — same order, nothing lost, nothing duplicated; and the invariant holds at the end. -/
theorem fifo_lossless_once : ∀ (fuel : Nat) (s : S) (log : List Ev) (i : Nat) (s' : S),
    accept fuel s log i = .ok s' → Ev.stop ∉ log → Inv s →
    returned log ++ held s' = held s ++ delivered log ∧ Inv s' := by
  intro fuel s log i s' h hns hinv
  obtain ⟨hr, hi⟩ := accept_refines fuel s log i s' h hns
  have hc := Fq.run_sound _ _ _ hr
  rw [ops_deqs, ops_enqs] at hc
  exact ⟨hc, hi hinv⟩

theorem held_le_capacity_succ (s : S) (h : Inv s) : (held s).length ≤ s.cap + 1 := by
  have hq := h.q_le
  unfold held
  cases s.pump with
  | got m => rw [List.length_append]; exact Nat.succ_le_succ hq
  | holding m => rw [List.length_append]; exact Nat.succ_le_succ hq
  | _ => rw [List.append_nil]; exact Nat.le_succ_of_le hq

/-- F13: capacity + 1 is held only with the queue full and exactly one event in flight in the pump -/
theorem held_succ_only_when_full (s : S) (h : Inv s) (hh : (held s).length = s.cap + 1) :
    s.q.length = s.cap ∧ ((∃ m, s.pump = .got m) ∨ (∃ m, s.pump = .holding m)) := by
  have hq := h.q_le
  unfold held at hh
  cases hp : s.pump with
  | got m => rw [hp, List.length_append] at hh; exact ⟨Nat.succ.inj hh, Or.inl ⟨m, rfl⟩⟩
  | holding m => rw [hp, List.length_append] at hh; exact ⟨Nat.succ.inj hh, Or.inr ⟨m, rfl⟩⟩
  | _ => rw [hp, List.append_nil] at hh; omega

def heldAfter (cap : Nat) (log : List Ev) : Option Nat :=
  match accept (4 * log.length + 8) { cap := cap } log 0 with
  | .ok s => some (held s).length
  | .error _ => none

/-- F13 (known finding): the literal bound "held ≤ capacity" is false — with capacity 1, after one message was queued the
    pump has already pulled and holds the second one -/
theorem f13_witness : heldAfter 1 [.pull, .deliver 0, .append 0, .pull, .deliver 1] = some 2 := by decide

/-- no lost wake-up: a parked `receive()` with a non-empty queue has had its waiter resolved (its resume segment is enabled) -/
theorem no_lost_wakeup (s : S) (h : Inv s) (hw : s.app = .waiting) (hq : s.q ≠ []) : s.popW = some true := by
  have h1 := h.app_wait.mp hw
  cases hp : s.popW with
  | none => exact absurd hp h1
  | some b =>
    cases b with
    | true => rfl
    | false => exact absurd (h.pop_pending_empty hp) hq

theorem popSeg_idle_or_parked (s : S) (pre : List Ev) : (popSeg s pre).2.app = .idle ∨ (popSeg s pre).2.popW = some false := by
  cases hq : s.q with
  | nil => right; rw [popSeg_nil pre hq]
  | cons m rest => left; rw [popSeg_cons pre hq]

/-- a `receive()` whose waiter was resolved can always proceed -/
theorem resolved_receive_enabled (s : S) (hw : s.app = .waiting) (hp : s.popW = some true) :
    appSegs s ≠ [] ∧ ∀ seg ∈ appSegs s, seg.2.app = .idle ∨ seg.2.popW = some false := by
  unfold appSegs
  simp only [hw, hp, beq_self_eq_true, if_true]
  refine ⟨nofun, ?_⟩
  intro seg hseg
  simp only [List.mem_append, List.mem_cons, List.mem_nil_iff, or_false] at hseg
  rcases hseg with hseg | hseg
  · exact hseg ▸ popSeg_idle_or_parked _ _
  · exact hseg ▸ Or.inl rfl

theorem pumpPut_disc (s : S) (m : Nat) : (pumpPut s m).2.disc = s.disc := by
  unfold pumpPut
  split
  · rfl
  · rw [pumpEnqueue_eq]

theorem popSeg_disc (s : S) (pre : List Ev) : (popSeg s pre).2.disc = s.disc := by
  cases hq : s.q with
  | nil => rw [popSeg_nil pre hq]
  | cons m rest => rw [popSeg_cons pre hq]

theorem disc_monotone (s : S) (nx : Option Ev) (hd : s.disc = true) : ∀ seg ∈ segments s nx, seg.2.disc = true := by
  apply forall_mem_segments
  case got => intro m _; rw [pumpPut_disc]; exact Bool.or_eq_true_iff.mpr (Or.inl hd)
  case resumed => intro m _ _; rw [pumpPut_disc]; exact hd
  case recv => intro _; rw [popSeg_disc]; exact hd
  case woken => intro _ _; rw [popSeg_disc]; exact hd
  all_goals intros; exact hd

/-- the disconnect flag is set by the very pump segment that processes the disconnect event — before that event is queued, even when the
    queue is full — so that, by `disc_monotone` and `send_reports_flag`, every later `_send` takes the `sendDisc` branch
    (WebSocketDisconnected) -/
theorem disc_set_by_pump (s : S) (nx : Option Ev) (hp : s.pump = .got discMsg) :
    ∀ seg ∈ pumpSegs s nx, seg.2.disc = true := by
  intro seg hseg
  rw [pumpSegs_got nx hp, List.mem_singleton] at hseg
  rw [hseg, pumpPut_disc]
  exact Bool.or_eq_true_iff.mpr (Or.inr rfl)

theorem send_reports_flag (s : S) (seg : List Ev × S) (h : seg ∈ otherSegs s) (hs : Ev.stop ∉ seg.1) :
    seg.1 = [if s.disc then Ev.sendDisc else Ev.sendOk] ∧ seg.2 = s := by
  rcases mem_otherSegs.mp h with h | h
  · subst h; exact ⟨rfl, rfl⟩
  · subst h; exact absurd (List.mem_singleton.mpr rfl) hs

/-- after `stop()` the pump has no further segment: no further pull is made -/
theorem stop_leaves_no_task (s : S) (nx : Option Ev) (seg : List Ev × S) (h : seg ∈ otherSegs s) (hs : Ev.stop ∈ seg.1) :
    ∀ nx', pumpSegs seg.2 nx' = [] := by
  rcases mem_otherSegs.mp h with h | h
  · subst h
    by_cases hd : s.disc = true <;> simp [hd] at hs
  · subst h
    intro nx'; rfl

end Wb
