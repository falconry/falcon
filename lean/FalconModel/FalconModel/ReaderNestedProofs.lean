import FalconModel.ReaderNested
import FalconModel.MultipartBridge
/-! C14, sync reader: **the flat-cursor theorems transfer to nested delimited readers, at any depth.**

    * `Full`, `*_full`, `readerRun_full` (budget frame): no operation lets the declared budget `rem` fall below what the source
      still holds. A delimited child is created with budget = the parent's whole remaining length, so its budget always covers
      its source; that is what makes the parent's position after the child EXACT (child cursor + child's unread buffer).
    * `delimit_is_lawful_source`: one call of the read callback `delimit(d)` hands to the child, on a parent in a good state:
      returns a prefix of `contentOf d (abs p)` (the text up to the first `d`) of at most the requested length, non-empty
      unless that text is used up, leaves the parent in a good state with exactly those bytes removed, and the remaining
      content is the old one minus those bytes. `delimit_source_lawful`: the same as a `LawfulSource` instance (the
      presentation `Mf.GD` of MultipartBridge.lean restricted to parents in a good state, with `data = contentOf`; it forgets to
      the real `Rd.Delim` by a simulation, and every reader operation is natural in its source - `Mf.readerRun_map`).
    * `nested_history_refines_cursor`: every history on the child refines the flat cursor over that content (by instantiating
      `Rd.public_history_refines_cursor` at the presentation), and the parent is left in a good state at position
      `child cursor + child's unread buffer` - nothing lost, nothing duplicated, never past the delimiter, exactly at the
      delimiter when the child was drained. `parent_resumes`: the parent then continues as a flat cursor from there.
    * `nested_depth_refines`: by induction over programs (`Rn.Prog`), generalising the source type: the same at ANY nesting depth.
      The child of a lawful source is presented by `GP` (= `Mf.GD` + "the parent's budget stays covering"), which is again a
      lawful source, so the induction hypothesis applies to it; `runProg_map` (naturality of whole programs, using
      `delimMap_sim`: `delimit` maps simulations to simulations) moves between the presentation and the real nested `Rd.Delim`. -/
namespace Rn
open Rd
open Mf (mapR Sim GD contentOf childGD childGD_facts childGD_run childGD_map toDelim_sim readerRun_map readerStep_map readUntil_map
  stopAt_min stopAt_drop contentOf_length contentOf_drop gd_read firstRead consumeD finishRU_eq)

section lawful
variable {σ : Type} [Source σ] [LawfulSource σ]
open LawfulSource (data readLen)

/-- the declared budget covers everything the source can still deliver (true of every delimited child: its budget is the
    parent's whole remaining length) -/
def Full (r : R σ) : Prop := ((data r.src).length : Int) ≤ r.rem

theorem full_read (s : σ) (n rem : Int) (hn : 0 < n) (h : ((data s).length : Int) ≤ rem) :
    ((data (Source.read s n).2).length : Int) ≤ rem - (Source.read s n).1.length ∧
    ((Source.read s n).1.length = 0 → data (Source.read s n).2 = []) := by
  have hl : (Source.read s n).1.length = readLen s n := by
    rw [LawfulSource.read_fst, List.length_take, Nat.min_eq_left (LawfulSource.readLen_le_data s n)]
  rw [LawfulSource.read_snd_data, List.length_drop, hl]
  refine ⟨by have := LawfulSource.readLen_le_data s n; omega, fun hz => ?_⟩
  rw [hz, List.drop_zero]
  exact Classical.byContradiction fun hd => Nat.ne_of_gt (LawfulSource.readLen_pos s n hn hd) hz

theorem full_of_nil {r : R σ} (h : data r.src = []) (hr : 0 ≤ r.rem) : Full r := by
  rw [Full, h]
  exact hr

theorem full_dite {α : Type} (c : Prop) [Decidable c] (a b : α × R σ) (ha : c → Full a.2) (hb : ¬ c → Full b.2) :
    Full (if c then a else b).2 := by
  split
  · exact ha ‹_›
  · exact hb ‹_›

theorem full_ite {α : Type} (c : Prop) [Decidable c] (a b : α × R σ) (ha : Full a.2) (hb : Full b.2) :
    Full (if c then a else b).2 :=
  full_dite c a b (fun _ => ha) (fun _ => hb)

theorem performReadLoop_full : ∀ (fuel : Nat) (size : Int) (result : Bytes) (cl : Int) (r : R σ),
    Full r → Full (performReadLoop fuel size result cl r).2 := by
  intro fuel
  induction fuel with
  | zero => intro size result cl r h; exact h
  | succ n ih =>
    intro size result cl r h
    rw [performReadLoop]
    refine full_dite _ _ _ (fun _ => h) (fun hpos => ?_)
    obtain ⟨f1, f2⟩ := full_read r.src (size - cl) r.rem (Int.lt_of_not_ge hpos) h
    exact full_dite _ _ _ (fun hz => full_of_nil (f2 (Int.natCast_eq_zero.mp (eq_of_beq hz))) (Int.le_refl 0)) (fun _ => ih _ _ _ _ f1)

theorem performRead_full (r : R σ) (size : Int) (h : Full r) : Full (performRead r size).2 := by
  rw [performRead]
  refine full_dite _ _ _ (fun _ => h) (fun hpos => ?_)
  obtain ⟨f1, f2⟩ := full_read r.src (min size r.rem) r.rem (Int.lt_of_not_ge hpos) h
  exact full_ite _ _ _ f1 (full_dite _ _ _ (fun hz => full_of_nil (f2 (Int.natCast_eq_zero.mp (eq_of_beq hz))) (Int.le_refl 0))
    (fun _ => performReadLoop_full _ _ _ _ _ f1))

theorem full_iteR (c : Prop) [Decidable c] (a b : R σ) (ha : Full a) (hb : Full b) : Full (if c then a else b) := by
  split
  · exact ha
  · exact hb

theorem fillBuffer_full (r : R σ) (h : Full r) : Full (fillBuffer r) :=
  full_iteR _ _ _ (full_iteR _ _ _ (performRead_full r _ h) (performRead_full r _ h)) h

theorem peek_full (r : R σ) (size : Int) (h : Full r) : Full (peek r size).2 :=
  full_iteR _ _ _ (fillBuffer_full r h) h

theorem readCore_full (r : R σ) (size : Int) (h : Full r) : Full (read' r size).2 := by
  rw [read']
  exact full_ite _ _ _ (full_ite _ _ _ h h) (full_ite _ _ _ (performRead_full _ _ h)
    (full_ite _ _ _ (performRead_full (σ := σ) { r with len := 0, pos := 0, buf := [] } _ h) (performRead_full _ _ h)))

theorem read_full (r : R σ) (size : Option Int) (h : Full r) : Full (read r size).2 := readCore_full _ _ h

theorem firstRead_full (r : R σ) (size : Int) (backlog : List Bytes) (have_ : Int) (h : Full r) :
    Full (firstRead r size backlog have_).2 :=
  full_ite _ _ _ (readCore_full _ _ h) (readCore_full r (size - have_) h)

theorem putBack_full (r : R σ) (next : Option Bytes) (h : Full r) : Full (putBack r next) := by
  cases next with
  | none => exact h
  | some nc => exact full_iteR _ _ _ (full_iteR _ _ _ h h) h

theorem consumeD_full (r : R σ) (ret : Bytes) (consume : Int) (delim : Option Bytes) (dpos : Int) (h : Full r) :
    Full (consumeD r ret consume delim dpos).2 := by
  have hp := peek_full r consume h
  cases delim with
  | none => exact full_ite _ _ _ (full_ite _ _ _ h (full_ite _ _ _ h h)) h
  | some d => exact full_ite _ _ _ (full_ite _ _ _ (full_ite _ _ _ hp hp) (full_ite _ _ _ h h)) h

theorem finishRU_full (r : R σ) (size : Int) (backlog : List Bytes) (have_ consume : Int)
    (delim : Option Bytes) (dpos : Int) (next : Option Bytes) (h : Full r) :
    Full (finishRU r size backlog have_ consume delim dpos next).2 := by
  rw [finishRU_eq]
  exact consumeD_full _ _ _ _ _ (putBack_full _ _ (firstRead_full _ _ _ _ h))

theorem finalizeRU_full (r : R σ) (size : Int) (backlog : List Bytes) (have_ consume : Int)
    (delim : Option Bytes) (dpos : Int) (next : Option Bytes) (h : Full r) :
    Full (finalizeRU r size backlog have_ consume delim dpos next).2 :=
  finishRU_full _ _ _ _ _ _ _ _ h

theorem readUntilLoop_full : ∀ (fuel : Nat) (r : R σ) (delim : Bytes) (size consume : Int) (result : List Bytes) (have_ : Int),
    Full r → Full (readUntilLoop fuel r delim size consume result have_).2 := by
  intro fuel
  induction fuel with
  | zero => intro r delim size consume result have_ h; exact h
  | succ n ih =>
    intro r delim size consume result have_ h
    have hp := performRead_full r r.chunk h
    rcases hpr : performRead r r.chunk with ⟨nc, r1⟩
    rw [hpr] at hp
    simp only [readUntilLoop, hpr]
    refine full_ite _ _ _ (finalizeRU_full _ _ _ _ _ _ _ _ h) ?_
    refine full_ite _ _ _ (finalizeRU_full _ _ _ _ _ _ _ _ h) ?_
    refine full_ite _ _ _ (finalizeRU_full (σ := σ) { r1 with len := _, buf := _ } _ _ _ _ _ _ _ hp) ?_
    refine full_ite _ _ _ (ih { r1 with len := _, pos := 0, buf := _ } _ _ _ _ _ hp) ?_
    refine full_ite _ _ _ (finalizeRU_full (σ := σ) { r1 with len := _, buf := _ } _ _ _ _ _ _ _ hp) ?_
    refine full_ite _ _ _ (finalizeRU_full _ _ _ _ _ _ _ _ hp) ?_
    exact ih { r1 with len := _, pos := 0, buf := _ } _ _ _ _ _ hp

theorem readUntilCore_full (r : R σ) (delim : Bytes) (size : Int) (c : Bool) (h : Full r) :
    Full (readUntil' r delim size c).2 := by
  simp only [readUntil']
  refine full_ite _ _ _ h ?_
  split
  · exact readUntilLoop_full _ _ _ _ _ _ _ (fillBuffer_full _ h)
  · exact readUntilLoop_full _ _ _ _ _ _ _ h

theorem pipeUntilLoop_full : ∀ (fuel : Nat) (r : R σ) (delim : Bytes) (remaining : Int) (acc : Bytes),
    Full r → Full (pipeUntilLoop fuel r delim remaining acc).2 := by
  intro fuel
  induction fuel with
  | zero => intro r delim remaining acc h; exact h
  | succ n ih =>
    intro r delim remaining acc h
    have hp := readUntilCore_full r delim (min r.chunk remaining) false h
    rcases hru : readUntil' r delim (min r.chunk remaining) false with ⟨res, r1⟩
    rw [hru] at hp
    simp only [pipeUntilLoop, hru]
    refine full_ite _ _ _ ?_ h
    cases res with
    | ok chunk => exact full_ite _ _ _ hp (ih _ _ _ _ hp)
    | delimErr => exact hp
    | valueErr => exact hp

theorem pipeUntil_full (r : R σ) (delim : Bytes) (c : Bool) (size : Option Int) (h : Full r) :
    Full (pipeUntil r delim c size).2 := by
  have hp := pipeUntilLoop_full (Source.bound r.src + r.buf.length + 3) r delim (normalizeSize r size) [] h
  rcases hpl : pipeUntilLoop (Source.bound r.src + r.buf.length + 3) r delim (normalizeSize r size) [] with ⟨res, r1⟩
  rw [hpl] at hp
  have hk := peek_full r1 delim.length hp
  rcases hpk : peek r1 delim.length with ⟨p, r2⟩
  rw [hpk] at hk
  simp only [pipeUntil, hpl]
  cases res with
  | ok acc =>
    simp only [hpk]
    refine full_ite _ _ _ (full_ite _ _ _ hk hk) hp
  | delimErr => exact hp
  | valueErr => exact hp

theorem readUntil_full (r : R σ) (delim : Bytes) (size : Option Int) (c : Bool) (h : Full r) :
    Full (readUntil r delim size c).2 := by
  simp only [readUntil]
  exact full_ite _ _ _ (readUntilCore_full _ _ _ _ h) (pipeUntil_full _ _ _ _ h)

theorem pipeLoop_full : ∀ (fuel : Nat) (r : R σ) (acc : Bytes), Full r → Full (pipeLoop fuel r acc).2 := by
  intro fuel
  induction fuel with
  | zero => intro r acc h; exact h
  | succ n ih =>
    intro r acc h
    have hp := read_full r (some r.chunk) h
    rcases hrd : read r (some r.chunk) with ⟨c, r1⟩
    rw [hrd] at hp
    simp only [pipeLoop, hrd]
    exact full_ite _ _ _ hp (ih _ _ hp)

theorem pipe_full (r : R σ) (h : Full r) : Full (pipe r).2 := pipeLoop_full _ _ _ h

theorem exhaust_full (r : R σ) (h : Full r) : Full (exhaust r) := pipe_full r h

theorem readline_full (r : R σ) (size : Option Int) (h : Full r) : Full (readline r size).2 := by
  have hp := readUntil_full r [10] (some (normalizeSize r size)) false h
  rcases hru : readUntil r [10] (some (normalizeSize r size)) false with ⟨res, r1⟩
  rw [hru] at hp
  simp only [readline, hru]
  cases res with
  | ok result => exact full_ite _ _ _ (read_full r1 (some 1) hp) hp
  | delimErr => exact hp
  | valueErr => exact hp

theorem readlinesLoop_full : ∀ (fuel : Nat) (r : R σ) (hint nread : Int) (acc : List Bytes),
    Full r → Full (readlinesLoop fuel r hint nread acc).2 := by
  intro fuel
  induction fuel with
  | zero => intro r hint nread acc h; exact h
  | succ n ih =>
    intro r hint nread acc h
    have hp := readline_full r (some (-1)) h
    rcases hrl : readline r (some (-1)) with ⟨res, r1⟩
    rw [hrl] at hp
    simp only [readlinesLoop, hrl]
    cases res with
    | ok line =>
      refine full_ite _ _ _ hp ?_
      refine full_ite _ _ _ (full_ite _ _ _ hp (ih _ _ _ _ hp)) (ih _ _ _ _ hp)
    | delimErr => exact hp
    | valueErr => exact hp

theorem readlines_full (r : R σ) (hint : Int) (h : Full r) : Full (readlines r hint).2 := readlinesLoop_full _ _ _ _ _ h

/-- **budget frame**: no public operation lets the declared budget fall below what the source can still deliver -/
theorem readerStep_full (r : R σ) (op : POp) (h : Full r) : Full (readerStep r op).2 := by
  cases op with
  | read s => exact read_full r s h
  | peek n => exact peek_full r n h
  | readUntil d s c => exact readUntil_full r d s c h
  | pipeUntil d c => exact pipeUntil_full r d c none h
  | pipe => exact pipe_full r h
  | exhaust => exact exhaust_full r h
  | readline s => exact readline_full r s h
  | readlines hh => exact readlines_full r hh h

theorem readerRun_full (ops : List POp) : ∀ (r : R σ), Full r → Full (readerRun r ops).2 := by
  induction ops with
  | nil => intro r h; exact h
  | cons op rest ih => intro r h; exact ih _ (readerStep_full r op h)

/-- the good-state presentation of the source `delimit(d)` hands to the child, for a parent in a good state -/
def pres (p : R σ) (d : Bytes) (hinv : Inv p) (hpl : p.pos ≤ p.len) (hd : d ≠ []) (hdc : (d.length : Int) ≤ p.chunk) :
    GD σ d (abs p) p.chunk :=
  { parent := p, inv := hinv, pl := hpl, ch := rfl, hd := hd, hdc := hdc, at_ := ⟨0, Nat.zero_le _, rfl⟩ }

/-- **`delimit_is_lawful_source`.** The read callback that `delimit(d)` hands to the child (`functools.partial(self.read_until, d)`,
    i.e. `Source.read` of `Rd.Delim`), called with `size > 0` on a parent `p` satisfying the invariant over a lawful source, with
    remaining text `t = abs p` and `1 ≤ |d| ≤ chunk size`. With `C = contentOf d t` (the prefix of `t` before the first occurrence of
    `d`, all of `t` if there is none) and `k = min size |C|`: it returns exactly `C.take k` (a prefix of the content, at most `size`
    bytes, empty only if `C` is), the parent is left in a state satisfying the invariant, same chunk size, with text `t.drop k`
    (exactly the returned bytes removed), and the content still to come is `C.drop k`. These are the `LawfulSource` laws with
    `data = C` (`delimit_source_lawful` packages them as the instance). -/
theorem delimit_is_lawful_source (p : R σ) (d : Bytes) (size : Int) (hinv : Inv p) (hpl : p.pos ≤ p.len) (hd : d ≠ [])
    (hdc : (d.length : Int) ≤ p.chunk) (hs : 0 < size) :
    let x := Source.read ({ parent := p, d := d } : Delim σ) size
    let C := contentOf d (abs p)
    let k := min size.toNat C.length
    x.1 = C.take k ∧ (C ≠ [] → x.1 ≠ []) ∧ x.2.d = d ∧ abs x.2.parent = (abs p).drop k ∧
    contentOf d (abs x.2.parent) = C.drop k ∧ Inv x.2.parent ∧ x.2.parent.pos ≤ x.2.parent.len ∧ x.2.parent.chunk = p.chunk := by
  intro x C k
  let s := pres p d hinv hpl hd hdc
  have hx : x = ((Source.read s size).1, GD.toDelim (Source.read s size).2) :=
    (toDelim_sim d (abs p) p.chunk).read s size hs
  have hst : stopAt d (abs p) size.toNat = k := by
    rw [stopAt_min d (abs p) _ hd, ← contentOf_length d (abs p) hd]
  have hk : readLen s size = k := (if_pos hs).trans hst
  have h1 : (Source.read s size).1 = C.take k := hk ▸ LawfulSource.read_fst s size
  have h2 : contentOf d (abs (Source.read s size).2.parent) = C.drop k := hk ▸ LawfulSource.read_snd_data s size
  have h3 : abs (Source.read s size).2.parent = (abs p).drop k := hst ▸ (GD.read_pos s size hs).2
  rw [hx]
  refine ⟨h1, fun hne h0 => ?_, rfl, h3, h2, (Source.read s size).2.inv, (Source.read s size).2.pl, (Source.read s size).2.ch⟩
  have hpos := LawfulSource.readLen_pos s size hs hne
  rw [hk] at hpos
  rcases List.take_eq_nil_iff.mp (h1.symm.trans h0) with hk0 | hC
  · exact Nat.ne_of_gt hpos hk0
  · exact hne hC

/-- what a (presented) child reader in a good state with a covering budget says about its parent: the child's text is its
    unread buffer followed by the parent's text up to the delimiter, and child buffer ++ parent text = child text ++ the
    text from the delimiter on -/
theorem child_parent (d A : Bytes) (chunk : Int) (c : R (GD σ d A chunk)) (hf : Full c) :
    abs c = sliceFrom c.buf c.pos ++ contentOf d (abs c.src.parent) ∧
    sliceFrom c.buf c.pos ++ abs c.src.parent = abs c ++ A.drop (contentOf d A).length := by
  have ha : abs c = sliceFrom c.buf c.pos ++ contentOf d (abs c.src.parent) :=
    congrArg (sliceFrom c.buf c.pos ++ ·) (List.take_of_length_le (by have : ((data c.src).length : Int) ≤ c.rem := hf; omega))
  obtain ⟨j, hj, hat⟩ := c.src.at_
  refine ⟨ha, ?_⟩
  rw [ha, hat, contentOf_drop d A j c.src.hd hj, List.append_assoc, contentOf_length d A c.src.hd]
  exact congrArg (sliceFrom c.buf c.pos ++ ·) (drop_take_append_drop A j _ hj).symm

/-- … and the parent stands `j` bytes into the text the child was opened at, `j` = what the child consumed + what it has buffered -/
theorem child_parent_at (d A : Bytes) (chunk : Int) (c : R (GD σ d A chunk)) (hf : Full c) :
    ∃ j, j ≤ (contentOf d A).length ∧ j + (abs c).length = (contentOf d A).length + (sliceFrom c.buf c.pos).length ∧
      abs c.src.parent = A.drop j := by
  obtain ⟨j, hj, hat⟩ := c.src.at_
  have hC := contentOf_length d A c.src.hd
  refine ⟨j, by rw [hC]; exact hj, ?_, hat⟩
  rw [(child_parent d A chunk c hf).1, hat, contentOf_drop d A j c.src.hd hj, List.length_append, List.length_drop]
  omega

theorem childGD_full {d A : Bytes} {chunk : Int} (s : GD σ d A chunk) : Full (childGD s) := by
  have hl := abs_length_le s.parent s.inv s.pl
  have hc := contentOf_length d (abs s.parent) s.hd
  have h1 := stopAt_le_length d (abs s.parent) (abs s.parent).length s.hd
  show ((contentOf d (abs s.parent)).length : Int) ≤ s.parent.rem + s.parent.len - s.parent.pos
  omega

/-- **C14, one level of nesting (sync) - `nested_history_refines_cursor`.** Parent `p` in a good state over any lawful source
    (every chunking / short-read pattern), delimiter `d` with `1 ≤ |d| ≤ chunk size`, ANY history `ops` of public operations with
    valid arguments on the child `delimit p d`; `C` = the parent's text before the first `d`, `rest` = what the flat cursor over `C`
    has left after `ops`, `c'`/`p'` = child and parent afterwards:
    1. the child's observations are the flat cursor's (`Rd.cursorRun` over `C`);
    2. the child's remaining text - its unread buffer followed by what the parent still has before `d` - is exactly `rest`;
    3. child buffer ++ parent text = `rest` ++ (the parent's original text from the delimiter on): nothing lost, nothing duplicated;
    4. child drained (`rest = []`) ⇒ the parent is positioned exactly AT the delimiter;
    5. in general the parent is at `j = (|C| - |rest|) + |child's unread buffer| ≤ |C|`: never past the delimiter;
    6. the parent satisfies the invariant again (same chunk size), so it continues as a flat cursor (`parent_resumes`). -/
theorem nested_history_refines_cursor (p : R σ) (d : Bytes) (ops : List POp) (hinv : Inv p) (hpl : p.pos ≤ p.len) (hd : d ≠ [])
    (hdc : (d.length : Int) ≤ p.chunk) (hok : ∀ op ∈ ops, op.ok p.chunk) :
    let c' := (readerRun (delimit p d) ops).2
    let p' := c'.src.parent
    let C := contentOf d (abs p)
    let rest := (cursorRun p.chunk C ops).2
    (readerRun (delimit p d) ops).1 = (cursorRun p.chunk C ops).1 ∧
    sliceFrom c'.buf c'.pos ++ contentOf d (abs p') = rest ∧
    sliceFrom c'.buf c'.pos ++ abs p' = rest ++ (abs p).drop C.length ∧
    (rest = [] → abs p' = (abs p).drop C.length) ∧
    (∃ j, j ≤ C.length ∧ j + rest.length = C.length + (sliceFrom c'.buf c'.pos).length ∧ abs p' = (abs p).drop j) ∧
    Inv p' ∧ p'.pos ≤ p'.len ∧ p'.chunk = p.chunk ∧ c'.src.d = d := by
  let s := pres p d hinv hpl hd hdc
  obtain ⟨hrun, t2⟩ := childGD_run s ops hok
  rw [show delimit p d = delimit s.parent d from rfl, hrun]
  intro c' p' C rest
  have hfull := readerRun_full ops (childGD s) (childGD_full s)
  obtain ⟨k1, k2⟩ := child_parent d (abs p) p.chunk _ hfull
  obtain ⟨j, hj, hl, hat⟩ := child_parent_at d (abs p) p.chunk _ hfull
  rw [t2] at k1 k2 hl
  refine ⟨rfl, k1.symm, k2, fun hr => ?_, ⟨j, hj, hl, hat⟩, (readerRun (childGD s) ops).2.src.inv,
    (readerRun (childGD s) ops).2.src.pl, (readerRun (childGD s) ops).2.src.ch, rfl⟩
  have hr' : (cursorRun p.chunk (contentOf d (abs s.parent)) ops).2 = [] := hr
  rw [hr'] at k1 k2
  rw [(List.append_eq_nil_iff.mp k1.symm).1, List.nil_append, List.nil_append] at k2
  exact k2

end lawful

section map
variable {σ τ : Type} [Source σ] [Source τ]

def delimMap (f : σ → τ) (s : Delim σ) : Delim τ := { parent := mapR f s.parent, d := s.d }

theorem delimMap_sim (f : σ → τ) (hf : Sim f) : Sim (delimMap f) where
  read := by
    intro s n hn
    simp only [Source.read, delimMap, readUntil_map f hf]
    rcases readUntil s.parent s.d (some n) false with ⟨res, p⟩
    cases res <;> rfl
  bound := by
    intro s
    show Source.bound (f s.parent.src) + s.parent.buf.length = Source.bound s.parent.src + s.parent.buf.length
    rw [hf.bound]

omit [Source σ] [Source τ] in
theorem delimit_map (f : σ → τ) (r : R σ) (d : Bytes) : delimit (mapR f r) d = mapR (delimMap f) (delimit r d) := rfl
end map

theorem runProg_map (prog : Prog) : ∀ {σ τ : Type} [Source σ] [Source τ] (f : σ → τ), Sim f → ∀ r : R σ,
    runProg prog (mapR f r) = ((runProg prog r).1, mapR f (runProg prog r).2) := by
  induction prog with
  | done => intro σ τ _ _ f hf r; rfl
  | op o k ih =>
    intro σ τ _ _ f hf r
    simp only [runProg, readerStep_map f hf, ih f hf]
  | nest d inner k ih1 ih2 =>
    intro σ τ _ _ f hf r
    simp only [runProg, delimit_map, ih1 (delimMap f) (delimMap_sim f hf)]
    have : (mapR (delimMap f) (runProg inner (delimit r d)).2).src.parent = mapR f (runProg inner (delimit r d)).2.src.parent := rfl
    rw [this, ih2 f hf]

/-- a source restricted to the states satisfying a property that every `read` preserves -/
structure Sub (τ : Type) [Source τ] (Q : τ → Prop) (hQ : ∀ (s : τ) (n : Int), Q s → Q (Source.read s n).2) where
  val : τ
  prop : Q val

section sub
variable {τ : Type} [Source τ] {Q : τ → Prop} {hQ : ∀ (s : τ) (n : Int), Q s → Q (Source.read s n).2}

instance : Source (Sub τ Q hQ) where
  read s n := ((Source.read s.val n).1, ⟨(Source.read s.val n).2, hQ s.val n s.prop⟩)
  bound s := Source.bound s.val

instance [LawfulSource τ] : LawfulSource (Sub τ Q hQ) where
  data s := LawfulSource.data s.val
  readLen s n := LawfulSource.readLen s.val n
  read_fst s n := LawfulSource.read_fst s.val n
  read_snd_data s n := LawfulSource.read_snd_data s.val n
  readLen_le_size s n := LawfulSource.readLen_le_size s.val n
  readLen_le_data s n := LawfulSource.readLen_le_data s.val n
  readLen_pos s n := LawfulSource.readLen_pos s.val n
  bound_ge s := LawfulSource.bound_ge s.val

theorem sub_val_sim : Sim (Sub.val : Sub τ Q hQ → τ) where
  read := by intro s n _; rfl
  bound := by intro s; rfl
end sub

theorem Sim.comp {α β γ : Type} [Source α] [Source β] [Source γ] (f : α → β) (g : β → γ) (hf : Sim f) (hg : Sim g) :
    Sim (g ∘ f) where
  read := by
    intro s n hn
    show Source.read (g (f s)) n = _
    rw [hg.read (f s) n hn, hf.read s n hn]
    rfl
  bound := by intro s; show Source.bound (g (f s)) = _; rw [hg.bound, hf.bound]

theorem mapR_comp {α β γ : Type} (f : α → β) (g : β → γ) (r : R α) : mapR g (mapR f r) = mapR (g ∘ f) r := rfl

section
variable {σ : Type} [Source σ] [LawfulSource σ]

theorem gd_read_full {d A : Bytes} {chunk : Int} (P : Prop) (s : GD σ d A chunk) (n : Int) (h : P → Full s.parent) :
    P → Full (Source.read s n).2.parent := by
  intro hp
  show Full (GD.read s n).2.parent
  unfold GD.read
  split
  · exact readUntil_full _ _ _ _ (h hp)
  · exact h hp

/-- the presentation of the child's source that also remembers that the parent's budget stays covering (if it was) -/
abbrev GP (σ : Type) [Source σ] [LawfulSource σ] (d A : Bytes) (chunk : Int) (P : Prop) :=
  Sub (GD σ d A chunk) (fun s => P → Full s.parent) (gd_read_full P)

def childGP {d A : Bytes} {chunk : Int} (P : Prop) (s : GD σ d A chunk) (h : P → Full s.parent) : R (GP σ d A chunk P) :=
  { rem := normalizeSize s.parent none, chunk := s.parent.chunk, src := ⟨s, h⟩ }

theorem inv_mapR {α β : Type} [Source α] [LawfulSource α] [Source β] [LawfulSource β] (f : α → β) (r : R α) :
    Inv (mapR f r) ↔ Inv r :=
  ⟨fun h => ⟨h.1, h.2, h.3, h.4, h.5⟩, fun h => ⟨h.1, h.2, h.3, h.4, h.5⟩⟩
end

/-- **C14 for nested readers of any depth (sync) - `nested_depth_refines`.** For every program `prog` (public operations and
    `delimit(d){ sub-program }` blocks nested arbitrarily deep), every reader `r` in a good state over ANY lawful source: running the
    program on the model with real nested `Rd.Delim` sources (`runProg`) satisfies the flat-cursor specification `ProgSpec` starting
    from `abs r` and ending at `abs` of the final reader; the invariant, `pos ≤ len` and the chunk size are preserved, and a covering
    budget stays covering. Induction over `prog` with the source type generalised: the child of `r` is presented over the lawful
    source `GP` (so the induction hypothesis applies to it), `runProg_map` transfers to the real child, `child_parent` +
    the `GD` invariants give the parent's state when the child is dropped, and the hypothesis for the continuation applies to it. -/
theorem nested_depth_refines (prog : Prog) : ∀ {σ : Type} [Source σ] [LawfulSource σ] (r : R σ), Inv r → r.pos ≤ r.len →
    prog.ok r.chunk →
    ProgSpec r.chunk prog (abs r) (runProg prog r).1 (abs (runProg prog r).2) ∧ Inv (runProg prog r).2 ∧
    (runProg prog r).2.pos ≤ (runProg prog r).2.len ∧ (runProg prog r).2.chunk = r.chunk ∧
    (Full r → Full (runProg prog r).2) := by
  induction prog with
  | done => intro σ _ _ r hinv hpl _; exact ⟨.done _, hinv, hpl, rfl, id⟩
  | op o k ih =>
    intro σ _ _ r hinv hpl hok
    obtain ⟨s1, s2, s3, s4, s5⟩ := readerStep_refines r o hinv hpl hok.1
    obtain ⟨t1, t2, t3, t4, t5⟩ := ih (readerStep r o).2 s3 s4 (by rw [s5]; exact hok.2)
    rw [s5, s2] at t1
    simp only [runProg]
    refine ⟨?_, t2, t3, by rw [t4, s5], fun hf => t5 (readerStep_full r o hf)⟩
    rw [s1]
    exact .op o k (abs r) _ _ t1
  | nest d inner k ih1 ih2 =>
    intro σ _ _ r hinv hpl hok
    obtain ⟨⟨hd, hdc⟩, hok1, hok2⟩ := hok
    let s := pres r d hinv hpl hd hdc
    let c0 := childGP (Full r) s id
    have hsim : Sim (GD.toDelim ∘ (Sub.val : GP σ d (abs r) r.chunk (Full r) → _)) :=
      Sim.comp _ _ sub_val_sim (toDelim_sim d (abs r) r.chunk)
    obtain ⟨f1, f2, f3, _⟩ := childGD_facts s
    have g1 : Inv c0 := (inv_mapR Sub.val c0).mp f1
    have g3 : abs c0 = contentOf d (abs r) := f3
    obtain ⟨t1, t2, t3, t4, t5⟩ := ih1 c0 g1 f2 hok1
    rw [g3] at t1
    have hfull : Full (mapR Sub.val (runProg inner c0).2) := t5 (childGD_full s)
    obtain ⟨k1, k2⟩ := child_parent d (abs r) r.chunk (mapR Sub.val (runProg inner c0).2) hfull
    have hrun : runProg inner (delimit r d) = ((runProg inner c0).1, mapR (GD.toDelim ∘ Sub.val) (runProg inner c0).2) :=
      runProg_map inner _ hsim c0
    have pch := (runProg inner c0).2.src.val.ch
    obtain ⟨u1, u2, u3, u4, u5⟩ := ih2 (runProg inner c0).2.src.val.parent (runProg inner c0).2.src.val.inv
      (runProg inner c0).2.src.val.pl (by rw [pch]; exact hok2)
    rw [pch] at u1
    simp only [runProg, hrun]
    refine ⟨?_, u2, u3, u4.trans pch, fun hf => u5 ((runProg inner c0).2.src.prop hf)⟩
    exact .nest d inner k (abs r) _ _ (sliceFrom (runProg inner c0).2.buf (runProg inner c0).2.pos) _ _ _ t1 k2
      (List.IsPrefix.length_le ⟨_, k1.symm⟩) u1

section
variable {σ : Type} [Source σ] [LawfulSource σ]

/-- the read callback of `delimit(d)` as a LawfulSource -/
theorem delimit_source_lawful (p : R σ) (d : Bytes) (hinv : Inv p) (hpl : p.pos ≤ p.len) (hd : d ≠ [])
    (hdc : (d.length : Int) ≤ p.chunk) :
    let s := pres p d hinv hpl hd hdc
    LawfulSource.data s = contentOf d (abs p) ∧ mapR GD.toDelim (childGD s) = delimit p d ∧
    Sim (GD.toDelim : GD σ d (abs p) p.chunk → Delim σ) ∧ Inv (childGD s) ∧ (childGD s).pos ≤ (childGD s).len ∧
    abs (childGD s) = contentOf d (abs p) ∧ Full (childGD s) := by
  intro s
  obtain ⟨f1, f2, f3, _⟩ := childGD_facts s
  exact ⟨rfl, rfl, toDelim_sim d (abs p) p.chunk, f1, f2, f3, childGD_full s⟩

/-- after the child is dropped the parent continues as a flat cursor, from a position between what the child consumed and the
    delimiter - exactly at the delimiter if the child was drained -/
theorem parent_resumes (p : R σ) (d : Bytes) (ops ops2 : List POp) (hinv : Inv p) (hpl : p.pos ≤ p.len) (hd : d ≠ [])
    (hdc : (d.length : Int) ≤ p.chunk) (hok : ∀ op ∈ ops, op.ok p.chunk) (hok2 : ∀ op ∈ ops2, op.ok p.chunk) :
    let p' := (readerRun (delimit p d) ops).2.src.parent
    let C := contentOf d (abs p)
    let rest := (cursorRun p.chunk C ops).2
    ∃ j, C.length - rest.length ≤ j ∧ j ≤ C.length ∧ (rest = [] → j = C.length) ∧
      (readerRun p' ops2).1 = (cursorRun p.chunk ((abs p).drop j) ops2).1 ∧
      abs (readerRun p' ops2).2 = (cursorRun p.chunk ((abs p).drop j) ops2).2 ∧
      Inv (readerRun p' ops2).2 ∧ (readerRun p' ops2).2.pos ≤ (readerRun p' ops2).2.len := by
  intro p' C rest
  obtain ⟨_, e2, _, _, ⟨j, hj, hf, hat⟩, pinv, ppl, pch, _⟩ := nested_history_refines_cursor p d ops hinv hpl hd hdc hok
  obtain ⟨t1, t2, t3, t4⟩ := public_history_refines_cursor ops2 p' pinv ppl (fun op h => by rw [pch]; exact hok2 op h)
  rw [pch, hat] at t1 t2
  have hle : List.length _ ≤ rest.length := List.IsPrefix.length_le ⟨_, e2⟩
  have hf' : j + rest.length = C.length + List.length _ := hf
  refine ⟨j, Nat.sub_le_of_le_add (hf' ▸ Nat.le_add_right _ _), hj, fun hr => ?_, t1, t2, t3, t4⟩
  rw [List.length_eq_zero_iff.mpr hr] at hle hf'
  rw [Nat.le_zero.mp hle] at hf'
  simpa using hf'

/-- from construction: `BufferedReader(read, max_stream_len, chunk_size)` over any lawful source, any program of operations and
    nested `delimit`s of any depth -/
theorem nested_depth_refines_fresh (prog : Prog) (src : σ) (maxLen chunk : Int) (h1 : 0 ≤ maxLen) (h2 : 0 < chunk)
    (hok : prog.ok chunk) :
    let r : R σ := { rem := maxLen, chunk := chunk, src := src }
    ProgSpec chunk prog ((LawfulSource.data src).take maxLen.toNat) (runProg prog r).1 (abs (runProg prog r).2) ∧
    Inv (runProg prog r).2 := by
  intro r
  obtain ⟨f1, f2, f3⟩ := fresh_reader src maxLen chunk h1 h2
  obtain ⟨t1, t2, _⟩ := nested_depth_refines prog r f1 f2 hok
  rw [f3] at t1
  exact ⟨t1, t2⟩

/-- "ab--cd\nef--gh" behind a source that delivers 1, 2, all, 1, ... bytes per call; chunk size 3 -/
def exR : R Src := { rem := 14, chunk := 3, src := Src.mk [97,98,45,45,99,100,10,101,102,45,45,103,104] [1,2,0,1] [] }

/-- read(1); child("--"){peek(1); read()}; read_until("--", consume); child("--"){ grandchild("\n"){read(1)}; peek(5) }; pipe() -/
def exProg : Prog :=
  .op (.read (some 1)) (.nest [45,45] (.op (.peek 1) (.op (.read none) .done))
    (.op (.readUntil [45,45] none true) (.nest [45,45] (.nest [10] (.op (.read (some 1)) .done) (.op (.peek 5) .done)) (.op .pipe .done))))

example : Inv exR ∧ exR.pos ≤ exR.len ∧ exProg.ok exR.chunk := by
  refine ⟨⟨rfl, by decide, by decide, by decide, Or.inl (by decide)⟩, by decide, ?_⟩
  refine ⟨?_, ⟨List.cons_ne_nil _ _, by decide⟩, ⟨trivial, ?_, trivial⟩, ⟨List.cons_ne_nil _ _, by decide, ?_⟩, ⟨List.cons_ne_nil _ _, by decide⟩, ⟨⟨List.cons_ne_nil _ _, by decide⟩, ⟨?_, trivial⟩, trivial, trivial⟩, trivial, trivial⟩
  · intro x hx; cases hx; right; decide
  · intro x hx; cases hx
  · intro x hx; cases hx
  · intro x hx; cases hx; right; decide

example : (runProg exProg exR).1 = [.bytes [97], .bytes [98], .bytes [98], .bytes [], .bytes [99], .bytes [10, 101, 102],
    .bytes [45, 45, 103, 104]] := by rfl

end

end Rn
