import FalconModel.MultipartAsyncProofs
/-! C13 / C14: **the transcription of falcon/asgi/reader.py used by the async multipart model (`Ma.AR σ`, generic in its chunk source,
    with `delimit` as a nested reader over `parent._iter_delimited`) satisfies the flat-cursor laws `Ma.Lawful`** - hence
    `async_refines_flat`, `sync_async_agree`, `async_parse_encode`, `async_error_only` of MultipartAsyncProofs.lean hold for the CONCRETE async stack,
    for every chunking of the body.

    Every statement holds for an arbitrary lawful chunk source, so that it also applies to the reader NESTED in a
    part stream; FalconModel/AsyncReaderProofs.lean specialises it to the C14 root model `ARd` over a fixed list of chunks.
    The generator `parent._iter_delimited(d)`, suspended anywhere, on a parent satisfying the generator invariant, is itself a
    lawful source delivering the parent's text up to the first `d`; `PInv_reach`: whatever is done with the part stream, the
    parent stays `Good`, keeps its chunk size, and its cursor is not beyond that first `d`. -/
namespace Ma
open Rd (Bytes slice sliceFrom sliceTo find occ stopAt)

/-- an async iterator that delivers the text `data s` in pieces (also empty ones), never raises, and ends; `left` is a
    measure that decreases with every piece (and is covered by the fuel `bound`); `valid` is the set of states this is
    claimed for (all of them for `Raw`; the generator invariant for the source of a part stream) -/
class LawfulASource (σ : Type) [ASource σ] where
  data : σ → Bytes
  left : σ → Nat
  valid : σ → Prop
  anext_chunk : ∀ (s : σ) (c : Bytes) (s' : σ), valid s → ASource.anext s = (.chunk c, s') →
    data s = c ++ data s' ∧ left s' < left s ∧ valid s'
  anext_stop : ∀ (s s' : σ), valid s → ASource.anext s = (.stop, s') → data s = [] ∧ data s' = [] ∧ valid s'
  anext_noraise : ∀ (s s' : σ), valid s → ASource.anext s ≠ (.raiseValue, s')
  left_le : ∀ (s : σ), valid s → left s ≤ ASource.bound s

open LawfulASource (data left valid)

instance : LawfulASource Raw where
  data s := s.items.flatten
  left s := s.items.length
  valid _ := True
  anext_chunk := by
    intro s c s' _ h
    cases hs : s.items with
    | nil => simp [ASource.anext, hs] at h
    | cons a t =>
      simp only [ASource.anext, hs, Prod.mk.injEq, Item.chunk.injEq] at h
      obtain ⟨rfl, rfl⟩ := h
      exact ⟨by simp, by simp, trivial⟩
  anext_stop := by
    intro s s' _ h
    cases hs : s.items with
    | nil =>
      simp only [ASource.anext, hs, Prod.mk.injEq, true_and] at h
      subst h
      exact ⟨by simp, by simp [hs], trivial⟩
    | cons a t => simp [ASource.anext, hs] at h
  anext_noraise := by
    intro s s' _ h
    cases hs : s.items <;> simp [ASource.anext, hs] at h
  left_le := fun _ _ => Nat.le_refl _

variable {σ : Type} [ASource σ] [LawfulASource σ]

/-- what `self._source` (= `_iter_normalized`) will still deliver, as one text -/
def future (r : AR σ) : Bytes :=
  match r.npc with
  | .running => r.pending ++ data r.src
  | .yielded1 item => item ++ data r.src
  | .yielded2 => []
  | .finished => []

/-- what a flat cursor would still return: the unread part of the buffer followed by what the source still delivers -/
def absA (r : AR σ) : Bytes := sliceFrom r.buf r.pos ++ future r

structure Good (r : AR σ) : Prop where
  len_eq : r.len = r.buf.length
  pos_nonneg : 0 ≤ r.pos
  pos_le : r.pos ≤ r.len
  chunk_pos : 0 < r.chunk
  exh_iff : r.exhausted = true ↔ r.npc = .finished
  src_valid : valid r.src

/-- bound on the number of chunks `_iter_normalized` can still yield (+1) -/
def mu (r : AR σ) : Nat :=
  match r.npc with
  | .finished => 0
  | .yielded2 => 1
  | _ => left r.src + 2

/-- `__anext__` of `_iter_normalized` does not touch the buffer fields -/
def Same (r r' : AR σ) : Prop := r'.buf = r.buf ∧ r'.len = r.len ∧ r'.pos = r.pos ∧ r'.chunk = r.chunk

/-- the loop of `_iter_normalized`, entered in state `r` with `F` still to be delivered, as seen by a caller whose reader has
    `chunk`, `consumed`, `exh`: what it yields and leaves; `m` bounds `mu` afterwards -/
def NormSpec (chunk consumed : Int) (exh : Bool) (r : AR σ) (F : Bytes) (m : Nat) : Item × AR σ → Prop
  | (.chunk c, r') => c ≠ [] ∧ F = c ++ future r' ∧ (chunk ≤ (c.length : Int) ∨ future r' = []) ∧
      r'.consumed = consumed + c.length ∧ Same r r' ∧ mu r' ≤ m ∧ r'.exhausted = exh ∧ r'.npc ≠ .finished ∧ valid r'.src
  | (.stop, r') => F = [] ∧ future r' = [] ∧ r'.exhausted = true ∧ r'.npc = .finished ∧ r'.consumed = consumed ∧ Same r r' ∧
      valid r'.src
  | (.raiseValue, _) => False

theorem normLoop_spec : ∀ (fuel : Nat) (r : AR σ), valid r.src → left r.src < fuel → 0 < r.chunk →
    NormSpec r.chunk r.consumed r.exhausted r (r.pending ++ data r.src) (left r.src + 1) (normLoop fuel r) := by
  intro fuel
  induction fuel with
  | zero => intro r _ hf _; omega
  | succ f ih =>
    intro r hv hf hc
    simp only [normLoop]
    rcases hx : ASource.anext r.src with ⟨it, s⟩
    cases it with
    | raiseValue => exact absurd hx (LawfulASource.anext_noraise r.src s hv)
    | stop =>
      obtain ⟨d1, d2, v2⟩ := LawfulASource.anext_stop r.src s hv hx
      simp only
      split
      · rename_i hp
        have hne : r.pending ≠ [] := by intro h; simp [h] at hp
        exact ⟨hne, by simp [future, d1], Or.inr rfl, rfl, ⟨rfl, rfl, rfl, rfl⟩, by simp [mu], rfl, by simp, v2⟩
      · rename_i hp
        have he : r.pending = [] := by
          cases h : r.pending with
          | nil => rfl
          | cons a b => simp [h] at hp
        exact ⟨by simp [he, d1], rfl, rfl, rfl, rfl, ⟨rfl, rfl, rfl, rfl⟩, v2⟩
    | chunk item =>
      obtain ⟨d1, l1, v2⟩ := LawfulASource.anext_chunk r.src item s hv hx
      simp only
      split
      · rename_i hp
        have hne : r.pending ≠ [] := by intro h; rw [h] at hp; simp at hp; omega
        refine ⟨hne, by simp [future, d1], Or.inl (by omega), rfl, ⟨rfl, rfl, rfl, rfl⟩, ?_, rfl, by simp, v2⟩
        simp only [mu]; omega
      · have h := ih { r with src := s, pending := r.pending ++ item } v2 (by show left s < f; omega) hc
        rcases hy : normLoop f { r with src := s, pending := r.pending ++ item } with ⟨y, r'⟩
        rw [hy] at h
        cases y with
        | raiseValue => exact h
        | stop =>
          obtain ⟨a, b, c, d, e, g, v⟩ := h
          exact ⟨by rw [d1]; simpa using a, b, c, d, e, g, v⟩
        | chunk c =>
          obtain ⟨a, b, c1, d, e, g, i, j, v⟩ := h
          refine ⟨a, by rw [d1]; simpa using b, c1, d, e, ?_, i, j, v⟩
          have : left s + 1 ≤ left r.src + 1 := by omega
          exact Nat.le_trans g this

def total (r : AR σ) : Int := r.consumed + (future r).length

/-- one `__anext__` of `_iter_normalized` on `r`; every chunk but the last is at least `chunk_size` long -/
def NextSpec (r : AR σ) : Item × AR σ → Prop
  | (.chunk c, r') => c ≠ [] ∧ future r = c ++ future r' ∧ (r.chunk ≤ (c.length : Int) ∨ future r' = []) ∧ Same r r' ∧
      mu r' < mu r ∧ Good r' ∧ total r' = total r
  | (.stop, r') => future r = [] ∧ future r' = [] ∧ r'.exhausted = true ∧ Same r r' ∧ Good r' ∧ total r' = total r
  | (.raiseValue, _) => False

theorem Good.of_same {r r' : AR σ} (hg : Good r) (hs : Same r r') (he : r'.exhausted = true ↔ r'.npc = .finished)
    (hv : valid r'.src) : Good r' := by
  obtain ⟨s1, s2, s3, s4⟩ := hs
  exact ⟨by rw [s2, s1]; exact hg.len_eq, by rw [s3]; exact hg.pos_nonneg, by rw [s3, s2]; exact hg.pos_le,
    by rw [s4]; exact hg.chunk_pos, he, hv⟩

/-- `r0` is `r` with the generator's locals as it re-enters the loop of `_iter_normalized` -/
theorem NormSpec.toNext {r r0 : AR σ} {F : Bytes} {m : Nat} {x : Item × AR σ}
    (h : NormSpec r.chunk r.consumed r.exhausted r0 F m x) (hg : Good r) (hs : Same r0 r) (hF : future r = F) (hm : m < mu r)
    (hn : r.npc ≠ .finished) : NextSpec r x := by
  have same : ∀ {r' : AR σ}, Same r0 r' → Same r r' :=
    fun e => ⟨e.1.trans hs.1.symm, e.2.1.trans hs.2.1.symm, e.2.2.1.trans hs.2.2.1.symm, e.2.2.2.trans hs.2.2.2.symm⟩
  rcases x with ⟨y, r'⟩
  cases y with
  | raiseValue => exact h
  | stop =>
    obtain ⟨a, b, c, d, e, g, v⟩ := h
    exact ⟨hF.trans a, b, c, same g, hg.of_same (same g) ⟨fun _ => d, fun _ => c⟩ v, by unfold total; rw [e, b, hF, a]⟩
  | chunk c =>
    obtain ⟨a, b, c1, d, e, g, i, j, v⟩ := h
    refine ⟨a, hF.trans b, c1, same e, Nat.lt_of_le_of_lt g hm, hg.of_same (same e) ⟨fun h => ?_, fun h => absurd h j⟩ v, ?_⟩
    · rw [i] at h; exact absurd (hg.exh_iff.mp h) hn
    · unfold total; rw [d, hF, b, List.length_append]; omega

theorem nextNorm_spec (r : AR σ) (hg : Good r) : NextSpec r (nextNorm r) := by
  have hfuel : left r.src < ASource.bound r.src + 1 := by have := LawfulASource.left_le r.src hg.src_valid; omega
  unfold nextNorm
  cases hn : r.npc with
  | finished =>
    exact ⟨by simp [future, hn], by simp [future, hn], hg.exh_iff.mpr hn, ⟨rfl, rfl, rfl, rfl⟩, hg, rfl⟩
  | yielded2 =>
    exact ⟨by simp [future, hn], by simp [future], rfl, ⟨rfl, rfl, rfl, rfl⟩,
      hg.of_same ⟨rfl, rfl, rfl, rfl⟩ ⟨fun _ => rfl, fun _ => rfl⟩ hg.src_valid, by simp [total, future, hn]⟩
  | yielded1 item =>
    exact NormSpec.toNext (r := r) (normLoop_spec _ { r with pending := item, npc := .running } hg.src_valid hfuel hg.chunk_pos)
      hg ⟨rfl, rfl, rfl, rfl⟩ (by simp [future, hn]) (by simp [mu, hn]) (by simp [hn])
  | running =>
    exact NormSpec.toNext (r := r) (normLoop_spec _ r hg.src_valid hfuel hg.chunk_pos) hg ⟨rfl, rfl, rfl, rfl⟩
      (by simp [future, hn]) (by simp [mu, hn]) (by simp [hn])

open LawfulASource (data left valid)

/-- number of bytes up to the first occurrence of `d` in `A` (all of `A` if there is none) -/
def U (d A : Bytes) : Nat := stopAt d A A.length

theorem U_eq_upTo (d A : Bytes) (hd : d ≠ []) : U d A = Rd.upTo d A := by
  unfold U; rw [Rd.stopAt_eq, Nat.min_eq_right (Rd.upTo_le d A hd)]

theorem U_spec (d A : Bytes) (hd : d ≠ []) :
    U d A ≤ A.length ∧ (∀ j, j < U d A → ¬ occ d A j) ∧ (U d A < A.length → occ d A (U d A)) := by
  rw [U_eq_upTo d A hd]
  rcases Rd.firstOcc_spec d A hd with ⟨_, hno⟩ | ⟨p, _, hp, hb⟩
  · rw [Rd.upTo_of_none d A hd hno]
    exact ⟨Nat.le_refl _, fun j _ => hno j, fun h => absurd h (Nat.lt_irrefl _)⟩
  · rw [Rd.upTo_of_occ d A p hd hp hb]
    exact ⟨Nat.le_of_lt (Rd.occ_lt_length d A p hd hp), hb, fun _ => hp⟩

theorem U_eq (d A : Bytes) (hd : d ≠ []) (n : Nat) (h1 : n ≤ A.length) (h2 : ∀ j, j < n → ¬ occ d A j)
    (h3 : n < A.length → occ d A n) : U d A = n := by
  obtain ⟨u1, u2, u3⟩ := U_spec d A hd
  rcases Nat.lt_trichotomy (U d A) n with h | h | h
  · exact absurd (u3 (by omega)) (h2 _ h)
  · exact h
  · exact absurd (h3 (by omega)) (u2 _ h)

theorem U_ge (d A : Bytes) (hd : d ≠ []) (m : Nat) (h1 : m ≤ A.length) (h2 : ∀ j, j < m → ¬ occ d A j) : m ≤ U d A := by
  obtain ⟨u1, u2, u3⟩ := U_spec d A hd
  rcases Nat.lt_or_ge (U d A) m with h | h
  · exact absurd (u3 (by omega)) (h2 _ h)
  · exact h

theorem U_drop (d A : Bytes) (hd : d ≠ []) (m : Nat) (hm : m ≤ U d A) : m + U d (A.drop m) = U d A := by
  rw [U_eq_upTo d A hd] at hm ⊢
  rw [U_eq_upTo d _ hd, Rd.upTo_drop d A m hd hm]; omega

theorem stopAt_eq_min_U (d A : Bytes) (hd : d ≠ []) (n : Nat) : stopAt d A n = min n (U d A) := by
  rw [U_eq_upTo d A hd, Rd.stopAt_eq]

/-- **cross-chunk delimiter detection of `_iter_delimited`**: `b` is the buffered text (no complete occurrence of `d`), `c` the
    next chunk and `F` what follows; an occurrence that starts inside `b` is seen exactly by the search in
    `fragment = b[len(b)-(len(d)-1):] + c[:len(d)-1]` - provided `c` is a full chunk (`len(d) ≤ chunk_size ≤ len(c)`) or the last one -/
theorem straddle (d b c F : Bytes) (chunk : Int) (hd : d ≠ []) (hdc : (d.length : Int) ≤ chunk)
    (hc : chunk ≤ (c.length : Int) ∨ F = []) (hno : ∀ j, ¬ occ d b j) (j : Nat) (hj : j < b.length) :
    occ d (b ++ (c ++ F)) j ↔
      (b.length - (d.length - 1) ≤ j ∧ occ d (b.drop (b.length - (d.length - 1)) ++ c.take (d.length - 1)) (j - (b.length - (d.length - 1)))) := by
  have hdl : 0 < d.length := List.length_pos_iff.mpr hd
  have hfr := Rd.fragment_first_occ d b c 0 hd (Nat.zero_le _) (fun j _ => hno j)
  simp only [Nat.max_zero] at hfr
  constructor
  · intro h
    have hnf : ¬ j + d.length ≤ b.length := by
      intro hf
      exact hno j ((Rd.occ_append_left d b (c ++ F) j hd hf).mp h)
    have hoff : b.length - (d.length - 1) ≤ j := by omega
    refine ⟨hoff, ?_⟩
    have hbc : occ d (b ++ c) j := by
      rcases hc with hc | hc
      · rw [← List.append_assoc] at h
        exact (Rd.occ_append_left d (b ++ c) F j hd (by rw [List.length_append]; omega)).mp h
      · rw [hc, List.append_nil] at h; exact h
    rw [hfr]
    rw [show b.length - (d.length - 1) + (j - (b.length - (d.length - 1))) = j by omega]
    exact ⟨hbc, hj⟩
  · rintro ⟨hoff, h⟩
    rw [hfr] at h
    rw [show b.length - (d.length - 1) + (j - (b.length - (d.length - 1))) = j by omega] at h
    have hfit := ((Rd.occ_iff d (b ++ c) j hd).mp h.1).2
    rw [← List.append_assoc]
    exact (Rd.occ_append_left d (b ++ c) F j hd hfit).mpr h.1

variable {σ : Type} [ASource σ] [LawfulASource σ]

def isW : Pc → Bool
  | .wStart _ | .wAfterHint | .wSource => true
  | _ => false

/-- how many of the bytes still to come the generator at `pc` will hand out -/
def lim (pc : Pc) (A : Bytes) : Nat :=
  match pc with
  | .wStart _ | .wAfterHint | .wSource => A.length
  | .dStart d _ | .dFoundAfterHint d _ | .dPreLoop d | .dLoop d | .dAfterOutput d => U d A
  | .done => 0

def okDelim (chunk : Int) (d : Bytes) : Prop := d ≠ [] ∧ (d.length : Int) ≤ chunk

/-- generator invariant: what has to hold of the reader whenever the generator is suspended at `pc` -/
def GI (pc : Pc) (r : AR σ) : Prop :=
  Good r ∧ match pc with
  | .wStart _ | .wAfterHint | .done => True
  | .wSource => r.pos = r.len
  | .dStart d _ => okDelim r.chunk d
  | .dFoundAfterHint d p => okDelim r.chunk d ∧ r.pos ≤ p ∧ p ≤ r.len ∧ (p - r.pos).toNat = U d (absA r)
  | .dPreLoop d => okDelim r.chunk d ∧ ∀ j, r.pos.toNat ≤ j → ¬ occ d r.buf j
  | .dLoop d => okDelim r.chunk d ∧ r.pos = 0 ∧ ∀ j, ¬ occ d r.buf j
  | .dAfterOutput d => okDelim r.chunk d ∧ r.pos = 0

def weight (pc : Pc) (r : AR σ) : Nat :=
  match pc with
  | .done => 0
  | .wStart _ | .dStart _ _ => 2 * mu r + 3
  | .wAfterHint | .dPreLoop _ | .dAfterOutput _ => 2 * mu r + 2
  | .wSource | .dLoop _ | .dFoundAfterHint _ _ => 2 * mu r + 1

/-- one resumption of a wrapper generator: a `yield` hands out the next bytes of the flat text, within the generator's limit;
    `StopAsyncIteration` only when the limit is reached -/
def StepSpec (pc : Pc) (r : AR σ) : Item × Pc × AR σ → Prop
  | (.chunk c, pc', r') => c = (absA r).take c.length ∧ absA r' = (absA r).drop c.length ∧
      c.length + lim pc' (absA r') = lim pc (absA r) ∧ GI pc' r' ∧ weight pc' r' < weight pc r ∧ total r' = total r ∧
      r'.chunk = r.chunk ∧ isW pc' = isW pc
  | (.stop, pc', r') => lim pc (absA r) = 0 ∧ absA r' = absA r ∧ Good r' ∧ total r' = total r ∧ r'.chunk = r.chunk ∧
      pc' = .done ∧ (isW pc = true → r'.exhausted = true ∧ r'.pos = r'.len)
  | (.raiseValue, _, _) => False

theorem StepSpec.transfer {pc pc2 : Pc} {r r2 : AR σ} {x : Item × Pc × AR σ} (h : StepSpec pc2 r2 x) (ha : absA r2 = absA r)
    (hl : lim pc2 (absA r) = lim pc (absA r)) (hw : weight pc2 r2 ≤ weight pc r) (ht : total r2 = total r)
    (hc : r2.chunk = r.chunk) (hW : isW pc2 = isW pc) : StepSpec pc r x := by
  rcases x with ⟨y, pc', r'⟩
  cases y with
  | chunk c =>
    obtain ⟨a1, a2, a3, a4, a5, a6, a7, a8⟩ := h
    rw [ha] at a1 a2 a3
    exact ⟨a1, a2, by rw [a3, hl], a4, by omega, by rw [a6, ht], by rw [a7, hc], by rw [a8, hW]⟩
  | stop =>
    obtain ⟨a1, a2, a3, a4, a5, a6, a7⟩ := h
    rw [ha] at a1 a2
    exact ⟨by rw [← hl, a1], a2, a3, by rw [a4, ht], by rw [a5, hc], a6, by rw [← hW]; exact a7⟩
  | raiseValue => exact h

theorem absA_eq (r : AR σ) (hg : Good r) : absA r = r.buf.drop r.pos.toNat ++ future r := by
  unfold absA; rw [Rd.sliceFrom_nonneg _ _ hg.pos_nonneg]

theorem slice_take_drop (b F : Bytes) (p q : Int) (h0 : 0 ≤ p) (h1 : p ≤ q) (h2 : q ≤ b.length) :
    slice b p q = (b.drop p.toNat ++ F).take (q - p).toNat ∧ b.drop q.toNat ++ F = (b.drop p.toNat ++ F).drop (q - p).toNat ∧
    (slice b p q).length = (q - p).toNat := by
  rw [Rd.slice_nonneg _ _ _ h0 h1]
  obtain ⟨a, rfl⟩ := Int.eq_ofNat_of_zero_le h0
  obtain ⟨c, rfl⟩ := Int.eq_ofNat_of_zero_le (Int.le_trans h0 h1)
  simp only [Int.toNat_natCast, Int.toNat_sub]
  have hac : a ≤ c := Int.ofNat_le.mp h1
  have hcb : c ≤ b.length := Int.ofNat_le.mp h2
  have hle : c - a ≤ (b.drop a).length := by rw [List.length_drop]; omega
  refine ⟨by rw [List.take_append_of_le_length hle], ?_, by rw [List.length_take]; omega⟩
  rw [List.drop_append_of_le_length hle, List.drop_drop, Nat.add_sub_cancel' hac]

theorem buf_yield (r : AR σ) (hg : Good r) (q : Int) (h1 : r.pos ≤ q) (h2 : q ≤ r.len) :
    slice r.buf r.pos q = (absA r).take (q - r.pos).toNat ∧ absA { r with pos := q } = (absA r).drop (q - r.pos).toNat ∧
    Good { r with pos := q } ∧ (slice r.buf r.pos q).length = (q - r.pos).toNat := by
  have hg' : Good { r with pos := q } :=
    ⟨hg.len_eq, Int.le_trans hg.pos_nonneg h1, h2, hg.chunk_pos, hg.exh_iff, hg.src_valid⟩
  obtain ⟨s1, s2, s3⟩ := slice_take_drop r.buf (future r) r.pos q hg.pos_nonneg h1 (hg.len_eq ▸ h2)
  rw [absA_eq _ hg', absA_eq r hg]
  exact ⟨s1, s2, hg', s3⟩

theorem absA_length_buf (r : AR σ) (hg : Good r) : (absA r).length = (r.len - r.pos).toNat + (future r).length := by
  rw [absA_eq r hg, List.length_append, List.length_drop]
  have := hg.len_eq; have := hg.pos_nonneg; have := hg.pos_le; omega

theorem absA_at_end (r : AR σ) (hg : Good r) (h : r.pos = r.len) : absA r = future r := by
  rw [absA_eq r hg, List.drop_of_length_le (by have := hg.len_eq; omega)]; rfl

theorem wSource_spec (r : AR σ) (hgi : GI .wSource r) :
    StepSpec .wSource r (match nextNorm r with
      | (.chunk c, r) => (.chunk c, .wSource, r)
      | (.stop, r) => (.stop, .done, r)
      | (.raiseValue, r) => (.raiseValue, .done, r)) := by
  obtain ⟨hg, hpl⟩ := hgi
  simp only at hpl
  have hn := nextNorm_spec r hg
  have ha := absA_at_end r hg hpl
  rcases hx : nextNorm r with ⟨y, r'⟩
  rw [hx] at hn
  cases y with
  | raiseValue => exact hn
  | stop =>
    obtain ⟨n1, n2, n3, n6, hg', ht⟩ := hn
    have hpl' : r'.pos = r'.len := by rw [n6.2.2.1, n6.2.1]; exact hpl
    have ha' := absA_at_end r' hg' hpl'
    rw [n1] at ha; rw [n2] at ha'
    exact ⟨by simp [lim, ha], by rw [ha, ha'], hg', ht, n6.2.2.2, rfl, fun _ => ⟨n3, hpl'⟩⟩
  | chunk c =>
    obtain ⟨n1, n2, n3, n5, n6, hg', ht⟩ := hn
    have hpl' : r'.pos = r'.len := by rw [n5.2.2.1, n5.2.1]; exact hpl
    have ha' := absA_at_end r' hg' hpl'
    rw [n2] at ha
    exact ⟨by rw [ha]; simp, by rw [ha, ha']; simp, by simp [lim, ha, ha'], ⟨hg', hpl'⟩, by simp [weight]; omega, ht, n5.2.2.2, rfl⟩

/-- a `yield buffer[pos:q]` of either wrapper generator; `hl`: the new program counter still hands out the rest of the share -/
theorem buf_yield_spec (pc pc' : Pc) (r : AR σ) (hg : Good r) (q : Int) (h1 : r.pos ≤ q) (h2 : q ≤ r.len)
    (hl : (q - r.pos).toNat + lim pc' ((absA r).drop (q - r.pos).toNat) = lim pc (absA r))
    (hgi : Good { r with pos := q } → absA { r with pos := q } = (absA r).drop (q - r.pos).toNat → GI pc' { r with pos := q })
    (hw : weight pc' { r with pos := q } < weight pc r) (hW : isW pc' = isW pc) :
    StepSpec pc r (.chunk (slice r.buf r.pos q), pc', { r with pos := q }) := by
  obtain ⟨b1, b2, b3, b4⟩ := buf_yield r hg q h1 h2
  exact ⟨by rw [b4]; exact b1, by rw [b4]; exact b2, by rw [b4, b2]; exact hl, hgi b3 b2, hw, rfl, rfl, hW⟩

theorem w_rest (r : AR σ) (hg : Good r) (q : Int) (h2 : q ≤ r.len) :
    (q - r.pos).toNat + ((absA r).drop (q - r.pos).toNat).length = (absA r).length := by
  have := absA_length_buf r hg
  rw [List.length_drop]; omega

theorem step_w (fuel : Nat) (pc : Pc) (r : AR σ) (hw : isW pc = true) (hgi : GI pc r) (hf : 2 ≤ fuel) :
    StepSpec pc r (gstep fuel pc r) := by
  cases fuel with
  | zero => omega
  | succ f =>
  have hg := hgi.1
  have hend := buf_yield_spec pc .wSource r hg r.len hg.pos_le (Int.le_refl _)
  cases pc with
  | wSource => exact wSource_spec r hgi
  | wAfterHint =>
    exact hend (w_rest r hg _ (Int.le_refl _)) (fun h _ => ⟨h, rfl⟩) (by simp [weight, mu]) rfl
  | wStart hint =>
    simp only [gstep]
    split
    · rename_i hlt
      split
      · rename_i hh
        simp only [Bool.and_eq_true, decide_eq_true_eq] at hh
        have h1 : r.pos ≤ r.pos + hint := by omega
        have h2 : r.pos + hint ≤ r.len := by omega
        exact buf_yield_spec _ _ r hg _ h1 h2 (w_rest r hg _ h2) (fun h _ => ⟨h, trivial⟩) (by simp [weight, mu]) rfl
      · exact hend (w_rest r hg _ (Int.le_refl _)) (fun h _ => ⟨h, rfl⟩) (by simp [weight, mu]) rfl
    · rename_i hlt
      cases f with
      | zero => omega
      | succ f2 =>
        have hpl : r.pos = r.len := by have := hg.pos_le; omega
        exact StepSpec.transfer (wSource_spec r ⟨hg, hpl⟩) rfl rfl (by simp [weight]) rfl rfl rfl
  | _ => simp [isW] at hw

open LawfulASource (data left valid)
variable {σ : Type} [ASource σ] [LawfulASource σ]

theorem occ_drop_append (d b F : Bytes) (hd : d ≠ []) (k j : Nat) (hj : k + j + d.length ≤ b.length) :
    occ d (b.drop k ++ F) j ↔ occ d b (k + j) := by
  rw [Rd.occ_append_left d _ _ j hd (by rw [List.length_drop]; omega), Rd.occ_drop]

theorem U_found (r : AR σ) (hg : Good r) (d : Bytes) (hd : d ≠ []) (p : Nat) (hp : r.pos.toNat ≤ p) (ho : occ d r.buf p)
    (hno : ∀ j, r.pos.toNat ≤ j → j < p → ¬ occ d r.buf j) : U d (absA r) = p - r.pos.toNat ∧ p + d.length ≤ r.buf.length := by
  have hfit := ((Rd.occ_iff d r.buf p hd).mp ho).2
  refine ⟨?_, hfit⟩
  rw [absA_eq r hg]
  generalize r.pos.toNat = k at *
  apply U_eq d _ hd
  · rw [List.length_append, List.length_drop]; omega
  · intro j hj hc
    exact hno _ (by omega) (by omega) ((occ_drop_append d _ _ hd k j (by omega)).mp hc)
  · intro _
    rw [occ_drop_append d _ _ hd k _ (by omega), Nat.add_sub_cancel' hp]
    exact ho

theorem U_ge_buf (r : AR σ) (hg : Good r) (d : Bytes) (hd : d ≠ []) (hno : ∀ j, r.pos.toNat ≤ j → ¬ occ d r.buf j)
    (m : Nat) (hm : m + (d.length - 1) ≤ r.buf.length - r.pos.toNat) : m ≤ U d (absA r) := by
  have hdl : 0 < d.length := List.length_pos_iff.mpr hd
  rw [absA_eq r hg]
  apply U_ge d _ hd
  · rw [List.length_append, List.length_drop]; omega
  · intro j hj hc
    exact hno _ (by omega) ((occ_drop_append d _ _ hd _ j (by omega)).mp hc)

theorem sliceTo_eq_slice (b : Bytes) (j : Int) (h : 0 ≤ j) : sliceTo b j = slice b 0 j := by
  rw [Rd.sliceTo_nonneg b j h, Rd.slice_nonneg b 0 j (Int.le_refl 0) h]; simp

theorem d_buf_yield (pc pc' : Pc) (d : Bytes) (r : AR σ) (hg : Good r) (hd : d ≠ []) (q : Int) (h1 : r.pos ≤ q) (h2 : q ≤ r.len)
    (hpc : lim pc = U d)
    (hpc' : (lim pc' = U d ∧ (q - r.pos).toNat ≤ U d (absA r)) ∨ (pc' = .done ∧ (q - r.pos).toNat = U d (absA r)))
    (hgi : Good { r with pos := q } → absA { r with pos := q } = (absA r).drop (q - r.pos).toNat → GI pc' { r with pos := q })
    (hw : weight pc' { r with pos := q } < weight pc r) (hW : isW pc' = isW pc) :
    StepSpec pc r (.chunk (slice r.buf r.pos q), pc', { r with pos := q }) := by
  refine buf_yield_spec pc pc' r hg q h1 h2 ?_ hgi hw hW
  rw [hpc]
  rcases hpc' with ⟨e, hle⟩ | ⟨e, heq⟩
  · rw [e]; exact U_drop d _ hd _ hle
  · rw [e]; simp only [lim]; omega

theorem dCheck_spec (d : Bytes) (r : AR σ) (hg : Good r) (hok : okDelim r.chunk d) (hp0 : r.pos = 0) :
    match dCheckBuffer d r with
    | some x => StepSpec (.dAfterOutput d) r x
    | none => ∀ j, ¬ occ d r.buf j := by
  obtain ⟨hd, hdc⟩ := hok
  unfold dCheckBuffer
  have hp0' : r.pos.toNat = 0 := by omega
  rcases Rd.find_spec r.buf d 0 hd (Int.le_refl 0) (by omega) with ⟨h1, h2⟩ | ⟨p, h1, _, h3, h4⟩
  · simp only [h1]
    exact fun j => h2 j (by simp)
  · simp only [h1]
    have hp : ((p : Int) ≥ 0) := by omega
    simp only [hp, if_true]
    obtain ⟨hU, hfit⟩ := U_found r hg d hd p (by omega) h3 (fun j _ hj => h4 j (by simp) hj)
    rw [hp0'] at hU
    by_cases hpos : (p : Int) > 0
    · simp only [hpos, if_true]
      rw [sliceTo_eq_slice _ _ (by omega), ← hp0]
      have hl := hg.len_eq
      exact d_buf_yield _ _ d r hg hd p (by omega) (by omega) rfl (Or.inr ⟨rfl, by rw [hU]; omega⟩)
        (fun h _ => ⟨h, trivial⟩) (by simp [weight]) rfl
    · simp only [hpos, if_false]
      have : p = 0 := by omega
      refine ⟨by simp only [lim]; omega, rfl, hg, rfl, rfl, rfl, fun h => by simp [isW] at h⟩


theorem merge_eq (r : AR σ) (c : Bytes) (hl : r.len = r.buf.length) :
    (if !r.buf.isEmpty then { r with buf := r.buf ++ c, len := r.len + c.length } else { r with buf := c, len := c.length })
      = { r with buf := r.buf ++ c, len := r.len + c.length } := by
  cases hb : r.buf with
  | nil => rw [hb] at hl; simp [hl]
  | cons a t => simp

theorem U_fragment (d b c F : Bytes) (chunk : Int) (hd : d ≠ []) (hdc : (d.length : Int) ≤ chunk)
    (hc : chunk ≤ (c.length : Int) ∨ F = []) (hno : ∀ j, ¬ occ d b j) (p : Nat)
    (h3 : occ d (b.drop (b.length - (d.length - 1)) ++ c.take (d.length - 1)) p)
    (h4 : ∀ j, j < p → ¬ occ d (b.drop (b.length - (d.length - 1)) ++ c.take (d.length - 1)) j) :
    U d (b ++ (c ++ F)) = b.length - (d.length - 1) + p ∧ b.length - (d.length - 1) + p < b.length := by
  have hdl : 0 < d.length := List.length_pos_iff.mpr hd
  have hst := straddle d b c F chunk hd hdc hc hno
  have hfit := ((Rd.occ_iff d _ p hd).mp h3).2
  rw [List.length_append, List.length_drop, List.length_take] at hfit
  generalize b.length - (d.length - 1) = off at *
  have hq : off + p < b.length := by omega
  refine ⟨U_eq d _ hd _ (by rw [List.length_append]; omega) (fun j hj hc' => ?_) (fun _ => ?_), hq⟩
  · obtain ⟨e1, e2⟩ := (hst j (by omega)).mp hc'
    exact h4 _ (by omega) e2
  · rw [hst _ hq]; exact ⟨Nat.le_add_right _ _, by rw [Nat.add_sub_cancel_left]; exact h3⟩

theorem U_no_fragment (d b c F : Bytes) (chunk : Int) (hd : d ≠ []) (hdc : (d.length : Int) ≤ chunk)
    (hc : chunk ≤ (c.length : Int) ∨ F = []) (hno : ∀ j, ¬ occ d b j)
    (h : ∀ j, ¬ occ d (b.drop (b.length - (d.length - 1)) ++ c.take (d.length - 1)) j) : b.length ≤ U d (b ++ (c ++ F)) :=
  U_ge d _ hd _ (by rw [List.length_append]; omega)
    (fun j hj hc' => h _ ((straddle d b c F chunk hd hdc hc hno j hj).mp hc').2)

/-- `fragment = buffer[offset:] + chunk[:dl1]` and the position `offset + p`, in terms of `Nat` -/
theorem fragment_eq (b c d : Bytes) (l : Int) (hl : l = b.length) (hdl : 0 < d.length) (hoff : l - ((d.length : Int) - 1) > 0) :
    sliceFrom b (l - ((d.length : Int) - 1)) ++ sliceTo c ((d.length : Int) - 1)
      = b.drop (b.length - (d.length - 1)) ++ c.take (d.length - 1) ∧ d.length - 1 < b.length ∧
    ∀ p : Nat, l - ((d.length : Int) - 1) + (p : Int) = ((b.length - (d.length - 1) + p : Nat) : Int) := by
  subst hl
  obtain ⟨k, hk⟩ : ∃ k, d.length = k + 1 := ⟨d.length - 1, by omega⟩
  rw [hk] at hoff ⊢
  have e1 : ((k + 1 : Nat) : Int) - 1 = k := by omega
  simp only [e1, Nat.add_sub_cancel] at hoff ⊢
  have hkb : k < b.length := by omega
  refine ⟨?_, hkb, fun p => by omega⟩
  rw [Rd.sliceFrom_nonneg _ _ (by omega), Rd.sliceTo_nonneg _ _ (Int.natCast_nonneg _), ← Int.ofNat_sub (Nat.le_of_lt hkb)]
  rfl

theorem good_buf {r : AR σ} (hg : Good r) (b : Bytes) (l q : Int) (hl : l = b.length) (h0 : 0 ≤ q) (hq : q ≤ l) :
    Good { r with buf := b, len := l, pos := q } ∧ absA { r with buf := b, len := l, pos := q } = b.drop q.toNat ++ future r :=
  have hg2 : Good { r with buf := b, len := l, pos := q } := ⟨hl, h0, hq, hg.chunk_pos, hg.exh_iff, hg.src_valid⟩
  ⟨hg2, absA_eq _ hg2⟩

theorem StepSpec.of_split {pc pc' : Pc} {r r' : AR σ} {c : Bytes} (h : absA r = c ++ absA r')
    (hl : c.length + lim pc' (absA r') = lim pc (absA r)) (hgi : GI pc' r') (hw : weight pc' r' < weight pc r)
    (ht : total r' = total r) (hc : r'.chunk = r.chunk) (hW : isW pc' = isW pc) : StepSpec pc r (.chunk c, pc', r') :=
  ⟨by rw [h, List.take_left], by rw [h, List.drop_left], hl, hgi, hw, ht, hc, hW⟩

/-- the `async for chunk in self._source` loop of `_iter_delimited` -/
theorem dLoop_spec (d : Bytes) : ∀ (fuel : Nat) (r : AR σ), GI (.dLoop d) r → mu r + 1 ≤ fuel →
    StepSpec (.dLoop d) r (gstep fuel (.dLoop d) r) := by
  intro fuel
  induction fuel with
  | zero => intro r _ hf; omega
  | succ f ih =>
    intro r hgi hf
    obtain ⟨hg, ⟨hd, hdc⟩, hp0, hno⟩ := hgi
    have hdl : 0 < d.length := List.length_pos_iff.mpr hd
    have hl := hg.len_eq
    have hA : absA r = r.buf ++ future r := by rw [absA_eq r hg, hp0]; rfl
    have hn := nextNorm_spec r hg
    rcases hx : nextNorm r with ⟨y, r'⟩
    rw [hx] at hn
    simp only [gstep, hx]
    cases y with
    | raiseValue => exact absurd hn id
    | stop =>
      -- the source is exhausted: hand out the whole buffer
      obtain ⟨n1, n2, _, ⟨s1, s2, s3, s4⟩, hg', ht⟩ := hn
      obtain ⟨hg2, ha2⟩ := good_buf hg' [] 0 0 rfl (Int.le_refl 0) (Int.le_refl 0)
      rw [n2] at ha2
      rw [n1, List.append_nil] at hA
      have hU : U d (absA r) = r.buf.length := by
        rw [hA]; exact U_eq d _ hd _ (Nat.le_refl _) (fun j _ => hno j) (fun h => absurd h (Nat.lt_irrefl _))
      exact .of_split (by rw [ha2, s1, hA]; simp) (by rw [s1]; exact hU.symm) ⟨hg2, trivial⟩ (by simp [weight]) ht s4 rfl
    | chunk c =>
      obtain ⟨n1, n2, n3, ⟨s1, s2, s3, s4⟩, n6, hg', htot⟩ := hn
      have hp0' : r'.pos = 0 := s3.trans hp0
      have h0 : r'.pos.toNat = 0 := by rw [hp0']; rfl
      have hA2 : absA r = r'.buf ++ (c ++ future r') := by rw [hA, n2, s1]
      have hok' : okDelim r'.chunk d := ⟨hd, by rw [s4]; exact hdc⟩
      have hl' : r'.len = r'.buf.length := hg'.len_eq
      have hno' : ∀ j, ¬ occ d r'.buf j := by rw [s1]; exact hno
      have hmrg : r'.len + (c.length : Int) = ((r'.buf ++ c).length : Int) := by rw [List.length_append]; omega
      by_cases hoff : r'.len - ((d.length : Int) - 1) > 0
      · simp only [hoff, if_true]
        obtain ⟨hfr, hb, hqi⟩ := fragment_eq r'.buf c d r'.len hl' hdl hoff
        rw [hfr]
        rcases Rd.find_spec (r'.buf.drop (r'.buf.length - (d.length - 1)) ++ c.take (d.length - 1)) d 0 hd (Int.le_refl 0) (by omega)
          with ⟨h1, h2⟩ | ⟨p, h1, _, h3, h4⟩
        · -- no delimiter across the border: the old buffer goes out, the chunk becomes the buffer
          simp only [h1, show ((-1 : Int) < 0) from by omega, if_true]
          have hge := U_no_fragment d r'.buf c (future r') r.chunk hd hdc n3 hno' (fun j => h2 j (Nat.zero_le _))
          obtain ⟨hg2, ha2⟩ := good_buf hg' c c.length r'.pos rfl hg'.pos_nonneg (by rw [hp0']; exact Int.natCast_nonneg _)
          rw [h0, List.drop_zero] at ha2
          refine .of_split (by rw [ha2, hA2]) ?_ ⟨hg2, hok', hp0'⟩ (by show 2 * mu r' + 2 < 2 * mu r + 1; omega) htot s4 rfl
          show r'.buf.length + U d _ = U d _
          have := U_drop d _ hd _ hge
          rwa [List.drop_left, ← hA2, ← ha2] at this
        · -- the delimiter straddles the border
          simp only [h1, show ¬ ((p : Int) < 0) from by omega, if_false]
          obtain ⟨hU, hq⟩ := U_fragment d r'.buf c (future r') r.chunk hd hdc n3 hno' p h3 (fun j hj => h4 j (Nat.zero_le _) hj)
          rw [← hA2] at hU
          rw [hqi]
          generalize r'.buf.length - (d.length - 1) + p = q at hU hq ⊢
          obtain ⟨hg2, ha2⟩ := good_buf hg' (r'.buf ++ c) (r'.len + c.length) q hmrg (Int.natCast_nonneg _) (by omega)
          have hc2 : (sliceTo (r'.buf ++ c) (q : Int)).length = q := by
            rw [Rd.sliceTo_nonneg _ _ (Int.natCast_nonneg _), Int.toNat_natCast, List.length_take, List.length_append]; omega
          refine .of_split ?_ (by rw [hc2]; exact hU.symm) ⟨hg2, trivial⟩ (by simp [weight]) htot s4 rfl
          rw [ha2, hA2, Rd.sliceTo_nonneg _ _ (Int.natCast_nonneg _), ← List.append_assoc, ← List.append_assoc, List.take_append_drop]
      · -- the buffer is shorter than the delimiter: merge and search the buffer
        simp only [hoff, if_false]
        rw [merge_eq r' c hl']
        obtain ⟨hg2, ha2⟩ := good_buf hg' (r'.buf ++ c) (r'.len + c.length) r'.pos hmrg hg'.pos_nonneg (by rw [hp0']; omega)
        rw [h0, List.drop_zero, List.append_assoc, ← hA2] at ha2
        have hchk := dCheck_spec d _ hg2 hok' hp0'
        rcases hck : dCheckBuffer d { r' with buf := r'.buf ++ c, len := r'.len + c.length } with _ | out
        · rw [hck] at hchk
          exact StepSpec.transfer (ih _ ⟨hg2, hok', hp0', hchk⟩ (by show mu r' + 1 ≤ f; omega)) ha2 rfl
            (by show 2 * mu r' + 1 ≤ 2 * mu r + 1; omega) htot s4 rfl
        · rw [hck] at hchk
          exact StepSpec.transfer hchk ha2 rfl (by show 2 * mu r' + 2 ≤ 2 * mu r + 1; omega) htot s4 rfl

/-- `if self._buffer_pos > 0: self._trim_buffer()` -/
theorem trim_if (r : AR σ) (hg : Good r) : ∃ r1, (if r.pos > 0 then trimBuffer r else r) = r1 ∧ Good r1 ∧ absA r1 = absA r ∧
    r1.pos = 0 ∧ r1.buf = r.buf.drop r.pos.toNat ∧ total r1 = total r ∧ mu r1 = mu r ∧ r1.chunk = r.chunk := by
  have hl := hg.len_eq; have hp := hg.pos_nonneg; have hpl := hg.pos_le
  by_cases h : r.pos > 0
  · have hb : sliceFrom r.buf r.pos = r.buf.drop r.pos.toNat := Rd.sliceFrom_nonneg _ _ hp
    obtain ⟨g, a⟩ := good_buf hg (sliceFrom r.buf r.pos) (r.len - r.pos) 0 (by rw [hb, List.length_drop]; omega) (Int.le_refl 0)
      (by omega)
    exact ⟨_, if_pos h, g, a.trans (by rw [absA_eq r hg, hb]; rfl), rfl, hb, rfl, rfl, rfl⟩
  · have h0 : r.pos = 0 := by omega
    exact ⟨r, if_neg h, hg, rfl, h0, by rw [h0]; rfl, rfl, rfl, rfl⟩

theorem dPreLoop_spec (d : Bytes) (fuel : Nat) (r : AR σ) (hgi : GI (.dPreLoop d) r) (hf : mu r + 2 ≤ fuel) :
    StepSpec (.dPreLoop d) r (gstep fuel (.dPreLoop d) r) := by
  obtain ⟨hg, hok, hno⟩ := hgi
  cases fuel with
  | zero => omega
  | succ f =>
    simp only [gstep]
    obtain ⟨r1, e1, t1, t2, t3, t4, t5, t6, t7⟩ := trim_if r hg
    rw [e1]
    have hgi2 : GI (.dLoop d) r1 :=
      ⟨t1, by rw [t7]; exact hok, t3, fun j hc => by rw [t4, Rd.occ_drop] at hc; exact hno _ (Nat.le_add_right _ _) hc⟩
    exact StepSpec.transfer (dLoop_spec d f _ hgi2 (by rw [t6]; omega)) t2 rfl (by simp only [weight]; rw [t6]; omega) t5 t7 rfl

theorem dAfterOutput_spec (d : Bytes) (fuel : Nat) (r : AR σ) (hgi : GI (.dAfterOutput d) r) (hf : mu r + 2 ≤ fuel) :
    StepSpec (.dAfterOutput d) r (gstep fuel (.dAfterOutput d) r) := by
  obtain ⟨hg, hok, hp0⟩ := hgi
  cases fuel with
  | zero => omega
  | succ f =>
    simp only [gstep]
    have hchk := dCheck_spec d r hg hok hp0
    rcases hck : dCheckBuffer d r with _ | out
    · rw [hck] at hchk
      simp only
      exact StepSpec.transfer (dLoop_spec d f r ⟨hg, hok, hp0, hchk⟩ (Nat.le_of_succ_le_succ hf)) rfl rfl (Nat.add_le_add_left (by decide) _) rfl rfl rfl
    · rw [hck] at hchk
      exact hchk

theorem dStart_spec (d : Bytes) (hint : Int) (fuel : Nat) (r : AR σ) (hgi : GI (.dStart d hint) r) (hf : mu r + 3 ≤ fuel) :
    StepSpec (.dStart d hint) r (gstep fuel (.dStart d hint) r) := by
  obtain ⟨hg, hd, hdc⟩ := hgi
  have hdl : 0 < d.length := List.length_pos_iff.mpr hd
  have hl := hg.len_eq; have hp := hg.pos_nonneg; have hpl := hg.pos_le
  cases fuel with
  | zero => omega
  | succ f =>
    simp only [gstep]
    have hv : (decide ((0 : Int) ≤ (d.length : Int) - 1) && decide ((d.length : Int) - 1 < r.chunk)) = true := by
      simp only [Bool.and_eq_true, decide_eq_true_eq]; omega
    simp only [hv, Bool.not_true, Bool.false_eq_true, if_false]
    by_cases hlt : r.len > r.pos
    · simp only [hlt, if_true]
      rcases Rd.find_spec r.buf d r.pos hd hp (by omega) with ⟨h1, h2⟩ | ⟨p, h1, hpp, h3, h4⟩
      · -- not in the buffer
        simp only [h1, show ((-1 : Int) == 0) = false from rfl, show ¬ ((-1 : Int) > 0) from by omega, Bool.false_eq_true, if_false]
        by_cases hh : (decide (0 < hint) && decide (hint < r.len - r.pos - ((d.length : Int) - 1))) = true
        · simp only [hh, if_true]
          simp only [Bool.and_eq_true, decide_eq_true_eq] at hh
          refine d_buf_yield _ _ d r hg hd (r.pos + hint) (by omega) (by omega) rfl (Or.inl ⟨rfl, ?_⟩) (fun h _ => ⟨h, ⟨hd, hdc⟩, ?_⟩)
            (Nat.add_lt_add_left (by decide) _) rfl
          · exact U_ge_buf r hg d hd h2 _ (by omega)
          · intro j hj; exact h2 j (by have : (r.pos + hint).toNat ≤ j := hj; omega)
        · simp only [hh, Bool.false_eq_true, if_false]
          exact StepSpec.transfer (dPreLoop_spec d f r ⟨hg, ⟨hd, hdc⟩, h2⟩ (Nat.le_of_succ_le_succ hf)) rfl rfl (Nat.add_le_add_left (by decide) _) rfl rfl rfl
      · obtain ⟨hU, hfit⟩ := U_found r hg d hd p hpp h3 h4
        simp only [h1]
        by_cases hp0 : p = 0
        · subst hp0
          simp only [show (((0 : Nat) : Int) == 0) = true from rfl, if_true]
          exact ⟨by simp only [lim]; omega, rfl, hg, rfl, rfl, rfl, fun h => by simp [isW] at h⟩
        · have hb : ((p : Int) == 0) = false := by simp; omega
          have hgt : (p : Int) > 0 := by omega
          simp only [hb, Bool.false_eq_true, if_false, hgt, if_true]
          by_cases hh : (decide (0 < hint) && decide (hint < (p : Int) - r.pos)) = true
          · simp only [hh, if_true]
            simp only [Bool.and_eq_true, decide_eq_true_eq] at hh
            refine d_buf_yield _ _ d r hg hd (r.pos + hint) (by omega) (by omega) rfl (Or.inl ⟨rfl, by omega⟩)
              (fun h ha => ⟨h, ⟨hd, hdc⟩, by show r.pos + hint ≤ p; omega, by show (p : Int) ≤ r.len; omega, ?_⟩)
              (Nat.add_lt_add_left (by decide) _) rfl
            show ((p : Int) - (r.pos + hint)).toNat = _
            have := U_drop d (absA r) hd (r.pos + hint - r.pos).toNat (by omega)
            rw [ha]; omega
          · simp only [hh, Bool.false_eq_true, if_false]
            exact d_buf_yield _ _ d r hg hd p (by omega) (by omega) rfl (Or.inr ⟨rfl, by omega⟩) (fun h _ => ⟨h, trivial⟩)
              (by simp [weight]) rfl
    · simp only [hlt, if_false]
      have hno : ∀ j, r.pos.toNat ≤ j → ¬ occ d r.buf j := by
        intro j hj hc
        have := Rd.occ_lt_length d r.buf j hd hc
        omega
      exact StepSpec.transfer (dPreLoop_spec d f r ⟨hg, ⟨hd, hdc⟩, hno⟩ (Nat.le_of_succ_le_succ hf)) rfl rfl (Nat.add_le_add_left (by decide) _) rfl rfl rfl

theorem mu_le (r : AR σ) (hg : Good r) : mu r ≤ ASource.bound r.src + 2 := by
  have := LawfulASource.left_le r.src hg.src_valid
  unfold mu; split <;> omega

/-- **one resumption of either wrapper generator**, at any program counter, from any state satisfying the generator invariant;
    `mu r + 3` bounds the recursion depth `gstep` needs -/
theorem step_spec (fuel : Nat) (pc : Pc) (r : AR σ) (hgi : GI pc r) (hf : mu r + 3 ≤ fuel) : StepSpec pc r (gstep fuel pc r) := by
  cases fuel with
  | zero => omega
  | succ f =>
  cases pc with
  | wStart _ | wAfterHint | wSource => exact step_w _ _ r rfl hgi (by omega)
  | dStart d h => exact dStart_spec d h _ r hgi hf
  | dPreLoop d => exact dPreLoop_spec d _ r hgi (by omega)
  | dLoop d => exact dLoop_spec d _ r hgi (by omega)
  | dAfterOutput d => exact dAfterOutput_spec d _ r hgi (by omega)
  | dFoundAfterHint d p =>
    obtain ⟨hg, ⟨hd, hdc⟩, h1, h2, h3⟩ := hgi
    exact d_buf_yield _ _ d r hg hd p h1 h2 rfl (Or.inr ⟨rfl, h3⟩) (fun h _ => ⟨h, trivial⟩) (by simp [weight]) rfl
  | done => exact ⟨rfl, rfl, hgi.1, rfl, rfl, rfl, fun h => by simp [isW] at h⟩

theorem step_fuelOf (pc : Pc) (r : AR σ) (hgi : GI pc r) : StepSpec pc r (gstep (fuelOf r) pc r) :=
  step_spec _ pc r hgi (by have := mu_le r hgi.1; unfold fuelOf; omega)

open LawfulASource (data left valid)
variable {σ : Type} [ASource σ] [LawfulASource σ]

theorem U_le (d A : Bytes) : U d A ≤ A.length := by unfold U stopAt; omega

theorem lim_le (pc : Pc) (A : Bytes) : lim pc A ≤ A.length := by
  cases pc with
  | wStart _ | wAfterHint | wSource => exact Nat.le_refl _
  | done => exact Nat.zero_le _
  | _ => exact U_le _ _

/-- `async for chunk in source: result.write(chunk)` hands out exactly the generator's share of the flat text -/
theorem readAll_spec : ∀ (fuel : Nat) (pc : Pc) (r : AR σ) (acc : Bytes), GI pc r → weight pc r < fuel →
    ∃ r', readAll fuel pc r acc = (.ok (acc ++ (absA r).take (lim pc (absA r))), r') ∧ Good r' ∧
      absA r' = (absA r).drop (lim pc (absA r)) ∧ total r' = total r ∧ r'.chunk = r.chunk ∧
      (isW pc = true → r'.exhausted = true ∧ r'.pos = r'.len) := by
  intro fuel
  induction fuel with
  | zero => intro pc r acc _ h; omega
  | succ f ih =>
    intro pc r acc hgi hw
    have hs := step_fuelOf pc r hgi
    simp only [readAll]
    rcases hx : gstep (fuelOf r) pc r with ⟨y, pc', r1⟩
    rw [hx] at hs
    cases y with
    | chunk c =>
      obtain ⟨a1, a2, a3, a4, a5, a6, a7, a8⟩ := hs
      obtain ⟨r', e1, e2, e3, e4, e5, e6⟩ := ih pc' r1 (acc ++ c) a4 (by omega)
      refine ⟨r', ?_, e2, ?_, by rw [e4, a6], by rw [e5, a7], by rw [← a8]; exact e6⟩
      · simp only
        rw [e1, ← a3, List.take_add, ← a1, a2, List.append_assoc]
      · rw [e3, ← a3, a2, List.drop_drop]
    | stop =>
      obtain ⟨a1, a2, a3, a4, a5, _, a6⟩ := hs
      refine ⟨r1, by simp only [a1, List.take_zero, List.append_nil], a3, by rw [a1, a2]; rfl, a4, a5, a6⟩
    | raiseValue => exact absurd hs id

theorem prepend_spec (r : AR σ) (x : Bytes) (hg : Good r) :
    Good (prependBuffer r x) ∧ absA (prependBuffer r x) = x ++ absA r ∧ total (prependBuffer r x) = total r ∧
    (prependBuffer r x).chunk = r.chunk := by
  unfold prependBuffer
  by_cases h : r.len > r.pos
  · rw [if_pos h]
    obtain ⟨g, a⟩ := good_buf hg (x ++ sliceFrom r.buf r.pos) _ 0 rfl (Int.le_refl 0) (Int.natCast_nonneg _)
    exact ⟨g, a.trans (List.append_assoc ..), rfl, rfl⟩
  · rw [if_neg h]
    obtain ⟨g, a⟩ := good_buf hg x _ 0 rfl (Int.le_refl 0) (Int.natCast_nonneg _)
    exact ⟨g, a.trans (by rw [absA_at_end r hg (by have := hg.pos_le; omega)]; rfl), rfl, rfl⟩

/-- how far `_read_from(source, remaining)` gets after a chunk of `n` bytes, of a share of `n + L'` -/
theorem min_rem (rem : Int) (n L' : Nat) (hrem : 0 < rem) :
    (rem < n → min rem.toNat (n + L') = rem.toNat ∧ rem.toNat ≤ n) ∧ (rem - n = 0 → min rem.toNat (n + L') = n) ∧
    (¬ rem < n → min rem.toNat (n + L') = n + min (rem - n).toNat L') := by
  obtain ⟨k, rfl⟩ := Int.eq_ofNat_of_zero_le (Int.le_of_lt hrem)
  simp only [Int.toNat_natCast, Int.toNat_sub]
  omega

/-- the `remaining`-counting loop of `_read_from` (both the join and the `BytesIO` variant): exactly `min(size, share)` bytes,
    the unused tail of the last chunk is put back in front of the buffer -/
theorem readN_spec : ∀ (fuel : Nat) (pc : Pc) (r : AR σ) (rem : Int) (acc : Bytes), GI pc r → weight pc r < fuel → 0 < rem →
    ∃ r', readN fuel pc r rem acc = (.ok (acc ++ (absA r).take (min rem.toNat (lim pc (absA r)))), r') ∧ Good r' ∧
      absA r' = (absA r).drop (min rem.toNat (lim pc (absA r))) ∧ total r' = total r ∧ r'.chunk = r.chunk := by
  intro fuel
  induction fuel with
  | zero => intro pc r rem acc _ h; omega
  | succ f ih =>
    intro pc r rem acc hgi hw hrem
    have hs := step_fuelOf pc r hgi
    simp only [readN]
    rcases hx : gstep (fuelOf r) pc r with ⟨y, pc', r1⟩
    rw [hx] at hs
    cases y with
    | chunk c =>
      obtain ⟨a1, a2, a3, a4, a5, a6, a7, a8⟩ := hs
      have hA : c ++ absA r1 = absA r := by rw [a1, a2]; exact List.take_append_drop ..
      obtain ⟨m1, m2, m3⟩ := min_rem rem c.length (lim pc' (absA r1)) hrem
      rw [← a3, ← hA]
      simp only
      by_cases h1 : rem < (c.length : Int)
      · simp only [h1, if_true]
        obtain ⟨p1, p2, p3, p4⟩ := prepend_spec r1 (sliceFrom c rem) a4.1
        obtain ⟨hmin, hle⟩ := m1 h1
        rw [hmin, List.take_append_of_le_length hle, List.drop_append_of_le_length hle, ← Rd.sliceTo_nonneg _ _ (Int.le_of_lt hrem),
          ← Rd.sliceFrom_nonneg _ _ (Int.le_of_lt hrem)]
        exact ⟨_, rfl, p1, p2, by rw [p3, a6], by rw [p4, a7]⟩
      · simp only [h1, if_false]
        by_cases h2 : rem - (c.length : Int) = 0
        · have hb : (rem - (c.length : Int) == 0) = true := by simp [h2]
          simp only [hb, if_true]
          rw [m2 h2, List.take_left, List.drop_left]
          exact ⟨r1, rfl, a4.1, rfl, a6, a7⟩
        · have hb : (rem - (c.length : Int) == 0) = false := by simp [h2]
          simp only [hb, Bool.false_eq_true, if_false]
          obtain ⟨r', e1, e2, e3, e4, e5⟩ := ih pc' r1 (rem - c.length) (acc ++ c) a4 (by omega) (by omega)
          rw [m3 h1, List.take_add, List.take_left, List.drop_left, ← List.drop_drop, List.drop_left, ← List.append_assoc]
          exact ⟨r', e1, e2, e3, by rw [e4, a6], by rw [e5, a7]⟩
    | stop =>
      obtain ⟨a1, a2, a3, a4, a5, _, a6⟩ := hs
      refine ⟨r1, by simp only [a1, Nat.min_zero, List.take_zero, List.append_nil], a3, by rw [a1, a2]; simp, a4, a5⟩
    | raiseValue => exact absurd hs id

theorem weight_lt_big (pc : Pc) (r : AR σ) (hg : Good r) : weight pc r < bigFuel r := by
  have := mu_le r hg
  unfold weight bigFuel; split <;> omega

open Rd (want) in
/-- **`_read_from(source, size)`** for any `size` (`None`, `-1`, ≤ 0, > 0) and either wrapper generator: returns the next
    `min(size, share)` bytes of the flat text and leaves exactly the rest -/
theorem readFrom_spec (pc : Pc) (r : AR σ) (size : Option Int) (hgi : GI pc r) :
    ∃ r', readFrom pc r size = (.ok ((absA r).take (min (want (absA r) size) (lim pc (absA r)))), r') ∧ Good r' ∧
      absA r' = (absA r).drop (min (want (absA r) size) (lim pc (absA r))) ∧ total r' = total r ∧ r'.chunk = r.chunk := by
  have hle := lim_le pc (absA r)
  have hall : ∃ r', readAll (bigFuel r) pc r [] = (.ok ((absA r).take (min (absA r).length (lim pc (absA r)))), r') ∧ Good r' ∧
      absA r' = (absA r).drop (min (absA r).length (lim pc (absA r))) ∧ total r' = total r ∧ r'.chunk = r.chunk := by
    obtain ⟨r', e1, e2, e3, e4, e5, _⟩ := readAll_spec _ pc r [] hgi (weight_lt_big pc r hgi.1)
    have hmin : min (absA r).length (lim pc (absA r)) = lim pc (absA r) := by omega
    exact ⟨r', by rw [e1, hmin]; rfl, e2, by rw [e3, hmin], e4, e5⟩
  unfold readFrom
  cases size with
  | none => simpa only [want] using hall
  | some s =>
    simp only
    by_cases h1 : s = -1
    · subst h1
      simpa only [want, if_true, beq_self_eq_true] using hall
    · have hb : (s == -1) = false := by simp [h1]
      simp only [hb, Bool.false_eq_true, if_false, want, h1]
      by_cases h2 : s ≤ 0
      · simp only [h2, if_true]
        have : s.toNat = 0 := by omega
        refine ⟨r, by rw [this]; simp, hgi.1, by rw [this]; simp, rfl, rfl⟩
      · simp only [h2, if_false]
        obtain ⟨r', e1, e2, e3, e4, e5⟩ := readN_spec _ pc r s [] hgi (weight_lt_big pc r hgi.1) (by omega)
        exact ⟨r', by rw [e1]; rfl, e2, e3, e4, e5⟩


theorem peekLoop_spec : ∀ (fuel : Nat) (r : AR σ) (size : Int), Good r → r.pos = 0 → mu r ≤ fuel →
    ∃ r', peekLoop fuel r size = (.ok (sliceTo r'.buf size), r') ∧ Good r' ∧ absA r' = absA r ∧ r'.pos = 0 ∧
      (size ≤ r'.len ∨ future r' = []) ∧ total r' = total r ∧ r'.chunk = r.chunk := by
  intro fuel
  induction fuel with
  | zero =>
    intro r size hg hp0 hmu
    have hfin : r.npc = .finished := by
      unfold mu at hmu
      cases hn : r.npc <;> simp [hn] at hmu
      rfl
    exact ⟨r, rfl, hg, rfl, hp0, Or.inr (by show future r = []; simp [future, hfin]), rfl, rfl⟩
  | succ f ih =>
    intro r size hg hp0 hmu
    have hn := nextNorm_spec r hg
    simp only [peekLoop]
    rcases hx : nextNorm r with ⟨y, r'⟩
    rw [hx] at hn
    cases y with
    | raiseValue => exact absurd hn id
    | stop =>
      obtain ⟨n1, n2, _, ⟨s1, s2, s3, s4⟩, hg', ht⟩ := hn
      refine ⟨r', rfl, hg', ?_, by rw [s3, hp0], Or.inr n2, ht, s4⟩
      unfold absA; rw [s1, s3, n1, n2]
    | chunk c =>
      obtain ⟨n1, n2, n3, ⟨s1, s2, s3, s4⟩, n6, hg', ht2⟩ := hn
      simp only
      obtain ⟨hg2, ha⟩ := good_buf hg' (r'.buf ++ c) ((r'.buf ++ c).length : Int) r'.pos rfl hg'.pos_nonneg
        (by rw [s3, hp0]; exact Int.natCast_nonneg _)
      have ha2 : absA { r' with buf := r'.buf ++ c, len := ((r'.buf ++ c).length : Int) } = absA r := by
        rw [ha, absA_eq r hg, n2, s3, s1, hp0]; simp
      by_cases hge : ((r'.buf ++ c).length : Int) ≥ size
      · rw [if_pos hge]
        exact ⟨{ r' with buf := r'.buf ++ c, len := ((r'.buf ++ c).length : Int) }, rfl, hg2, ha2, s3.trans hp0, Or.inl hge, ht2, s4⟩
      · rw [if_neg hge]
        obtain ⟨r2, i0, i1, i2, i3, i4, i5, i6⟩ := ih { r' with buf := r'.buf ++ c, len := ((r'.buf ++ c).length : Int) } size hg2
          (s3.trans hp0) (by show mu r' ≤ f; omega)
        exact ⟨r2, i0, i1, i2.trans ha2, i3, i4, i5.trans ht2, i6.trans s4⟩

def peekSize (chunk size : Int) : Nat := (if size < 0 || size > chunk then chunk else size).toNat

/-- **`peek(size)`**: the next `size` (clamped to the chunk size) bytes, nothing consumed -/
theorem peek_spec (r : AR σ) (size : Int) (hg : Good r) :
    ∃ r', peek r size = (.ok ((absA r).take (peekSize r.chunk size)), r') ∧ absA r' = absA r ∧ Good r' ∧
      total r' = total r ∧ r'.chunk = r.chunk ∧ r'.pos = 0 ∧
      ((peekSize r.chunk size : Int) ≤ r'.len ∨ future r' = []) := by
  have hc := hg.chunk_pos
  unfold peek peekSize
  generalize hS : (if size < 0 || size > r.chunk then r.chunk else size) = S
  have hS0 : 0 ≤ S := by
    rw [← hS]; split
    · omega
    · rename_i h; simp at h; omega
  obtain ⟨r1, e1, g1, a1, p1, _, t1, m1, c1⟩ := trim_if r hg
  simp only [e1]
  have h2 : ∃ r2, (if r1.len < S then peekLoop (ASource.bound r1.src + 2) r1 S else (.ok (sliceTo r1.buf S), r1))
        = (.ok (sliceTo r2.buf S), r2) ∧ Good r2 ∧ absA r2 = absA r ∧ r2.pos = 0 ∧
      (S ≤ r2.len ∨ future r2 = []) ∧ total r2 = total r ∧ r2.chunk = r.chunk := by
    by_cases hlt : r1.len < S
    · obtain ⟨r2, i0, i1, i2, i3, i4, i5, i6⟩ := peekLoop_spec (ASource.bound r1.src + 2) r1 S g1 p1 (mu_le r1 g1)
      exact ⟨r2, by rw [if_pos hlt]; exact i0, i1, by rw [i2, a1], i3, i4, by rw [i5, t1], by rw [i6, c1]⟩
    · exact ⟨r1, by rw [if_neg hlt], g1, a1, p1, Or.inl (by omega), t1, c1⟩
  obtain ⟨r2, e2, g2, a2, p2, f2, t2, c2⟩ := h2
  rw [e2]
  refine ⟨r2, ?_, a2, g2, t2, c2, p2, by rw [Int.toNat_of_nonneg hS0]; exact f2⟩
  congr 2
  rw [Rd.sliceTo_nonneg _ _ hS0, ← a2, absA_eq r2 g2, p2]
  show _ = List.take S.toNat (List.drop 0 r2.buf ++ future r2)
  have hl := g2.len_eq
  rcases f2 with h | h
  · rw [List.drop_zero, List.take_append_of_le_length (by omega)]
  · rw [h]; simp

/-- **`_consume_delimiter`** on the flat text: succeeds iff the text continues with the delimiter, then steps over it;
    otherwise nothing is consumed -/
theorem consume_spec (b : Bytes) (r : AR σ) (d : Bytes) (hg : Good r) (hdc : (d.length : Int) ≤ r.chunk) :
    ((absA r).take d.length = d → ∃ r', consumeDelimiter b r d = (.ok b, r') ∧ absA r' = (absA r).drop d.length ∧ Good r' ∧
        total r' = total r ∧ r'.chunk = r.chunk) ∧
    ((absA r).take d.length ≠ d → ∃ r', consumeDelimiter b r d = (.delimErr, r') ∧ absA r' = absA r ∧ Good r' ∧
        total r' = total r ∧ r'.chunk = r.chunk) := by
  obtain ⟨r1, k1, k2, k3, k4, k5, k6, k7⟩ := peek_spec r d.length hg
  have hps : peekSize r.chunk (d.length : Int) = d.length := by
    unfold peekSize
    have h1 : ¬ ((d.length : Int) < 0) := by omega
    have h2 : ¬ ((d.length : Int) > r.chunk) := by omega
    simp [h1, h2]
  rw [hps] at k1 k7
  unfold consumeDelimiter
  rw [k1]
  constructor
  · intro heq
    simp only [heq, bne_self_eq_false, Bool.false_eq_true, if_false]
    have hl := k3.len_eq
    have hfit : (d.length : Int) ≤ r1.len := by
      rcases k7 with h | h
      · exact h
      · have : (absA r1).length = r1.buf.length := by rw [absA_eq r1 k3, k6, h]; simp
        have h3 : d.length ≤ (absA r).length := by
          have := congrArg List.length heq
          rw [List.length_take] at this; omega
        rw [← k2, this] at h3; omega
    obtain ⟨b1, b2, b3, b4⟩ := buf_yield r1 k3 (r1.pos + d.length) (by omega) (by rw [k6]; omega)
    refine ⟨_, rfl, ?_, b3, k4, k5⟩
    rw [b2, k2]; congr 1; omega
  · intro hne
    have hpd : ((absA r).take d.length != d) = true := by simpa using hne
    simp only [hpd, if_true]
    exact ⟨r1, rfl, k2, k3, k4, k5⟩

open LawfulASource (data left valid)
variable {σ : Type} [ASource σ] [LawfulASource σ]

/-- argument conditions: delimiters are non-empty and no longer than the chunk size; sizes are arbitrary (`None` or any int) -/
def AOp.okA (chunk : Int) : AOp → Prop
  | .readUntil d _ _ => d ≠ [] ∧ (d.length : Int) ≤ chunk
  | .pipeUntil d _ => d ≠ [] ∧ (d.length : Int) ≤ chunk
  | _ => True

theorem okA_of_toP_ok (chunk : Int) (op : AOp) (h : op.toP.ok chunk) : op.okA chunk := by
  cases op with
  | readUntil d s c => exact ⟨h.1, h.2.1⟩
  | pipeUntil d c => exact ⟨h.1, h.2⟩
  | _ => trivial

theorem take_min_length (A : Bytes) (n : Nat) : A.take (min n A.length) = A.take n := by
  rcases Nat.le_total n A.length with h | h
  · rw [Nat.min_eq_left h]
  · rw [Nat.min_eq_right h, List.take_of_length_le (Nat.le_refl _), List.take_of_length_le h]

theorem drop_min_length (A : Bytes) (n : Nat) : A.drop (min n A.length) = A.drop n := by
  rcases Nat.le_total n A.length with h | h
  · rw [Nat.min_eq_left h]
  · rw [Nat.min_eq_right h, List.drop_of_length_le (Nat.le_refl _), List.drop_of_length_le h]

def Refines (r : AR σ) (op : AOp) (x : AObs × AR σ) : Prop :=
  x.1.toObs = (Rd.cursorStep r.chunk (absA r) op.toP).1 ∧ absA x.2 = (Rd.cursorStep r.chunk (absA r) op.toP).2 ∧
  Good x.2 ∧ x.2.chunk = r.chunk ∧ total x.2 = total r

theorem read_refines (r : AR σ) (s : Option Int) (hg : Good r) : Refines r (.read s) (arStep r (.read s)) := by
  obtain ⟨r', e1, e2, e3, e4, e5⟩ := readFrom_spec (.wStart (hintOf s)) r s ⟨hg, trivial⟩
  simp only [lim, take_min_length, drop_min_length] at e1 e3
  simp only [Refines, arStep, read, e1, resObs, AObs.toObs, AOp.toP, Rd.cursorStep]
  exact ⟨trivial, e3, e2, e5, e4⟩

theorem readall_refines (r : AR σ) (hg : Good r) : Refines r .readall (arStep r .readall) := by
  exact read_refines r none hg

theorem peek_refines (r : AR σ) (n : Int) (hg : Good r) : Refines r (.peek n) (arStep r (.peek n)) := by
  obtain ⟨r', k1, k2, k3, k4, k5, _, _⟩ := peek_spec r n hg
  simp only [Refines, arStep, AOp.toP, Rd.cursorStep, k1, resObs, AObs.toObs]
  exact ⟨rfl, k2, k3, k5, k4⟩

/-- draining `_iter_with_buffer` (`readall()`, `read(None)`, `read(-1)`, `pipe()`, `exhaust()`) leaves the reader at `eof` -/
theorem readAll_eof (pc : Pc) (r : AR σ) (hgi : GI pc r) (hw : isW pc = true) : eof (readAll (bigFuel r) pc r []).2 = true := by
  obtain ⟨r', e1, _, _, _, _, e6⟩ := readAll_spec (bigFuel r) pc r [] hgi (weight_lt_big _ r hgi.1)
  obtain ⟨x1, x2⟩ := e6 hw
  simp [e1, eof, x1, x2]

theorem pipe_spec (r : AR σ) (hg : Good r) : ∃ r', pipe r = (.ok (absA r), r') ∧ absA r' = [] ∧ Good r' ∧ r'.chunk = r.chunk ∧
    total r' = total r ∧ eof r' = true := by
  obtain ⟨r', e1, e2, e3, e4, e5, e6⟩ := readAll_spec (bigFuel r) (.wStart 0) r [] ⟨hg, trivial⟩ (weight_lt_big _ r hg)
  obtain ⟨x1, x2⟩ := e6 rfl
  simp only [lim, List.take_length, List.drop_length, List.nil_append] at e1 e3
  exact ⟨r', e1, e3, e2, e5, e4, by simp [eof, x1, x2]⟩

theorem pipe_refines (r : AR σ) (hg : Good r) : Refines r .pipe (arStep r .pipe) := by
  obtain ⟨r', e1, e2, e3, e4, e5, _⟩ := pipe_spec r hg
  simp only [Refines, arStep, e1, resObs, AObs.toObs, AOp.toP, Rd.cursorStep]
  exact ⟨trivial, e2, e3, e4, e5⟩

theorem iterate_refines (r : AR σ) (hg : Good r) : Refines r .iterate (arStep r .iterate) := by
  exact pipe_refines r hg

theorem exhaust_refines (r : AR σ) (hg : Good r) : Refines r .exhaust (arStep r .exhaust) := by
  obtain ⟨r', e1, e2, e3, e4, e5, _⟩ := pipe_spec r hg
  simp only [Refines, arStep, e1, AObs.toObs, AOp.toP, Rd.cursorStep]
  exact ⟨trivial, e2, e3, e4, e5⟩

theorem readUntil_refines (r : AR σ) (d : Bytes) (s : Option Int) (c : Bool) (hg : Good r) (hd : d ≠ []) (hdc : (d.length : Int) ≤ r.chunk) :
    Refines r (.readUntil d s c) (arStep r (.readUntil d s c)) := by
  obtain ⟨r1, e1, e2, e3, e4, e5⟩ := readFrom_spec (.dStart d (hintOf s)) r s ⟨hg, hd, hdc⟩
  simp only [lim, ← stopAt_eq_min_U d _ hd] at e1 e3
  simp only [Refines, arStep, AOp.toP, Rd.cursorStep, readUntil, e1]
  cases c with
  | false =>
    simp only [Bool.false_eq_true, if_false, resObs, AObs.toObs, Rd.untilSpec]
    exact ⟨trivial, e3, e2, e5, e4⟩
  | true =>
    obtain ⟨c1, c2⟩ := consume_spec ((absA r).take (stopAt d (absA r) (Rd.want (absA r) s))) r1 d e2 (by rw [e5]; exact hdc)
    simp only [Rd.untilSpec, if_true]
    by_cases hat : ((absA r).drop (stopAt d (absA r) (Rd.want (absA r) s))).take d.length = d
    · obtain ⟨r2, f1, f2, f3, f4, f5⟩ := c1 (by rw [e3]; exact hat)
      rw [f1]
      simp only [hat, if_true, resObs, AObs.toObs]
      exact ⟨trivial, by rw [f2, e3, List.drop_drop], f3, by rw [f5, e5], by rw [f4, e4]⟩
    · obtain ⟨r2, f1, f2, f3, f4, f5⟩ := c2 (by rw [e3]; exact hat)
      rw [f1]
      simp only [hat, if_false, resObs, AObs.toObs]
      exact ⟨trivial, by rw [f2, e3], f3, by rw [f5, e5], by rw [f4, e4]⟩

theorem pipeUntil_refines (r : AR σ) (d : Bytes) (c : Bool) (hg : Good r) (hd : d ≠ []) (hdc : (d.length : Int) ≤ r.chunk) :
    Refines r (.pipeUntil d c) (arStep r (.pipeUntil d c)) := by
  exact readUntil_refines r d none c hg hd hdc

/-- **one public operation of the async reader = one step of the flat cursor** (same observation, same remaining text),
    for every lawful chunk source still to come, every state of `_iter_normalized` and every buffer state -/
theorem arStep_refines (r : AR σ) (op : AOp) (hg : Good r) (hok : op.okA r.chunk) : Refines r op (arStep r op) := by
  cases op with
  | read s => exact read_refines r s hg
  | readall => exact readall_refines r hg
  | peek n => exact peek_refines r n hg
  | readUntil d s c => exact readUntil_refines r d s c hg hok.1 hok.2
  | pipeUntil d c => exact pipeUntil_refines r d c hg hok.1 hok.2
  | pipe => exact pipe_refines r hg
  | exhaust => exact exhaust_refines r hg
  | iterate => exact iterate_refines r hg

def arRun : AR σ → List AOp → List AObs × AR σ
  | r, [] => ([], r)
  | r, op :: rest => ((arStep r op).1 :: (arRun (arStep r op).2 rest).1, (arRun (arStep r op).2 rest).2)

/-- **every history of public operations of the transcribed async reader refines the flat cursor**, over any lawful chunk source -/
theorem ar_history_refines_cursor (ops : List AOp) : ∀ (r : AR σ), Good r → (∀ op ∈ ops, op.okA r.chunk) →
    (arRun r ops).1.map AObs.toObs = (Rd.cursorRun r.chunk (absA r) (ops.map AOp.toP)).1 ∧
    absA (arRun r ops).2 = (Rd.cursorRun r.chunk (absA r) (ops.map AOp.toP)).2 ∧
    Good (arRun r ops).2 ∧ (arRun r ops).2.chunk = r.chunk ∧ total (arRun r ops).2 = total r := by
  induction ops with
  | nil => intro r hg _; exact ⟨rfl, rfl, hg, rfl, rfl⟩
  | cons op rest ih =>
    intro r hg hok
    obtain ⟨s1, s2, s3, s4, s5⟩ := arStep_refines r op hg (hok op (by simp))
    obtain ⟨t1, t2, t3, t4, t5⟩ := ih (arStep r op).2 s3 (fun op' h' => by rw [s4]; exact hok op' (by simp [h']))
    rw [s4, s2] at t1 t2
    simp only [arRun, List.map_cons]
    rw [cursorRun_cons]
    exact ⟨by rw [s1, t1], t2, t3, by rw [t4, s4], by rw [t5, s5]⟩

theorem tell_eq (r : AR σ) (hg : Good r) : tell r = total r - (absA r).length := by
  have := absA_length_buf r hg
  have := hg.pos_le
  unfold tell total; omega

theorem eof_rest (r : AR σ) (hg : Good r) (he : eof r = true) : absA r = [] := by
  unfold eof at he
  simp only [Bool.and_eq_true, beq_iff_eq] at he
  rw [absA_at_end r hg he.2.symm]
  unfold future; rw [hg.exh_iff.mp he.1]

open LawfulASource (data left valid)

inductive Reach {σ : Type} [ASource σ] : σ → σ → Prop
  | refl (s : σ) : Reach s s
  | step {s s1 s2 : σ} {it : Item} : ASource.anext s = (it, s1) → Reach s1 s2 → Reach s s2

theorem Reach.trans {σ : Type} [ASource σ] {a b c : σ} (h1 : Reach a b) (h2 : Reach b c) : Reach a c := by
  induction h1 with
  | refl => exact h2
  | step e _ ih => exact .step e (ih h2)

section reach
variable {σ : Type} [ASource σ]

theorem normLoop_reach : ∀ (fuel : Nat) (r : AR σ), Reach r.src (normLoop fuel r).2.src := by
  intro fuel
  induction fuel with
  | zero => intro r; exact .refl _
  | succ f ih =>
    intro r
    simp only [normLoop]
    rcases hx : ASource.anext r.src with ⟨it, s⟩
    cases it with
    | raiseValue => exact .step hx (.refl _)
    | stop =>
      simp only
      split <;> exact .step hx (.refl _)
    | chunk item =>
      simp only
      split
      · exact .step hx (.refl _)
      · exact .step hx (ih { r with src := s, pending := r.pending ++ item })

theorem nextNorm_reach (r : AR σ) : Reach r.src (nextNorm r).2.src := by
  unfold nextNorm
  cases r.npc with
  | finished => exact Reach.refl r.src
  | yielded2 => exact Reach.refl r.src
  | yielded1 item => exact normLoop_reach _ { r with pending := item, npc := .running }
  | running => exact normLoop_reach _ r

/-- `Adv r r'`: `r'` is `r` after some `__anext__` calls on `_iter_normalized`; in between, every field but the chunk
    source and the suspension point of `_iter_normalized` may have changed in any way. Every reader operation advances the
    reader in this sense (`gstep_adv`, ..., `arRun_adv`); what only depends on source and suspension point is read off from it. -/
inductive Adv : AR σ → AR σ → Prop
  | refl (r : AR σ) : Adv r r
  | frame {r r1 r2 : AR σ} : r1.src = r.src → r1.npc = r.npc → Adv r1 r2 → Adv r r2
  | next {r r2 : AR σ} : Adv (nextNorm r).2 r2 → Adv r r2

theorem Adv.trans {a b c : AR σ} (h1 : Adv a b) (h2 : Adv b c) : Adv a c := by
  induction h1 with
  | refl => exact h2
  | frame e1 e2 _ ih => exact .frame e1 e2 (ih h2)
  | next _ ih => exact .next (ih h2)

theorem Adv.of_frame {r r' : AR σ} (h1 : r'.src = r.src) (h2 : r'.npc = r.npc) : Adv r r' := .frame h1 h2 (.refl _)

theorem Adv.ite {α β : Type} {r : AR σ} (c : Prop) [Decidable c] {a b : α × β × AR σ} (ha : Adv r a.2.2) (hb : Adv r b.2.2) :
    Adv r (if c then a else b).2.2 := by
  split <;> assumption

theorem Adv.reach {r r' : AR σ} (h : Adv r r') : Reach r.src r'.src := by
  induction h with
  | refl => exact .refl _
  | frame e1 _ _ ih => rw [← e1]; exact ih
  | next _ ih => exact (nextNorm_reach _).trans ih

theorem dCheck_adv (d : Bytes) (r : AR σ) (out : Item × Pc × AR σ) (h : dCheckBuffer d r = some out) : Adv r out.2.2 := by
  unfold dCheckBuffer at h
  simp only at h
  split at h
  · split at h
    · simp only [Option.some.injEq] at h; subst h; exact .of_frame rfl rfl
    · simp only [Option.some.injEq] at h; subst h; exact .refl _
  · cases h

theorem gstep_adv : ∀ (fuel : Nat) (pc : Pc) (r : AR σ), Adv r (gstep fuel pc r).2.2 := by
  intro fuel
  induction fuel with
  | zero => intro pc r; exact .refl _
  | succ f ih =>
    intro pc r
    have hn : Adv r (nextNorm r).2 := .next (.refl _)
    cases pc with
    | done => exact .refl _
    | wAfterHint => exact .of_frame rfl rfl
    | dFoundAfterHint delim p => exact .of_frame rfl rfl
    | wStart hint =>
      simp only [gstep]
      exact .ite _ (.ite _ (.of_frame rfl rfl) (.of_frame rfl rfl)) (ih _ _)
    | wSource =>
      simp only [gstep]
      rcases hx : nextNorm r with ⟨y, r'⟩
      rw [hx] at hn
      cases y <;> exact hn
    | dStart delim hint =>
      simp only [gstep]
      exact .ite _ (.refl _) (.ite _ (.ite _ (.refl _) (.ite _ (.ite _ (.of_frame rfl rfl) (.of_frame rfl rfl))
        (.ite _ (.of_frame rfl rfl) (ih _ _)))) (ih _ _))
    | dPreLoop delim =>
      simp only [gstep]
      refine .trans ?_ (ih _ _)
      split
      · exact .of_frame rfl rfl
      · exact .refl _
    | dAfterOutput delim =>
      simp only [gstep]
      cases hck : dCheckBuffer delim r with
      | some out => exact dCheck_adv delim r out hck
      | none => exact ih _ _
    | dLoop delim =>
      simp only [gstep]
      rcases hx : nextNorm r with ⟨y, r'⟩
      rw [hx] at hn
      cases y with
      | stop => exact hn.trans (.of_frame rfl rfl)
      | raiseValue => exact hn
      | chunk c =>
        refine hn.trans (.ite _ (.ite _ (.of_frame rfl rfl) (.of_frame rfl rfl)) ?_)
        generalize hm : (if (!r'.buf.isEmpty) = true then { r' with buf := r'.buf ++ c, len := r'.len + ↑c.length }
            else { r' with buf := c, len := ↑c.length }) = rm
        have hs : Adv r' rm := by rw [← hm]; split <;> exact .of_frame rfl rfl
        cases hck : dCheckBuffer delim rm with
        | some out => exact hs.trans (dCheck_adv delim rm out hck)
        | none => exact hs.trans (ih _ _)

theorem readAll_adv : ∀ (fuel : Nat) (pc : Pc) (r : AR σ) (acc : Bytes), Adv r (readAll fuel pc r acc).2 := by
  intro fuel
  induction fuel with
  | zero => intro pc r acc; exact .refl _
  | succ f ih =>
    intro pc r acc
    simp only [readAll]
    have h := gstep_adv (fuelOf r) pc r
    rcases hx : gstep (fuelOf r) pc r with ⟨y, pc', r1⟩
    rw [hx] at h
    cases y with
    | chunk c => exact h.trans (ih _ _ _)
    | stop => exact h
    | raiseValue => exact h

theorem readN_adv : ∀ (fuel : Nat) (pc : Pc) (r : AR σ) (rem : Int) (acc : Bytes), Adv r (readN fuel pc r rem acc).2 := by
  intro fuel
  induction fuel with
  | zero => intro pc r rem acc; exact .refl _
  | succ f ih =>
    intro pc r rem acc
    simp only [readN]
    have h := gstep_adv (fuelOf r) pc r
    rcases hx : gstep (fuelOf r) pc r with ⟨y, pc', r1⟩
    rw [hx] at h
    cases y with
    | chunk c =>
      simp only
      split
      · refine h.trans (.of_frame ?_ ?_) <;> (unfold prependBuffer; split <;> rfl)
      · split
        · exact h
        · exact h.trans (ih _ _ _ _)
    | stop => exact h
    | raiseValue => exact h

theorem readFrom_adv (pc : Pc) (r : AR σ) (size : Option Int) : Adv r (readFrom pc r size).2 := by
  unfold readFrom
  split
  · exact readAll_adv _ _ _ _
  · split
    · exact readAll_adv _ _ _ _
    · split
      · exact .refl _
      · exact readN_adv _ _ _ _ _

theorem peekLoop_adv : ∀ (fuel : Nat) (r : AR σ) (size : Int), Adv r (peekLoop fuel r size).2 := by
  intro fuel
  induction fuel with
  | zero => intro r size; exact .refl _
  | succ f ih =>
    intro r size
    simp only [peekLoop]
    have h : Adv r (nextNorm r).2 := .next (.refl _)
    rcases hx : nextNorm r with ⟨y, r'⟩
    rw [hx] at h
    cases y with
    | stop => exact h
    | raiseValue => exact h
    | chunk c =>
      simp only
      split
      · exact h.trans (.of_frame rfl rfl)
      · exact h.trans (.frame (r1 := { r' with buf := r'.buf ++ c, len := ((r'.buf ++ c).length : Int) }) rfl rfl (ih _ _))

theorem peek_adv (r : AR σ) (size : Int) : Adv r (peek r size).2 := by
  have key : ∀ (r1 : AR σ) (S : Int), Adv r r1 →
      Adv r (if r1.len < S then peekLoop (ASource.bound r1.src + 2) r1 S else (.ok (sliceTo r1.buf S), r1)).2 := by
    intro r1 S h0
    split
    · exact h0.trans (peekLoop_adv _ r1 S)
    · exact h0
  exact key (if r.pos > 0 then trimBuffer r else r) _ (by split; exact .of_frame rfl rfl; exact .refl _)

theorem consume_adv (b : Bytes) (r : AR σ) (d : Bytes) : Adv r (consumeDelimiter b r d).2 := by
  unfold consumeDelimiter
  have h := peek_adv r d.length
  rcases hx : peek r d.length with ⟨res, r1⟩
  rw [hx] at h
  cases res with
  | ok p =>
    simp only
    split
    · exact h
    · exact h.trans (.of_frame rfl rfl)
  | delimErr => exact h
  | valueErr => exact h

/-- the tail shared by `read_until` and `pipe_until` -/
theorem untilTail_adv {r : AR σ} (x : Rd.Res × AR σ) (d : Bytes) (c : Bool) (h : Adv r x.2) :
    Adv r (match x with
      | (.ok b, r) => if c then consumeDelimiter b r d else (.ok b, r)
      | e => e).2 := by
  rcases x with ⟨res, r1⟩
  cases res with
  | ok b =>
    simp only
    split
    · exact h.trans (consume_adv _ _ _)
    · exact h
  | delimErr => exact h
  | valueErr => exact h

theorem arStep_adv (r : AR σ) (op : AOp) : Adv r (arStep r op).2 := by
  cases op with
  | read s => exact readFrom_adv _ _ _
  | readall => exact readFrom_adv _ _ _
  | peek n => exact peek_adv _ _
  | readUntil d s c => exact untilTail_adv _ d c (readFrom_adv _ _ _)
  | pipeUntil d c => exact untilTail_adv _ d c (readAll_adv _ _ _ _)
  | pipe => exact readAll_adv _ _ _ _
  | exhaust => exact readAll_adv _ _ _ _
  | iterate => exact readAll_adv _ _ _ _

theorem arRun_adv (ops : List AOp) : ∀ (r : AR σ), Adv r (arRun r ops).2 := by
  induction ops with
  | nil => intro r; exact .refl _
  | cons op rest ih => intro r; exact (arStep_adv r op).trans (ih _)

theorem gstep_reach (fuel : Nat) (pc : Pc) (r : AR σ) : Reach r.src (gstep fuel pc r).2.2.src := (gstep_adv fuel pc r).reach

theorem arStep_reach (r : AR σ) (op : AOp) : Reach r.src (arStep r op).2.src := (arStep_adv r op).reach

theorem arRun_reach (ops : List AOp) (r : AR σ) : Reach r.src (arRun r ops).2.src := (arRun_adv ops r).reach

end reach

variable {σ : Type} [ASource σ] [LawfulASource σ]

/-- one `__anext__` of the generator object `parent._iter_delimited(d)` is one resumption of it on the parent -/
theorem anext_spec {s s' : DelimGen σ} {it : Item} (hv : GI s.pc s.parent) (h : ASource.anext s = (it, s')) :
    StepSpec s.pc s.parent (it, s'.pc, s'.parent) := by
  have hs := step_fuelOf s.pc s.parent hv
  have he : ASource.anext s = ((gstep (fuelOf s.parent) s.pc s.parent).1,
      ({ parent := (gstep (fuelOf s.parent) s.pc s.parent).2.2, pc := (gstep (fuelOf s.parent) s.pc s.parent).2.1 } : DelimGen σ)) := rfl
  rw [he] at h
  cases h
  exact hs

/-- the generator `parent._iter_delimited(d)` suspended at `pc` on a parent satisfying the generator invariant: it will
    still deliver the parent's text up to the first `d` -/
instance : LawfulASource (DelimGen σ) where
  data s := (absA s.parent).take (lim s.pc (absA s.parent))
  left s := weight s.pc s.parent
  valid s := GI s.pc s.parent
  anext_chunk := by
    intro s c s' hv h
    obtain ⟨a1, a2, a3, a4, a5, _⟩ := anext_spec hv h
    refine ⟨?_, a5, a4⟩
    show (absA s.parent).take (lim s.pc (absA s.parent)) = c ++ (absA s'.parent).take (lim s'.pc (absA s'.parent))
    rw [← a3, List.take_add, ← a1, a2]
  anext_stop := by
    intro s s' hv h
    obtain ⟨a1, _, a3, _, _, a6, _⟩ := anext_spec hv h
    refine ⟨?_, ?_, ?_⟩
    · show (absA s.parent).take (lim s.pc (absA s.parent)) = []
      rw [a1]; rfl
    · show (absA s'.parent).take (lim s'.pc (absA s'.parent)) = []
      rw [a6]; rfl
    · show GI s'.pc s'.parent
      rw [a6]; exact ⟨a3, trivial⟩
  anext_noraise := by
    intro s s' hv h
    -- `StepSpec` of a `raiseValue` result is `False`
    exact show False from anext_spec hv h
  left_le := by
    intro s hv
    have := mu_le s.parent hv.1
    show weight s.pc s.parent ≤ 2 * ASource.bound s.parent.src + 8
    unfold weight; split <;> omega

/-- what is known of the parent of a part stream, whatever has been done with the part stream:
    `A0` = the parent's text when the part stream was opened, `ch` its chunk size -/
def PInv (A0 : Bytes) (ch : Int) (d : Bytes) (s : DelimGen σ) : Prop :=
  GI s.pc s.parent ∧ s.parent.chunk = ch ∧ ∃ j, absA s.parent = A0.drop j ∧ j + lim s.pc (absA s.parent) = U d A0

theorem PInv_reach (A0 : Bytes) (ch : Int) (d : Bytes) {s s' : DelimGen σ} (hr : Reach s s') (h : PInv A0 ch d s) : PInv A0 ch d s' := by
  induction hr with
  | refl => exact h
  | @step s s1 s2 it e _ ih =>
    apply ih
    obtain ⟨hv, hc, j, hj1, hj2⟩ := h
    have hs := anext_spec hv e
    cases it with
    | raiseValue => exact absurd hs id
    | stop =>
      obtain ⟨a1, a2, a3, _, a5, a6, _⟩ := hs
      exact ⟨by rw [a6]; exact ⟨a3, trivial⟩, by rw [a5, hc], j, by rw [a2, hj1], by rw [a6, ← hj2, a1]; rfl⟩
    | chunk c =>
      obtain ⟨_, a2, a3, a4, _, _, a7, _⟩ := hs
      exact ⟨a4, by rw [a7, hc], j + c.length, by rw [a2, hj1, List.drop_drop], by rw [← hj2, ← a3]; omega⟩

theorem toObs_resObs (x : Rd.Res) : (resObs x).toObs = Rd.resObs x := by cases x <;> rfl

theorem crun_arOps (ops : List AOp) : ∀ (c : AR (DelimGen σ)), crun arOps c ops = arRun c ops := by
  induction ops with
  | nil => intro c; rfl
  | cons op rest ih =>
    intro c
    rw [crun_cons]
    show ((arStep c op).1 :: (crun arOps (arStep c op).2 rest).1, (crun arOps (arStep c op).2 rest).2) = _
    rw [ih]
    rfl

theorem contentOf_eq_U (d A : Bytes) : Mf.contentOf d A = A.take (U d A) := rfl

theorem contentOf_length (d A : Bytes) : (Mf.contentOf d A).length = U d A := by
  rw [contentOf_eq_U, List.length_take, Nat.min_eq_left (U_le d A)]

theorem fresh_reader (s : σ) (chunk : Int) (hc : 0 < chunk) (hv : valid s) :
    Good ({ chunk := chunk, src := s } : AR σ) ∧ absA ({ chunk := chunk, src := s } : AR σ) = data s :=
  ⟨⟨rfl, Int.le_refl 0, Int.le_refl 0, hc, ⟨nofun, nofun⟩, hv⟩, by simp [absA, future, sliceFrom]⟩

theorem delimit_good (p : AR σ) (d : Bytes) (hg : Good p) (hd : d ≠ []) (hdc : (d.length : Int) ≤ p.chunk) :
    Good (delimit p d) ∧ absA (delimit p d) = Mf.contentOf d (absA p) ∧ PInv (absA p) p.chunk d (delimit p d).src := by
  have hv : GI (.dStart d 0) p := ⟨hg, hd, hdc⟩
  obtain ⟨g, a⟩ := fresh_reader (σ := DelimGen σ) { parent := p, pc := .dStart d 0 } p.chunk hg.chunk_pos hv
  exact ⟨g, a, hv, rfl, 0, rfl, Nat.zero_add _⟩

/-- what a law of `Lawful` asks of an operation that refines the cursor step -/
theorem Refines.law {r : AR σ} {op : AOp} {x : Rd.Res × AR σ} (h : Refines r op (resObs x.1, x.2)) :
    Rd.resObs x.1 = (Rd.cursorStep r.chunk (absA r) op.toP).1 ∧ absA x.2 = (Rd.cursorStep r.chunk (absA r) op.toP).2 ∧
    Good x.2 ∧ x.2.chunk = r.chunk :=
  ⟨toObs_resObs x.1 ▸ h.1, h.2.1, h.2.2.1, h.2.2.2.1⟩

theorem resObs_bytes {x : Rd.Res} {b : Bytes} (h : Rd.resObs x = .bytes b) : x = .ok b := by
  cases x <;> simp [Rd.resObs] at h
  rw [h]

/-- **`arLawful`**: for every chunk source that delivers its text in arbitrary pieces (also empty ones) and never raises, the
    transcription of falcon/asgi/reader.py - `read`, `peek`, `read_until`, `pipe_until` with and without `consume_delimiter`, and
    `delimit` as a SECOND reader (own buffer, own `_iter_normalized`) over `parent._iter_delimited(d)` - satisfies the flat-cursor
    laws, with `text = absA` (unread buffer ++ what `_iter_normalized` holds ++ what the source still delivers) and
    `good = Good` (the representation invariant) -/
def arLawful : Lawful (arOps (σ := σ)) where
  text := absA
  chunk r := r.chunk
  good := Good
  pipeUntil_law r d c hg hd hdc := (pipeUntil_refines r d c hg hd hdc).law
  peek_law r n hg := have h := (peek_refines r n hg).law; ⟨resObs_bytes h.1, h.2⟩
  read_law r s hg _ := have h := (read_refines r s hg).law; ⟨resObs_bytes h.1, h.2⟩
  readUntil_law r d s c hg hd hdc _ := (readUntil_refines r d s c hg hd hdc).law
  delimit_law := by
    intro p d ops hg hd hdc hok
    obtain ⟨hgc, hab, hp0⟩ := delimit_good p d hg hd hdc
    obtain ⟨t1, _⟩ := ar_history_refines_cursor ops (delimit p d) hgc (fun op h => okA_of_toP_ok _ op (hok op h))
    obtain ⟨q1, q2, j, q3, q4⟩ := PInv_reach (absA p) p.chunk d (arRun_reach ops (delimit p d)) hp0
    show (crun arOps (delimit p d) ops).1.map AObs.toObs = _ ∧ Good (crun arOps (delimit p d) ops).2.src.parent ∧
      (crun arOps (delimit p d) ops).2.src.parent.chunk = _ ∧
      ∃ j, j ≤ stopAt d (absA p) (absA p).length ∧ absA (crun arOps (delimit p d) ops).2.src.parent = _
    rw [crun_arOps]
    rw [hab] at t1
    exact ⟨t1, q1.1, q2, j, by show j ≤ U d (absA p); omega, q3⟩

open LawfulASource (data left valid)
open Mf (parseAll initForm Limits observe Part encodeForm BoundarySafe HeadersSafe WithinLimits)

/-- `BufferedReader(source, chunk_size)` freshly constructed over an async iterator that will deliver `pieces` -/
def freshAR (pieces : List Bytes) (chunk : Int) : AR Raw := { chunk := chunk, src := ⟨pieces⟩ }

theorem fresh_good (pieces : List Bytes) (chunk : Int) (hc : 0 < chunk) :
    Good (freshAR pieces chunk) ∧ absA (freshAR pieces chunk) = pieces.flatten ∧ (freshAR pieces chunk).chunk = chunk := by
  obtain ⟨g, a⟩ := fresh_reader (⟨pieces⟩ : Raw) chunk hc trivial
  exact ⟨g, a, rfl⟩

/-- **C13 `async_refines_flat` for the concrete async stack, every chunking.** For EVERY list of transport pieces (any sizes,
    empty pieces anywhere), every reader chunk size ≥ `len(CRLF--boundary)`, limits ≥ 0 (or -1) and every application behaviour
    on the part streams: `async for part in MultipartForm(BufferedReader(pieces, chunk), boundary, …)` - `Ma.next` (the
    transcription of falcon/asgi/multipart.py) over `Ma.AR` (the transcription of falcon/asgi/reader.py, the part streams being
    nested readers over `parent._iter_delimited`) - hands out exactly the parts `Mf.parseAll` finds in the joined body, with
    exactly their contents, and ends the same way. -/
theorem async_concrete_refines_flat (pieces : List Bytes) (chunk : Int) (sc : AScripts) (b : Bytes) (lim : Limits)
    (hc : (b.length : Int) + 4 ≤ chunk) (hm : lim.maxHdr = -1 ∨ 0 ≤ lim.maxHdr) (hok : ∀ k, ∀ op ∈ sc k, op.toP.ok chunk) :
    (obsMap (runA arOps sc (pieces.flatten.length + 1) 0 (initForm b lim) (freshAR pieces chunk) []).1,
     (runA arOps sc (pieces.flatten.length + 1) 0 (initForm b lim) (freshAR pieces chunk) []).2)
      = (observe chunk sc.toP 0 (parseAll pieces.flatten b lim).1, (parseAll pieces.flatten b lim).2.lift) := by
  obtain ⟨g, a, c⟩ := fresh_good pieces chunk (by omega)
  have h := async_refines_flat arOps arLawful sc (freshAR pieces chunk) b lim g (by show _ ≤ (freshAR pieces chunk).chunk; rw [c]; exact hc) hm
    (by show ∀ k, ∀ op ∈ sc k, op.toP.ok (freshAR pieces chunk).chunk; rw [c]; exact hok)
  have ht : arLawful.text (freshAR pieces chunk) = pieces.flatten := a
  have hk : arLawful.chunk (freshAR pieces chunk) = chunk := c
  rw [ht, hk] at h
  exact h

/-- **chunking independence of the async parser**: two deliveries of the same body in different pieces give the same run -/
theorem async_chunking_independent (p1 p2 : List Bytes) (hp : p1.flatten = p2.flatten) (chunk : Int) (sc : AScripts) (b : Bytes)
    (lim : Limits) (hc : (b.length : Int) + 4 ≤ chunk) (hm : lim.maxHdr = -1 ∨ 0 ≤ lim.maxHdr)
    (hok : ∀ k, ∀ op ∈ sc k, op.toP.ok chunk) :
    (obsMap (runA arOps sc (p1.flatten.length + 1) 0 (initForm b lim) (freshAR p1 chunk) []).1,
     (runA arOps sc (p1.flatten.length + 1) 0 (initForm b lim) (freshAR p1 chunk) []).2)
      = (obsMap (runA arOps sc (p2.flatten.length + 1) 0 (initForm b lim) (freshAR p2 chunk) []).1,
         (runA arOps sc (p2.flatten.length + 1) 0 (initForm b lim) (freshAR p2 chunk) []).2) := by
  rw [async_concrete_refines_flat p1 chunk sc b lim hc hm hok, async_concrete_refines_flat p2 chunk sc b lim hc hm hok, hp]

/-- **C13 `sync_async_agree` for the two concrete stacks.** The async parser over the transcribed async reader fed by ANY list
    of pieces, and the sync parser over the buffered-reader model of falcon/util/reader.py on ANY lawful source (any
    short-read pattern), same body, same reader chunk size (≥ the delimiter length), same limits, same application scripts:
    same parts, same observation for every operation on every part stream, same end. -/
theorem sync_async_agree_concrete {τ : Type} [Rd.Source τ] [Rd.LawfulSource τ] (pieces : List Bytes) (rs : Rd.R τ) (sc : AScripts)
    (b : Bytes) (lim : Limits) (hinv : Rd.Inv rs) (hpl : rs.pos ≤ rs.len) (hbody : pieces.flatten = Rd.abs rs)
    (hc : (b.length : Int) + 4 ≤ rs.chunk) (hm : lim.maxHdr = -1 ∨ 0 ≤ lim.maxHdr)
    (hok : ∀ k, ∀ op ∈ sc k, op.toP.ok rs.chunk) :
    (obsMap (runA arOps sc (pieces.flatten.length + 1) 0 (initForm b lim) (freshAR pieces rs.chunk) []).1,
     (runA arOps sc (pieces.flatten.length + 1) 0 (initForm b lim) (freshAR pieces rs.chunk) []).2)
      = Mf.runImpl sc.toP ((Rd.abs rs).length + 1) 0 (initForm b lim) rs [] := by
  rw [async_concrete_refines_flat pieces rs.chunk sc b lim hc hm hok,
    Mf.next_refines_flat sc.toP rs b lim hinv hpl hc hm (toP_ok sc rs.chunk hok), hbody]

/-- **`parse_encode` for the concrete async stack**: a safe form within the limits, encoded by the reference encoder, cut
    into ANY pieces, read with any chunk size ≥ `len(CRLF--boundary)`, consumed in any way: exactly the encoded parts, in order,
    each part stream a flat cursor over exactly the encoded content, then `StopAsyncIteration` -/
theorem async_concrete_parse_encode (pieces : List Bytes) (chunk : Int) (sc : AScripts) (parts : List Part) (b pre epi : Bytes)
    (fin : Bool) (lim : Limits) (hbody : pieces.flatten = encodeForm parts b pre epi fin)
    (hc : (b.length : Int) + 4 ≤ chunk) (hm : lim.maxHdr = -1 ∨ 0 ≤ lim.maxHdr) (hok : ∀ k, ∀ op ∈ sc k, op.toP.ok chunk)
    (hb : BoundarySafe parts b pre) (hh : HeadersSafe parts) (hl : WithinLimits parts lim) :
    (obsMap (runA arOps sc (pieces.flatten.length + 1) 0 (initForm b lim) (freshAR pieces chunk) []).1,
     (runA arOps sc (pieces.flatten.length + 1) 0 (initForm b lim) (freshAR pieces chunk) []).2)
      = (observe chunk sc.toP 0 (parts.map Part.parsed), .finished) := by
  rw [async_concrete_refines_flat pieces chunk sc b lim hc hm hok, hbody,
    parseFlat_ok _ _ _ _ (Mf.parse_encode parts b pre epi fin lim hb hh hl)]
  rfl

/-- **error classification for the concrete async stack**: whatever the pieces hold, `StopAsyncIteration` or one of the four
    `MultipartParseError`s - never out of fuel (no hang), never `ValueError` -/
theorem async_concrete_error_only (pieces : List Bytes) (chunk : Int) (sc : AScripts) (b : Bytes) (lim : Limits)
    (hc : (b.length : Int) + 4 ≤ chunk) (hm : lim.maxHdr = -1 ∨ 0 ≤ lim.maxHdr) (hok : ∀ k, ∀ op ∈ sc k, op.toP.ok chunk) :
    (runA arOps sc (pieces.flatten.length + 1) 0 (initForm b lim) (freshAR pieces chunk) []).2 = .finished ∨
    ∃ e : Mf.Err, (runA arOps sc (pieces.flatten.length + 1) 0 (initForm b lim) (freshAR pieces chunk) []).2 = .error e.toMp := by
  have h := congrArg Prod.snd (async_concrete_refines_flat pieces chunk sc b lim hc hm hok)
  simp only at h
  rw [h]
  have ht := Mf.parser_terminates pieces.flatten b lim
  cases ho : (parseAll pieces.flatten b lim).2 with
  | finished => left; rfl
  | error e => right; exact ⟨e, rfl⟩
  | fuel => exact absurd ho ht

/-- non-vacuity: the concrete example of MultipartAsyncProofs (five pieces, one empty, chunk size 5, boundary "b") satisfies
    the hypotheses of `async_concrete_refines_flat` -/
example : (([98] : Bytes).length : Int) + 4 ≤ 5 ∧ ((8192 : Int) = -1 ∨ (0 : Int) ≤ 8192) ∧ (∀ k, ∀ op ∈ exSc k, op.toP.ok 5) ∧
    exPieces.flatten = exBody := by
  exact ⟨by decide, by decide, exSc_ok, by decide⟩

end Ma
