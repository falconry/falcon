import FalconModel.HooksLifespan
/-! C03: hooks run before-outermost-first / after-innermost-first and stop at the first raise; lifespan handlers run in order /
    in reverse and the first failure is reported and final. -/
namespace Hk

theorem runUntil_snoc (l : List (Nat × Act)) (k : Nat) (a : Act) :
    runUntil (l ++ [(k, a)])
      = if (runUntil l).2 then ((runUntil l).1, true) else ((runUntil l).1 ++ [k], a.isRaise) := by
  induction l with
  | nil => cases a <;> simp [runUntil]
  | cons x xs ih =>
    obtain ⟨j, b⟩ := x
    cases b with
    | raise_ => simp [runUntil]
    | ret =>
      simp only [List.cons_append, runUntil, ih]
      cases (runUntil xs).2 <;> simp

/-- **hooks**: the wrapped responder makes exactly the calls of the documented discipline -/
theorem wrap_eq_spec : ∀ (ds : List Deco) (r : Act), wrap ds r = specWrap ds r := by
  intro ds r
  induction ds with
  | nil => cases r <;> simp [wrap, specWrap, runUntil, befores, afters]
  | cons d rest ih =>
    cases d with
    | before k a =>
      cases a with
      | raise_ => simp [wrap, specWrap, runUntil, befores]
      | ret =>
        simp only [wrap, ih]
        simp only [specWrap, befores, afters, runUntil]
        cases (runUntil (befores rest)).2 <;> cases r <;> simp
    | after k a =>
      simp only [wrap, ih]
      simp only [specWrap, befores, afters, List.reverse_cons, runUntil_snoc]
      cases (runUntil (befores rest)).2 <;> cases r <;> simp <;>
        cases (runUntil (afters rest).reverse).2 <;> simp

def beforeIdx : HCall → Option Nat
  | .before k => some k
  | _ => none

def afterIdx : HCall → Option Nat
  | .after k => some k
  | _ => none

theorem runUntil_prefix : ∀ (l : List (Nat × Act)), (runUntil l).1 <+: l.map (·.1) := by
  intro l
  induction l with
  | nil => simp [runUntil]
  | cons x xs ih =>
    obtain ⟨k, a⟩ := x
    cases a with
    | raise_ => simp [runUntil, List.prefix_cons_iff]
    | ret => simp only [runUntil, List.map_cons]; exact (List.cons_prefix_cons).mpr ⟨rfl, ih⟩

theorem filterMap_const_none {α β : Type} (l : List α) : l.filterMap (fun _ => (none : Option β)) = [] :=
  List.filterMap_eq_nil_iff.2 (fun _ _ => rfl)

theorem fm_before (bt at_ : List Nat) (mid : List HCall) (hm : mid.filterMap beforeIdx = []) :
    (bt.map HCall.before ++ mid ++ at_.map HCall.after).filterMap beforeIdx = bt := by
  rw [List.filterMap_append, List.filterMap_append, hm, List.filterMap_map, List.filterMap_map,
    show beforeIdx ∘ HCall.before = some from rfl, show beforeIdx ∘ HCall.after = fun _ => none from rfl,
    List.filterMap_some, filterMap_const_none, List.append_nil, List.append_nil]

theorem fm_after (bt at_ : List Nat) (mid : List HCall) (hm : mid.filterMap afterIdx = []) :
    (bt.map HCall.before ++ mid ++ at_.map HCall.after).filterMap afterIdx = at_ := by
  rw [List.filterMap_append, List.filterMap_append, hm, List.filterMap_map, List.filterMap_map,
    show afterIdx ∘ HCall.after = some from rfl, show afterIdx ∘ HCall.before = fun _ => none from rfl,
    List.filterMap_some, filterMap_const_none, List.append_nil, List.nil_append]

theorem specWrap_shape (ds : List Deco) (r : Act) :
    ∃ (mid : List HCall) (at_ : List Nat), mid.filterMap beforeIdx = [] ∧ mid.filterMap afterIdx = [] ∧
      at_ <+: ((afters ds).map (·.1)).reverse ∧
      (specWrap ds r).1 = (runUntil (befores ds)).1.map HCall.before ++ mid ++ at_.map HCall.after := by
  simp only [specWrap]
  split
  · exact ⟨[], [], rfl, rfl, List.nil_prefix, by simp⟩
  · split
    · exact ⟨[.responder], [], rfl, rfl, List.nil_prefix, by simp⟩
    · refine ⟨[.responder], (runUntil (afters ds).reverse).1, rfl, rfl, ?_, rfl⟩
      have hp := runUntil_prefix (afters ds).reverse
      rw [List.map_reverse] at hp
      exact hp

/-- the before hooks that run are a prefix of the decorator order (outermost first) -/
theorem before_outermost_first (ds : List Deco) (r : Act) :
    (wrap ds r).1.filterMap beforeIdx <+: (befores ds).map (·.1) := by
  rw [wrap_eq_spec]
  obtain ⟨mid, at_, h1, _, _, he⟩ := specWrap_shape ds r
  rw [he, fm_before _ _ _ h1]
  exact runUntil_prefix (befores ds)

/-- the after hooks that run are a prefix of the reversed decorator order (innermost first) -/
theorem after_innermost_first (ds : List Deco) (r : Act) :
    (wrap ds r).1.filterMap afterIdx <+: ((afters ds).map (·.1)).reverse := by
  rw [wrap_eq_spec]
  obtain ⟨mid, at_, _, h2, hp, he⟩ := specWrap_shape ds r
  rw [he, fm_after _ _ _ h2]
  exact hp

/-- a raising before hook: neither the responder nor any after hook runs, and the exception leaves the responder -/
theorem hook_raise_skips_rest (ds : List Deco) (r : Act) (h : (runUntil (befores ds)).2 = true) :
    (wrap ds r).2 = true ∧ HCall.responder ∉ (wrap ds r).1 ∧ (wrap ds r).1.filterMap afterIdx = [] := by
  rw [wrap_eq_spec]
  simp [specWrap, h, show afterIdx ∘ HCall.before = fun _ => none from rfl]

theorem startLoop_eq : ∀ (cs : List (Nat × LComp)),
    startLoop cs = (((runUntil (startups cs)).1).map LCall.startup, (runUntil (startups cs)).2) := by
  intro cs
  induction cs with
  | nil => simp [startLoop, startups, runUntil]
  | cons x xs ih =>
    obtain ⟨i, c⟩ := x
    simp only [startups] at ih ⊢
    cases hs : c.startup with
    | none => simp [startLoop, hs, ih]
    | some a => cases a <;> simp [startLoop, hs, ih, runUntil]

theorem stopLoop_eq : ∀ (cs : List (Nat × LComp)),
    stopLoop cs = (((runUntil (shutdowns cs)).1).map LCall.shutdown, (runUntil (shutdowns cs)).2) := by
  intro cs
  induction cs with
  | nil => simp [stopLoop, shutdowns, runUntil]
  | cons x xs ih =>
    obtain ⟨i, c⟩ := x
    simp only [shutdowns] at ih ⊢
    cases hs : c.shutdown with
    | none => simp [stopLoop, hs, ih]
    | some a => cases a <;> simp [stopLoop, hs, ih, runUntil]

/-- **lifespan**: the loop equals the documented sequencing -/
theorem lifespan_eq_spec (cs : List (Nat × LComp)) : lifespan cs = specLifespan cs := by
  simp only [lifespan, specLifespan, startLoop_eq, stopLoop_eq]
  have : shutdowns cs.reverse = (shutdowns cs).reverse := by simp [shutdowns, List.filterMap_reverse]
  rw [this]

def startIdx : LCall → Option Nat
  | .startup i => some i
  | _ => none

def stopIdx : LCall → Option Nat
  | .shutdown i => some i
  | _ => none

theorem specLifespan_shape (cs : List (Nat × LComp)) :
    ∃ (sh : List Nat), sh <+: ((shutdowns cs).map (·.1)).reverse ∧
      (specLifespan cs).1 = (runUntil (startups cs)).1.map LCall.startup ++ sh.map LCall.shutdown := by
  simp only [specLifespan]
  split
  · exact ⟨[], List.nil_prefix, by simp⟩
  · refine ⟨(runUntil (shutdowns cs).reverse).1, ?_, rfl⟩
    have hp := runUntil_prefix (shutdowns cs).reverse
    rw [List.map_reverse] at hp
    exact hp

/-- `process_startup` calls are a prefix of the registration order -/
theorem startup_in_order (cs : List (Nat × LComp)) :
    (lifespan cs).1.filterMap startIdx <+: (startups cs).map (·.1) := by
  rw [lifespan_eq_spec]
  obtain ⟨sh, _, he⟩ := specLifespan_shape cs
  rw [he, List.filterMap_append, List.filterMap_map, List.filterMap_map, show startIdx ∘ LCall.startup = some from rfl,
    show startIdx ∘ LCall.shutdown = fun _ => none from rfl, List.filterMap_some, filterMap_const_none, List.append_nil]
  exact runUntil_prefix (startups cs)

/-- `process_shutdown` calls are a prefix of the reversed registration order -/
theorem shutdown_in_reverse (cs : List (Nat × LComp)) :
    (lifespan cs).1.filterMap stopIdx <+: ((shutdowns cs).map (·.1)).reverse := by
  rw [lifespan_eq_spec]
  obtain ⟨sh, hp, he⟩ := specLifespan_shape cs
  rw [he, List.filterMap_append, List.filterMap_map, List.filterMap_map, show stopIdx ∘ LCall.shutdown = some from rfl,
    show stopIdx ∘ LCall.startup = fun _ => none from rfl, List.filterMap_some, filterMap_const_none, List.nil_append]
  exact hp

/-- a failing `process_startup` is reported as exactly one `lifespan.startup.failed` and no shutdown handler ever runs -/
theorem first_failure_reported_and_stops (cs : List (Nat × LComp)) (h : (runUntil (startups cs)).2 = true) :
    (lifespan cs).2 = [LEvent.startupFailed] ∧ (lifespan cs).1.filterMap stopIdx = [] := by
  rw [lifespan_eq_spec]
  simp [specLifespan, h, show stopIdx ∘ LCall.startup = fun _ => none from rfl]

end Hk
