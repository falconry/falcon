import FalconModel.ErrLink
import FalconModel.ErrSerializeProofs
import FalconModel.UriStrProofs
namespace Ek
open Us (ValidStr)

theorem validStr_toCp (s : Es.Str) : ValidStr (toCp s) := by
  intro c hc
  obtain ⟨ch, _, rfl⟩ := List.mem_map.mp hc
  have h := ch.valid
  unfold U8.ValidScalar
  simp only [Char.toNat, UInt32.isValidChar, Nat.isValidChar] at *
  omega

theorem toNat_ofNat_ascii (c : Nat) (h : c < 0x80) : (Char.ofNat c).toNat = c := by
  have hv : c.isValidChar := by unfold Nat.isValidChar; omega
  simp [Char.ofNat, hv, Char.toNat, Char.ofNatAux]

theorem toCp_ofCp_ascii (x : Us.Str) (h : ∀ c ∈ x, c < 0x80) : toCp (ofCp x) = x := by
  induction x with
  | nil => rfl
  | cons a t ih =>
    simp only [toCp, ofCp, List.map_cons, List.map_map] at *
    rw [toNat_ofNat_ascii a (h a (by simp))]
    congr 1
    exact ih (fun c hc => h c (by simp [hc]))

theorem toCp_injective : ∀ (a b : Es.Str), toCp a = toCp b → a = b
  | [], [], _ => rfl
  | [], _ :: _, h => by simp [toCp] at h
  | _ :: _, [], h => by simp [toCp] at h
  | x :: xs, y :: ys, h => by
    simp only [toCp, List.map_cons, List.cons.injEq] at h
    have hxy : x = y := Char.ext (UInt32.toNat_inj.mp h.1)
    rw [hxy, toCp_injective xs ys h.2]

theorem toCp_encHref (s : Es.Str) : toCp (encHref s) = Us.encode (toCp s) :=
  toCp_ofCp_ascii _ (fun c hc => (Us.encode_charset _ (validStr_toCp s) c hc).1)

/-- the link an `HTTPError` stores for ANY non-empty href (a `str` of Unicode scalar values): its href is `uri.encode(href)`, it consists of
    ASCII characters that are RFC 3986 unreserved / reserved characters, '%' or upper-case hex digits only, and percent-decoding it
    (`uri.decode(…, unquote_plus=False)`) gives back exactly the href the application passed -/
theorem link_href_faithful (status : Nat) (line : Es.Str) (title desc : Option Es.Str) (hs : Option (List (Es.Str × Es.Str)))
    (href : Es.Str) (hrefText : Option Es.Str) (code : Option Int) (l : Es.Link)
    (hl : (mkError status line title desc hs (some href) hrefText code).link = some l) :
    toCp l.href = Us.encode (toCp href) ∧
    Us.decode false (toCp l.href) = toCp href ∧
    (∀ c ∈ toCp l.href, c < 0x80 ∧ (Uri.allowedUri c.toUInt8 = true ∨ c = 37 ∨ Uri.upperHex c.toUInt8 = true)) := by
  have h := (Es.mk_error_fields encHref status line title desc hs (some href) hrefText code).2.2.2.2.2.2 l hl
  have e : toCp l.href = Us.encode (toCp href) := by rw [h.1]; exact toCp_encHref href
  refine ⟨e, ?_, ?_⟩
  · rw [e]; exact Us.decode_encode_uri_str _ (validStr_toCp href)
  · rw [e]; exact Us.encode_charset _ (validStr_toCp href)

/-- two different hrefs never get the same link (the encoding is injective) -/
theorem encHref_injective (a b : Es.Str) (h : encHref a = encHref b) : a = b := by
  have h1 : Us.encode (toCp a) = Us.encode (toCp b) := by rw [← toCp_encHref, ← toCp_encHref, h]
  have h2 : toCp a = toCp b := by
    rw [← Us.decode_encode_uri_str _ (validStr_toCp a), ← Us.decode_encode_uri_str _ (validStr_toCp b), h1]
  exact toCp_injective a b h2

/-- a well-formed `%XX` in the href is NOT taken for an escape (what `encode_check_escaped` would do): "100%25" becomes "100%2525" -/
example : encHref "100%25".toList = "100%2525".toList := by decide +kernel
example : (mkError 400 [] none none none (some "/wiki/%c3%a9 é".toList) none none).link.map (·.href) = some "/wiki/%25c3%25a9%20%C3%A9".toList := by decide +kernel
end Ek
