import FalconModel.FinalizeProofs
/-! C05: further theorems about the response finalization model (`Finalize.lean`):
    body precedence, Content-Type presence / absence (with the F16 exception explicit), and the ASGI twins of the
    WSGI statements (obtained through `wsgi_asgi_agree`). -/
namespace Fz

/-- rendering leaves the header dict alone unless media is the source that gets rendered -/
theorem renderBody_headers (r : Resp) (c : Cfg) (h : r.media = none ∨ r.text.isSome = true ∨ r.data.isSome = true) :
    (renderBody r c).2.headers = r.headers := by
  unfold renderBody
  cases ht : r.text with
  | some t => rfl
  | none =>
    cases hd : r.data with
    | some d => rfl
    | none =>
      cases hm : r.media with
      | none => rfl
      | some m =>
        rcases h with h | h | h
        · rw [hm] at h; cases h
        · rw [ht] at h; cases h
        · rw [hd] at h; cases h

theorem hasKey_append (a b : List (String × String)) (k : String) :
    hasKey (a ++ b) k = (hasKey a k || hasKey b k) := by
  unfold hasKey; simp [List.any_append]

theorem hasKey_cookies (cs : List String) : hasKey (cs.map fun c => ("set-cookie", c)) "content-type" = false := by
  unfold hasKey
  induction cs with
  | nil => rfl
  | cons x xs ih =>
    simp only [List.map_cons, List.any_cons, ih, Bool.or_false]
    decide

/-- **every response that is not 204/304 carries a Content-Type** (when the app has a default media type) -/
theorem otherwise_has_content_type (r : Resp) (c : Cfg) (t : String) (ht : typeless r.status = false)
    (hd : c.appDefaultType = some t) : hasKey (wsgi r c).headers "content-type" = true := by
  have emit : ∀ r2 : Resp, hasKey (emitHeaders r2 (some t)) "content-type" = true := by
    intro r2
    unfold emitHeaders
    dsimp only
    rw [hasKey_append]
    by_cases hk : hasKey r2.headers "content-type" = true
    · rw [if_pos hk, hk]; rfl
    · have : hasKey [("content-type", t)] "content-type" = true := by
        unfold hasKey; simp
      rw [if_neg hk, hasKey_append, this, Bool.or_true]; rfl
  obtain ⟨f1, _, _, _⟩ := renderBody_frame r c
  unfold wsgi
  rcases hrb : renderBody r c with ⟨data, r1⟩
  rw [hrb] at f1
  dsimp only at f1 ⊢
  by_cases hb : (c.head || bodiless r1.status) = true
  · rw [if_pos hb, f1, ht, if_neg Bool.false_ne_true, hd]
    exact emit _
  · rw [if_neg hb, hd]
    exact emit _

/-- **a 204/304 carries no Content-Type unless the application set one — provided media is not the source that gets
    rendered** (that exception is F16, see `f16_witness`): nothing the framework does on the way out adds the header -/
theorem typeless_no_default_content_type_partial (r : Resp) (c : Cfg) (ht : typeless r.status = true)
    (hk : hasKey r.headers "content-type" = false)
    (hm : r.media = none ∨ r.text.isSome = true ∨ r.data.isSome = true) :
    hasKey (wsgi r c).headers "content-type" = false := by
  obtain ⟨f1, _, _, _⟩ := renderBody_frame r c
  have fh := renderBody_headers r c hm
  unfold wsgi
  rcases hrb : renderBody r c with ⟨data, r1⟩
  rw [hrb] at f1 fh
  simp only at f1 fh
  have ht1 : typeless r1.status = true := by rw [f1]; exact ht
  have hb1 : bodiless r1.status = true := by
    unfold typeless at ht1; unfold bodiless
    simp only [Bool.or_eq_true] at ht1 ⊢
    rcases ht1 with h | h
    · exact Or.inl (Or.inr h)
    · exact Or.inr h
  simp only
  have hcond : (c.head || bodiless r1.status) = true := by simp [hb1]
  simp only [hcond, if_true, ht1, Bool.not_true, Bool.false_and]
  have emitNone : hasKey (emitHeaders r1 none) "content-type" = false := by
    unfold emitHeaders
    simp only
    rw [hasKey_append, hasKey_cookies, fh, hk]; rfl
  cases data with
  | some d => simpa using emitNone
  | none =>
    cases hs : r1.stream with
    | none => simpa using emitNone
    | some s =>
      obtain ⟨k, chunks⟩ := s
      cases k <;> simpa using emitNone

/-- the payload a non-HEAD, body-bearing response hands to the server, by source -/
def expectedPayload (r : Resp) : Bytes :=
  match rendered r with
  | some d => d
  | none =>
    match r.stream with
    | some (.fileLike, chunks) => (drainFile (chunks.length + 1) chunks r.streamFail 0).1.flatten
    | some (.iter, chunks) => (drainIter chunks r.streamFail 0).1.flatten
    | none => []

/-- **body precedence text > data > media > stream** -/
theorem body_precedence (r : Resp) (c : Cfg) (hh : c.head = false) (hb : bodiless r.status = false) :
    (wsgi r c).payload = expectedPayload r := by
  have h : (wsgi r c).body = (bodyOf r).1 := by
    have h := congrArg Prod.fst (wsgi_body r c)
    rw [hh, hb] at h
    exact h
  unfold Out.payload expectedPayload
  rw [h]
  unfold bodyOf
  cases rendered r with
  | some d => exact List.append_nil d
  | none =>
    cases r.stream with
    | none => rfl
    | some s =>
      obtain ⟨k, chunks⟩ := s
      cases k <;> rfl

/-- ASGI twin of `bodiless_no_payload` -/
theorem asgi_bodiless_no_payload (r : Resp) (c : Cfg) (h : c.head = true ∨ bodiless r.status = true) :
    (asgi r c).payload = [] := by
  rw [← (wsgi_asgi_agree r c).2.2.1]; exact bodiless_no_payload r c h

/-- ASGI twin of `content_length_exact` -/
theorem asgi_content_length_exact (r : Resp) (c : Cfg) (hh : c.head = false) (hb : bodiless r.status = false)
    (hs : r.stream = none ∨ r.text.isSome ∨ r.data.isSome ∨ r.media.isSome) :
    getKey (asgi r c).headers "content-length" = some (toString (asgi r c).payload.length) := by
  rw [← (wsgi_asgi_agree r c).2.2.1, ← (wsgi_asgi_agree r c).2.1]; exact content_length_exact r c hh hb hs

/-- ASGI twin of `body_precedence` -/
theorem asgi_body_precedence (r : Resp) (c : Cfg) (hh : c.head = false) (hb : bodiless r.status = false) :
    (asgi r c).payload = expectedPayload r := by
  rw [← (wsgi_asgi_agree r c).2.2.1]; exact body_precedence r c hh hb

end Fz
