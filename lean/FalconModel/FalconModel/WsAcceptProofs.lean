import FalconModel.WsAccept
import FalconModel.WsProofs
/-! C17, the arguments of `accept()`: whatever container, letter case and value types the `headers` argument has, the accept
    event is legal per the ASGI spec (lower-case ASCII byte names, never `sec-websocket-protocol`, only to a server that
    supports accept headers) or the call raises and nothing is sent. -/
namespace Wa
open Ws (Exc W)

/-- a header name as the ASGI spec wants it: ASCII bytes, no upper-case letter -/
def LowerAscii (n : Bytes) : Prop := ∀ b ∈ n, b < 128 ∧ isUpper b = false

theorem lowerCp_not_upper (c : Nat) : isUpper (lowerCp c) = false := by
  unfold lowerCp isUpper
  split
  · rename_i h
    simp only [Bool.and_eq_true, decide_eq_true_eq] at h
    simp only [Bool.and_eq_false_imp, decide_eq_true_eq, decide_eq_false_iff_not]
    omega
  · split
    · decide
    · rename_i h _
      simpa [isUpper] using h

theorem encodeAscii_ok {s b : List Nat} (h : encodeAscii s = .ok b) : b = s ∧ ∀ c ∈ s, c < 128 := by
  unfold encodeAscii at h
  split at h
  · rename_i hall
    cases h
    exact ⟨rfl, fun c hc => by simpa using (List.all_eq_true.mp hall) c hc⟩
  · cases h

/-- an item the comprehension accepts is a pair of two `str`; the name is its ASCII lower-casing, the value is unchanged -/
theorem encodeItem_ok {it : Item} {p : Bytes × Bytes} (h : encodeItem it = .ok p) :
    ∃ n v, it = .pair (.str n) (.str v) ∧ p = (lowerStr n, v) ∧ (∀ c ∈ lowerStr n, c < 128) ∧ (∀ c ∈ v, c < 128) := by
  cases it with
  | wrongLen => simp [encodeItem] at h
  | notIterable => simp [encodeItem] at h
  | pair n v =>
    cases n with
    | bytes b => simp [encodeItem, encodeName] at h
    | other => simp [encodeItem, encodeName] at h
    | str s =>
      cases v with
      | bytes b =>
        simp only [encodeItem, encodeName, encodeValue] at h
        split at h <;> simp at h
      | other =>
        simp only [encodeItem, encodeName, encodeValue] at h
        split at h <;> simp at h
      | str t =>
        simp only [encodeItem, encodeName, encodeValue] at h
        split at h
        · cases h
        · rename_i nb hn
          split at h
          · cases h
          · rename_i vb hv
            cases h
            obtain ⟨e1, a1⟩ := encodeAscii_ok hn
            obtain ⟨e2, a2⟩ := encodeAscii_ok hv
            subst e1; subst e2
            exact ⟨_, _, rfl, rfl, a1, a2⟩

/-- the pairs of `str` a header argument consists of, as the event should carry them -/
def expected (ps : List (List Nat × List Nat)) : List (Bytes × Bytes) := ps.map fun p => (lowerStr p.1, p.2)

/-- the comprehension, when it completes: every item was a pair of ASCII-encodable `str`, and the result lists them in order,
    one entry per item, names lower-cased, values unchanged -/
theorem encodeAll_ok : ∀ {l : List Item} {hs : List (Bytes × Bytes)}, encodeAll l = .ok hs →
    ∃ ps : List (List Nat × List Nat), l = ps.map (fun p => Item.pair (.str p.1) (.str p.2)) ∧ hs = expected ps
      ∧ ∀ p ∈ hs, (∀ c ∈ p.1, c < 128) ∧ (∀ c ∈ p.2, c < 128)
  | [], hs, h => by
    simp [encodeAll] at h; subst h
    exact ⟨[], rfl, rfl, by simp⟩
  | it :: rest, hs, h => by
    simp only [encodeAll] at h
    split at h
    · cases h
    · rename_i p hp
      split at h
      · cases h
      · rename_i ps' hrest
        cases h
        obtain ⟨n, v, hit, hpe, an, av⟩ := encodeItem_ok hp
        obtain ⟨ps, hl, hexp, hall⟩ := encodeAll_ok hrest
        refine ⟨(n, v) :: ps, by simp [hit, hl], by simp [expected, hpe, hexp], ?_⟩
        intro q hq
        rcases List.mem_cons.mp hq with rfl | hq
        · subst hpe; exact ⟨an, av⟩
        · exact hall q hq

theorem lowerStr_lowerAscii {n : List Nat} (h : ∀ c ∈ lowerStr n, c < 128) : LowerAscii (lowerStr n) := by
  intro b hb
  refine ⟨h b hb, ?_⟩
  unfold lowerStr at hb
  obtain ⟨c, _, rfl⟩ := List.mem_map.mp hb
  exact lowerCp_not_upper c

/-- **the header list of an accept event is legal**: whenever the processing of the `headers` argument returns a list, it has one
    entry per item of the argument, in order; every name is the lower-cased spelling of the given name, in ASCII bytes without
    upper-case letters; every value is the given value; and NO name is `sec-websocket-protocol` -/
theorem process_ok {l : List Item} {hs : List (Bytes × Bytes)} (h : process l = .ok hs) :
    (∃ ps : List (List Nat × List Nat), l = ps.map (fun p => Item.pair (.str p.1) (.str p.2)) ∧ hs = expected ps)
    ∧ (∀ p ∈ hs, LowerAscii p.1 ∧ (∀ c ∈ p.2, c < 128) ∧ p.1 ≠ forbidden) := by
  unfold process at h
  split at h
  · cases h
  · rename_i hs' henc
    split at h
    · cases h
    · rename_i hany
      cases h
      obtain ⟨ps, hl, hexp, hall⟩ := encodeAll_ok henc
      refine ⟨⟨ps, hl, hexp⟩, ?_⟩
      intro p hp
      have hp' := hp
      rw [hexp] at hp'
      obtain ⟨q, _, rfl⟩ := List.mem_map.mp hp'
      refine ⟨lowerStr_lowerAscii (hall _ hp).1, (hall _ hp).2, ?_⟩
      intro heq
      apply hany
      exact List.any_eq_true.mpr ⟨_, hp, by simp only [beq_iff_eq]; exact heq⟩

/-- **the forbidden name is refused in every spelling**: if any item's name lower-cases to `sec-websocket-protocol`, the
    processing raises (the documented ValueError unless another item is malformed, which raises first) -/
theorem forbidden_rejected {l : List Item} {n : List Nat} {v : PyVal} (hmem : Item.pair (.str n) v ∈ l)
    (hn : lowerStr n = forbidden) : ∃ e, process l = .error e := by
  cases hp : process l with
  | error e => exact ⟨e, rfl⟩
  | ok hs =>
    exfalso
    obtain ⟨⟨ps, hl, hexp⟩, hall⟩ := process_ok hp
    rw [hl] at hmem
    obtain ⟨q, hq, hqe⟩ := List.mem_map.mp hmem
    have : (lowerStr q.1, q.2) ∈ hs := by rw [hexp]; exact List.mem_map.mpr ⟨q, hq, rfl⟩
    have hne := (hall _ this).2.2
    injection hqe with h1 _
    injection h1 with h1
    apply hne
    show lowerStr q.1 = forbidden
    rw [h1]; exact hn

/-- and it is the documented `ValueError` when every item is well-formed (pairs of ASCII `str`) -/
theorem forbidden_rejected_valueError {l : List Item} {hs : List (Bytes × Bytes)} (henc : encodeAll l = .ok hs)
    {n : List Nat} {v : PyVal} (hmem : Item.pair (.str n) v ∈ l) (hn : lowerStr n = forbidden) :
    process l = .error .valueOther := by
  obtain ⟨e, he⟩ := forbidden_rejected hmem hn
  unfold process at he ⊢
  rw [henc] at he ⊢
  simp only at he ⊢
  split
  · rfl
  · rename_i hany; rw [if_neg hany] at he; cases he

/-- a spelling of a name: upper-case the letters where the mask says so -/
def applyCase : List Bool → List Nat → List Nat
  | m :: ms, c :: cs => (if m && (97 ≤ c && c ≤ 122) then c - 32 else c) :: applyCase ms cs
  | _, cs => cs

theorem lowerStr_applyCase : ∀ (mask : List Bool) (s : List Nat), (∀ c ∈ s, isUpper c = false ∧ c ≠ 0x212A) →
    lowerStr (applyCase mask s) = s
  | [], s, h => by
    simp only [applyCase, lowerStr]
    rw [List.map_congr_left (g := id)]
    · simp
    · intro c hc
      have := h c hc
      simp [lowerCp, this.1, this.2]
  | m :: ms, [], _ => by simp [applyCase, lowerStr]
  | m :: ms, c :: cs, h => by
    have hc := h c (List.mem_cons_self ..)
    have ih := lowerStr_applyCase ms cs (fun x hx => h x (List.mem_cons_of_mem _ hx))
    simp only [applyCase, lowerStr, List.map_cons] at ih ⊢
    rw [ih]
    congr 1
    by_cases hm : (m && (97 ≤ c && c ≤ 122)) = true
    · rw [if_pos hm]
      simp only [Bool.and_eq_true, decide_eq_true_eq] at hm
      have : isUpper (c - 32) = true := by simp [isUpper]; omega
      simp only [lowerCp, this, if_true]
      omega
    · rw [if_neg hm]
      simp [lowerCp, hc.1, hc.2]

/-- **every letter-case spelling** of `sec-websocket-protocol` (2^20 of them) lower-cases to the forbidden name -/
theorem every_spelling_forbidden (mask : List Bool) : lowerStr (applyCase mask forbidden) = forbidden :=
  lowerStr_applyCase mask forbidden (by decide +kernel)

/-- so `accept(headers=[..., (any spelling, v), ...])` with well-formed items raises the documented ValueError -/
theorem every_spelling_rejected (mask : List Bool) (v : List Nat) (pre post : List (List Nat × List Nat))
    (hs : List (Bytes × Bytes))
    (henc : encodeAll ((pre ++ (applyCase mask forbidden, v) :: post).map fun p => Item.pair (.str p.1) (.str p.2)) = .ok hs) :
    process ((pre ++ (applyCase mask forbidden, v) :: post).map fun p => Item.pair (.str p.1) (.str p.2)) = .error .valueOther :=
  forbidden_rejected_valueError henc (n := applyCase mask forbidden) (v := .str v)
    (List.mem_map.mpr ⟨(applyCase mask forbidden, v), by simp, rfl⟩) (every_spelling_forbidden mask)

section
local instance : DecidableEq (Except Exc (List (Bytes × Bytes)))
  | .ok a, .ok b => if h : a = b then isTrue (h ▸ rfl) else isFalse fun h' => h (Except.ok.inj h')
  | .error a, .error b => if h : a = b then isTrue (h ▸ rfl) else isFalse fun h' => h (Except.error.inj h')
  | .ok _, .error _ => isFalse nofun
  | .error _, .ok _ => isFalse nofun

example : process [.pair (.str ("X-A".toList.map Char.toNat)) (.str [49]), .pair (.str ("Sec-WebSocket-Protocol".toList.map Char.toNat)) (.str [99])]
    = .error .valueOther := by decide +kernel
example : process [.pair (.str ("Sec-WebSoc".toList.map Char.toNat ++ [0x212A] ++ "et-Protocol".toList.map Char.toNat)) (.str [99])]
    = .error .valueOther := by decide +kernel
example : process [.pair (.str ("Sec-WebSocket-Protocols".toList.map Char.toNat)) (.str [99])]
    = .ok [("sec-websocket-protocols".toList.map Char.toNat, [99])] := by decide +kernel
end

/-- `accept` with concrete arguments IS an operation of the session model `Ws` (by definition: `toOp`), so every `Ws` theorem -
    legality of the event trace, the wrong-state table, the close that is always sent - covers sessions whose responder calls
    `accept` with arbitrary arguments -/
theorem accept_is_op (w : W) (disc : Option Int) (sub : SubArg) (a : HArg) :
    ((accept w disc sub a).1, (accept w disc sub a).2.1) = w.op disc (toOp sub a) := rfl

/-- the accept event reaches the server only if every check passed: supported headers, a `str` subprotocol, processed headers;
    and it is built from the arguments -/
theorem accept_event_only_if_checked (w : W) (disc : Option Int) (sub : SubArg) (a : HArg) (ev : AcceptEvent)
    (h : (accept w disc sub a).2.2 = some ev) :
    ev = ⟨eventHeaders a, sub.present⟩ ∧ sub.bad = false ∧ (a.truthy = true → w.supHeaders = true ∧ headerExc a = none) ∧
      w.st = .handshake := by
  unfold accept at h
  dsimp only at h
  cases hb : Nat.blt w.sent.length (w.op disc (toOp sub a)).1.sent.length with
  | false => rw [hb] at h; cases h
  | true =>
    rw [hb] at h
    cases h
    have hlen := Nat.blt_eq.mp hb
    rcases Ws.accept_cases w disc a.truthy sub.present sub.bad (headerExc a) with h0 | ⟨_, hst, hbad, hchk, _⟩
    · rw [show w.op disc (toOp sub a) = w.accept disc a.truthy sub.present sub.bad (headerExc a) from rfl, h0] at hlen
      exact absurd hlen (Nat.lt_irrefl _)
    · exact ⟨rfl, hbad, hchk, hst⟩

/-- **the accept event is legal per the ASGI spec**: if `accept(subprotocol, headers)` hands an accept event to the server, then
    its `headers` key is present only for a server that supports accept headers, and every entry is a pair of ASCII byte strings
    whose name has no upper-case letter and is not `sec-websocket-protocol`; the entries are the items of the argument in order -/
theorem accept_event_legal (w : W) (disc : Option Int) (sub : SubArg) (a : HArg) (ev : AcceptEvent)
    (h : (accept w disc sub a).2.2 = some ev) :
    ev.subprotocol = sub.present ∧
    match ev.headers with
    | none => a.truthy = false
    | some hs => w.supHeaders = true ∧ process a.items = .ok hs ∧ ∀ p ∈ hs, LowerAscii p.1 ∧ (∀ c ∈ p.2, c < 128) ∧ p.1 ≠ forbidden := by
  obtain ⟨rfl, _, hchk, _⟩ := accept_event_only_if_checked w disc sub a ev h
  refine ⟨rfl, ?_⟩
  dsimp only
  unfold eventHeaders
  cases ht : a.truthy with
  | false => simp
  | true =>
    obtain ⟨hsup, hexc⟩ := hchk ht
    simp only [if_true]
    unfold headerExc at hexc
    simp only [ht, if_true] at hexc
    cases hp : process a.items with
    | error e => rw [hp] at hexc; simp at hexc
    | ok hs => exact ⟨hsup, rfl, (process_ok hp).2⟩

/-- **the documented ValueError**: on a socket in the handshake state whose client is connected, with a `str` (or no) subprotocol
    and a server that supports accept headers, a `headers` argument of well-formed items one of which is named
    `sec-websocket-protocol` in ANY letter case raises ValueError; nothing is sent and the socket is unchanged -/
theorem accept_forbidden_header_raises (w : W) (sub : SubArg) (a : HArg) (hst : w.st = .handshake) (hsub : sub.bad = false)
    (hsup : w.supHeaders = true) (hs : List (Bytes × Bytes)) (henc : encodeAll a.items = .ok hs) (hg : a.given = true)
    {n : List Nat} {v : PyVal} (hmem : Item.pair (.str n) v ∈ a.items) (hn : lowerStr n = forbidden) :
    accept w none sub a = (w, some .valueOther, none) := by
  have hp := forbidden_rejected_valueError henc hmem hn
  have ht : a.truthy = true := by
    unfold HArg.truthy
    cases hi : a.items with
    | nil => rw [hi] at hmem; cases hmem
    | cons x xs => simp [hg]
  have hexc : headerExc a = some .valueOther := by simp [headerExc, ht, hp]
  have : w.accept none a.truthy sub.present sub.bad (headerExc a) = (w, some .valueOther) := by
    unfold W.accept W.isClosed
    simp [hst, hsub, hsup, ht, hexc]
  simp only [accept, toOp, W.op, this]
  rw [Bool.eq_false_iff.mpr fun hb => Nat.lt_irrefl _ (Nat.blt_eq.mp hb)]
  rfl

end Wa
