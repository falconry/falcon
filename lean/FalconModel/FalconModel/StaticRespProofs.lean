import FalconModel.StaticResp
import FalconModel.HeaderParsersProofs
import FalconModel.StaticPathProofs

/-! C16, response side: proofs about `Sr` (StaticResp.lean) - `_BoundedFile` over any history of reads, the exact Range
    slice / 416 / ignored unit / size 0 (F14) / 304 precedence, `match`, and the files `__call__` opens. -/

namespace Sr

/-- what a read returned is the prefix of its own length -/
theorem take_eq_take_length {α : Type} (X : List α) (n : Nat) : X.take n = X.take (X.take n).length :=
  List.take_eq_take_iff.mpr (by rw [List.length_take, Nat.min_assoc, Nat.min_self])

theorem take_take_drop {α : Type} (X : List α) (n r : Nat) (h : n ≤ r) :
    X.take n ++ (X.drop (X.take n).length).take (r - (X.take n).length) = X.take r := by
  have e := take_eq_take_length X n
  have hm : (X.take n).length ≤ r := Nat.le_trans (List.length_take_le n X) h
  generalize (X.take n).length = m at e hm ⊢
  rw [e, ← List.take_add, Nat.add_sub_cancel' hm]

/-- one read: at most `size` bytes (for `size ≥ 0`), never more than `remaining`, the bytes are the next bytes of
    the window, and `remaining` decreases by exactly the number of bytes returned -/
theorem bounded_read_spec (b : Bounded) (size : Option Int) :
    (b.read size).1 ++ (b.read size).2.window = b.window ∧
    (b.read size).2.remaining + (b.read size).1.length = b.remaining ∧
    (∀ s, size = some s → 0 ≤ s → ((b.read size).1.length : Int) ≤ s) := by
  obtain ⟨⟨data, pos⟩, rem⟩ := b
  generalize hn : clamp rem size = n
  have hnr : n ≤ rem := by
    subst hn; unfold clamp; split
    · exact Nat.le_refl _
    · split
      · exact Nat.le_refl _
      · exact Nat.min_le_right _ _
  have hread : Bounded.read ⟨⟨data, pos⟩, rem⟩ size =
      ((data.drop pos).take n, ⟨⟨data, pos + ((data.drop pos).take n).length⟩, rem - ((data.drop pos).take n).length⟩) := by
    simp only [Bounded.read, Fh.read]; rw [hn]
  rw [hread]
  have hlen : ((data.drop pos).take n).length ≤ n := by rw [List.length_take]; exact Nat.min_le_left _ _
  refine ⟨?_, Nat.sub_add_cancel (Nat.le_trans hlen hnr), ?_⟩
  · simp only [Bounded.window]
    rw [← List.drop_drop]
    exact take_take_drop (data.drop pos) n rem hnr
  · intro s hs h0
    subst hs
    rw [clamp, if_neg (Int.not_lt.mpr h0)] at hn
    have : n ≤ s.toNat := by rw [← hn]; exact Nat.min_le_left _ _
    rw [← Int.toNat_of_nonneg h0]
    exact Int.ofNat_le.mpr (Nat.le_trans hlen this)

/-- **`_BoundedFile` never hands out more than `length` bytes, whatever the sequence of `read(size)` calls**:
    the concatenation of everything returned so far, followed by what is still readable, is the original window
    `file[pos : pos+length]` - so the reads are a prefix of the slice, their total is at most `length`, and
    `remaining` accounts exactly for the bytes returned -/
theorem bounded_file_never_exceeds_length (b : Bounded) (sizes : List (Option Int)) :
    (b.reads sizes).1.flatten ++ (b.reads sizes).2.window = b.window ∧
    (b.reads sizes).2.remaining + (b.reads sizes).1.flatten.length = b.remaining ∧
    (b.reads sizes).1.flatten.length ≤ b.remaining ∧
    (b.reads sizes).1.flatten <+: (b.fh.data.drop b.fh.pos).take b.remaining := by
  have main : (b.reads sizes).1.flatten ++ (b.reads sizes).2.window = b.window ∧
      (b.reads sizes).2.remaining + (b.reads sizes).1.flatten.length = b.remaining := by
    induction sizes generalizing b with
    | nil => simp [Bounded.reads]
    | cons sz rest ih =>
      obtain ⟨h1, h2, -⟩ := bounded_read_spec b sz
      obtain ⟨i1, i2⟩ := ih (b.read sz).2
      simp only [Bounded.reads, List.flatten_cons, List.append_assoc, List.length_append]
      refine ⟨by rw [i1, h1], by rw [Nat.add_left_comm, i2, Nat.add_comm, h2]⟩
  refine ⟨main.1, main.2, main.2 ▸ Nat.le_add_left _ _, ?_⟩
  exact ⟨(b.reads sizes).2.window, main.1⟩

example : (Bounded.reads ⟨⟨[1, 2, 3, 4, 5, 6, 7, 8], 2⟩, 4⟩ [some 1, some 0, none, some 3]).1 = [[3], [], [4, 5, 6], []] := by decide

/-- a `read` with a non-zero size returns nothing only when the window is exhausted -/
theorem bounded_read_empty_iff (b : Bounded) (size : Option Int) (hs : size ≠ some 0) :
    (b.read size).1 = [] ↔ b.window = [] := by
  obtain ⟨⟨data, pos⟩, rem⟩ := b
  -- `clamp` vanishes only with the budget
  have hc : clamp rem size = 0 ↔ rem = 0 := by
    cases size with
    | none => exact Iff.rfl
    | some s =>
      rw [clamp]
      by_cases hneg : s < 0
      · rw [if_pos hneg]
      · rw [if_neg hneg, Nat.min_eq_zero_iff]
        have hpos : s.toNat ≠ 0 := fun h0 =>
          hs (by rw [Int.le_antisymm (Int.toNat_eq_zero.mp h0) (Int.not_lt.mp hneg)])
        exact ⟨fun h => h.resolve_left hpos, Or.inr⟩
  show (data.drop pos).take (clamp rem size) = [] ↔ (data.drop pos).take rem = []
  rw [List.take_eq_nil_iff, List.take_eq_nil_iff, hc]

theorem stream_read_spec (s : Stream) (n : Nat) :
    (s.read (some (n : Int))).1 ++ (s.read (some (n : Int))).2.window = s.window ∧
    (0 < n → ((s.read (some (n : Int))).1 = [] ↔ s.window = [])) := by
  cases s with
  | raw fh =>
    obtain ⟨data, pos⟩ := fh
    simp only [Stream.read, if_neg (Int.not_lt.mpr (Int.natCast_nonneg n)), Fh.read, Stream.window, Int.toNat_natCast]
    refine ⟨?_, fun hn => ?_⟩
    · rw [← List.drop_drop]
      have e := take_eq_take_length (data.drop pos) n
      generalize ((data.drop pos).take n).length = m at e ⊢
      rw [e]; exact List.take_append_drop m _
    · rw [List.take_eq_nil_iff]
      exact ⟨fun h => h.resolve_left (Nat.ne_of_gt hn), Or.inr⟩
  | bounded b =>
    simp only [Stream.read, Stream.window]
    refine ⟨(bounded_read_spec b (some (n : Int))).1, ?_⟩
    intro hn
    exact bounded_read_empty_iff b (some (n : Int)) fun h => Nat.ne_of_gt hn (Int.ofNat_inj.mp (Option.some.inj h))

/-- **the consumption loop delivers exactly the window**: reading `block > 0` bytes at a time until a read
    returns nothing yields `file[pos : pos+length]` (for a `_BoundedFile`) or the rest of the file (raw handle) -/
theorem drain_eq_window (block : Nat) (hb : 0 < block) (fuel : Nat) (s : Stream) (hf : s.window.length < fuel) :
    drain block fuel s = s.window := by
  induction fuel generalizing s with
  | zero => exact absurd hf (Nat.not_lt_zero _)
  | succ fuel ih =>
    obtain ⟨h1, h2⟩ := stream_read_spec s block
    have h2 := h2 hb
    simp only [drain]
    by_cases he : (s.read (some (block : Int))).1 = []
    · simp only [he, List.isEmpty_nil, if_true]
      exact (h2.mp he).symm
    · have hne : (s.read (some (block : Int))).1.isEmpty = false := by
        cases h : (s.read (some (block : Int))).1 with
        | nil => exact absurd h he
        | cons _ _ => rfl
      simp only [hne, Bool.false_eq_true, if_false]
      have hlen : (s.read (some (block : Int))).2.window.length < fuel := by
        have : (s.read (some (block : Int))).1.length + (s.read (some (block : Int))).2.window.length = s.window.length := by
          rw [← List.length_append, h1]
        have : 0 < (s.read (some (block : Int))).1.length := List.length_pos_iff.mpr he
        omega
      rw [ih _ hlen, h1]

/-- the result `_set_range` builds around an outcome of the range arithmetic: a 206 stream is a `_BoundedFile` positioned at
    `first` and limited to the Content-Length -/
def SetRange.ofRange (data : Bytes) : St.RangeOut → SetRange
  | .whole n => .ok (.raw ⟨data, 0⟩) n none
  | .partial_ f l n => .ok (.bounded ⟨⟨data, f⟩, n⟩) n (some (f, l, data.length))
  | .unsatisfiable n => .unsat n

/-- `_set_range` is `St.setRange` with the streams attached, so `St.range_closed`, `St.range_open`, `St.range_suffix`,
    `St.range_wellformed` speak about this model -/
theorem setRange_eq (data : Bytes) (a b : Int) :
    setRange data (some (a, b)) = .ofRange data (St.setRange data.length a b) := by
  simp only [setRange, St.setRange, apply_ite (SetRange.ofRange data)]
  rfl

theorem proj_ofRange (data : Bytes) (r : St.RangeOut) : (SetRange.ofRange data r).proj = r := by
  cases r <;> rfl

theorem setRange_proj (data : Bytes) (a b : Int) :
    (setRange data (some (a, b))).proj = St.setRange data.length a b := by
  rw [setRange_eq, proj_ofRange]

/-- the documented shape of a `req.range` tuple (`Hp.range_ok_shape`) -/
def RangeShape (a b : Int) : Prop := (0 ≤ a ∧ (b = -1 ∨ a ≤ b)) ∨ (a < 0 ∧ b = -1)

theorem RangeShape.wellformed {a b : Int} (hsh : RangeShape a b) {size first last len : Nat}
    (h : St.setRange size a b = .partial_ first last len) : first ≤ last ∧ last < size ∧ len = last - first + 1 := by
  refine St.range_wellformed size a b first last len ?_ ?_ h
  · rcases hsh with h | h
    · exact fun h' => absurd h' (Int.not_lt.mpr h.1)
    · exact fun _ => h.2
  · rcases hsh with h | h
    · exact h.2
    · exact Or.inl h.2

/-- a 206 stream is a `_BoundedFile` positioned at `first` and limited to `last - first + 1` bytes:
    what can be read from it is exactly `file[first .. last]` -/
theorem setRange_window (data : Bytes) (a b : Int) (stream : Stream) (len first last sz : Nat)
    (hsh : RangeShape a b)
    (h : setRange data (some (a, b)) = .ok stream len (some (first, last, sz))) :
    stream.window = (data.drop first).take (last - first + 1) ∧ sz = data.length ∧
    stream = .bounded ⟨⟨data, first⟩, last - first + 1⟩ := by
  rw [setRange_eq] at h
  cases hr : St.setRange data.length a b with
  | whole n => rw [hr] at h; cases h
  | unsatisfiable n => rw [hr] at h; cases h
  | partial_ f l n =>
    rw [hr] at h
    injection h with h1 h2 h3
    injection h3 with h3
    injection h3 with h3 h4
    injection h4 with h4 h5
    subst h1 h2 h3 h4 h5
    rw [(hsh.wellformed hr).2.2]
    exact ⟨rfl, rfl, rfl⟩

/-- the If-Modified-Since reading neither is malformed (400) nor makes the response a 304 -/
def imsPasses (lm : Int) (ims : Ims) : Bool := ims != .bad && !notModifiedSince lm ims

def dlName (downloadable : Bool) (filePath : Str) : Option Str :=
  if downloadable then some (basename filePath) else none

theorem respond_of_passes (dl : Bool) (fp : Str) (f : File) (ims : Ims) (v : Option Hp.Str)
    (hi : imsPasses f.lm ims = true) :
    respond dl fp f ims v =
      match reqRange v with
      | none => .invalidHeader f.lm
      | some r =>
        match setRange f.data r with
        | .unsat size => .unsat f.lm size
        | .ok stream length cr => .served (if cr.isSome then 206 else 200) f.lm stream length cr (dlName dl fp) := by
  unfold imsPasses at hi
  simp only [Bool.and_eq_true, bne_iff_ne, ne_eq, Bool.not_eq_true'] at hi
  unfold respond
  have h1 : (ims == Ims.bad) = false := by simpa using hi.1
  simp only [h1, Bool.false_eq_true, if_false, hi.2, dlName]
  rfl

theorem reqRange_bytes (v : Option Hp.Str) (a b : Int)
    (hu : Hp.rangeUnit v = .ok bytesUnit) (hr : Hp.range v = .ok a b) : reqRange v = some (some (a, b)) := by
  simp [reqRange, hu, hr]

/-- **the Range slice is served exactly** (`size > 0`, satisfiable): whatever Range header reads as `(a, b)` with unit
    `bytes`, if the range arithmetic yields `first-last`, the response is 206 with `Content-Range: bytes first-last/size`,
    `Content-Length: last-first+1`, and the stream delivers precisely `file[first .. last]` - for every block size
    the server reads with. (`St.range_closed/open/suffix` say which `first`, `last` belong to which header form.) -/
theorem range_slice_exact (dl : Bool) (fp : Str) (f : File) (ims : Ims) (v : Option Hp.Str) (a b : Int)
    (first last len : Nat)
    (hi : imsPasses f.lm ims = true)
    (hu : Hp.rangeUnit v = .ok bytesUnit) (hr : Hp.range v = .ok a b)
    (hs : St.setRange f.data.length a b = .partial_ first last len) :
    respond dl fp f ims v =
      .served 206 f.lm (.bounded ⟨⟨f.data, first⟩, last - first + 1⟩) len (some (first, last, f.data.length)) (dlName dl fp) ∧
    (∀ block fuel, 0 < block → len < fuel →
      drain block fuel (.bounded ⟨⟨f.data, first⟩, last - first + 1⟩) = (f.data.drop first).take (last - first + 1)) ∧
    first ≤ last ∧ last < f.data.length ∧ len = last - first + 1 ∧
    ((f.data.drop first).take (last - first + 1)).length = len := by
  obtain ⟨hfl, hls, hlen⟩ := RangeShape.wellformed (Hp.range_ok_shape v a b hr) hs
  subst hlen
  have hbody : ((f.data.drop first).take (last - first + 1)).length = last - first + 1 := by
    rw [List.length_take, List.length_drop]
    exact Nat.min_eq_left (Nat.succ_le_of_lt (Nat.sub_lt_sub_right hfl hls))
  rw [respond_of_passes dl fp f ims v hi, reqRange_bytes v a b hu hr]
  dsimp only
  rw [setRange_eq, hs]
  refine ⟨rfl, ?_, hfl, hls, rfl, hbody⟩
  intro block fuel hb hf
  exact drain_eq_window block hb fuel (.bounded ⟨⟨f.data, first⟩, last - first + 1⟩) (by rw [← hbody] at hf; exact hf)

/-- `bytes=a-b` end to end, from the header text to the bytes: 206, `a .. min(b, size-1)` -/
theorem range_closed_response (dl : Bool) (fp : Str) (f : File) (ims : Ims) (a b : Nat)
    (hi : imsPasses f.lm ims = true) (hab : a ≤ b) (ha : a < f.data.length) :
    respond dl fp f ims (some (bytesUnit ++ '=' :: (Nat.toDigits 10 a ++ '-' :: Nat.toDigits 10 b))) =
      .served 206 f.lm (.bounded ⟨⟨f.data, a⟩, min b (f.data.length - 1) - a + 1⟩) (min b (f.data.length - 1) - a + 1)
        (some (a, min b (f.data.length - 1), f.data.length)) (dlName dl fp) ∧
    (∀ block fuel, 0 < block → min b (f.data.length - 1) - a + 1 < fuel →
      drain block fuel (.bounded ⟨⟨f.data, a⟩, min b (f.data.length - 1) - a + 1⟩) =
        (f.data.drop a).take (min b (f.data.length - 1) - a + 1)) := by
  have hu : '=' ∉ bytesUnit := by decide
  have h := range_slice_exact dl fp f ims _ a b a (min b (f.data.length - 1)) (min b (f.data.length - 1) - a + 1) hi
    (Hp.rangeUnit_of_valid bytesUnit _ hu) (Hp.range_first_last bytesUnit a b hu hab)
    (by rw [St.range_closed f.data.length a b (Nat.zero_lt_of_lt ha) hab, if_neg (Nat.not_le.mpr ha)])
  exact ⟨h.1, h.2.1⟩

/-- `bytes=a-`: 206, `a .. size-1` -/
theorem range_open_response (dl : Bool) (fp : Str) (f : File) (ims : Ims) (a : Nat)
    (hi : imsPasses f.lm ims = true) (ha : a < f.data.length) :
    respond dl fp f ims (some (bytesUnit ++ '=' :: (Nat.toDigits 10 a ++ ['-']))) =
      .served 206 f.lm (.bounded ⟨⟨f.data, a⟩, f.data.length - 1 - a + 1⟩) (f.data.length - a)
        (some (a, f.data.length - 1, f.data.length)) (dlName dl fp) ∧
    (∀ block fuel, 0 < block → f.data.length - a < fuel →
      drain block fuel (.bounded ⟨⟨f.data, a⟩, f.data.length - 1 - a + 1⟩) = f.data.drop a) := by
  have hu : '=' ∉ bytesUnit := by decide
  have h := range_slice_exact dl fp f ims _ a (-1) a (f.data.length - 1) (f.data.length - a) hi
    (Hp.rangeUnit_of_valid bytesUnit _ hu) (Hp.range_first_open bytesUnit a hu)
    (by rw [St.range_open f.data.length a (Nat.zero_lt_of_lt ha), if_neg (Nat.not_le.mpr ha)])
  refine ⟨h.1, ?_⟩
  intro block fuel hb hf
  rw [h.2.1 block fuel hb hf]
  apply List.take_of_length_le
  rw [List.length_drop, Nat.sub_right_comm, Nat.sub_add_cancel (Nat.sub_pos_of_lt ha)]
  exact Nat.le_refl _

/-- `bytes=-n`, `n > 0`: 206, the last `min(n, size)` bytes -/
theorem range_suffix_response (dl : Bool) (fp : Str) (f : File) (ims : Ims) (n : Nat)
    (hi : imsPasses f.lm ims = true) (hn : 0 < n) (hsz : 0 < f.data.length) :
    respond dl fp f ims (some (bytesUnit ++ '=' :: ('-' :: Nat.toDigits 10 n))) =
      .served 206 f.lm (.bounded ⟨⟨f.data, f.data.length - min n f.data.length⟩,
          f.data.length - 1 - (f.data.length - min n f.data.length) + 1⟩) (min n f.data.length)
        (some (f.data.length - min n f.data.length, f.data.length - 1, f.data.length)) (dlName dl fp) ∧
    (∀ block fuel, 0 < block → min n f.data.length < fuel →
      drain block fuel (.bounded ⟨⟨f.data, f.data.length - min n f.data.length⟩,
          f.data.length - 1 - (f.data.length - min n f.data.length) + 1⟩) =
        f.data.drop (f.data.length - min n f.data.length)) := by
  have hu : '=' ∉ bytesUnit := by decide
  have h := range_slice_exact dl fp f ims _ (-(n : Int)) (-1) (f.data.length - min n f.data.length) (f.data.length - 1)
    (min n f.data.length) hi
    (Hp.rangeUnit_of_valid bytesUnit _ hu) (Hp.range_suffix bytesUnit n hu hn)
    (St.range_suffix f.data.length n hsz hn)
  refine ⟨h.1, ?_⟩
  intro block fuel hb hf
  rw [h.2.1 block fuel hb hf]
  apply List.take_of_length_le
  rw [List.length_drop, Nat.sub_right_comm, Nat.sub_sub_self (Nat.min_le_right _ _),
    Nat.sub_add_cancel (Nat.le_min.mpr ⟨hn, hsz⟩)]
  exact Nat.le_refl _

example : (respond true "/srv/pub/a.txt".toList ⟨[48, 49, 50, 51, 52, 53, 54, 55, 56, 57], 1600000000⟩ (.ok 1599999999)
    (some "bytes=2-4".toList)) =
    .served 206 1600000000 (.bounded ⟨⟨[48, 49, 50, 51, 52, 53, 54, 55, 56, 57], 2⟩, 3⟩) 3 (some (2, 4, 10)) (some "a.txt".toList) := by
  decide +kernel

theorem setRange_unsat_iff (data : Bytes) (a b : Int) (hsz : 0 < data.length) (n : Nat) :
    setRange data (some (a, b)) = .unsat n ↔ (n = data.length ∧ (data.length : Int) ≤ a) := by
  have h0 : (data.length == 0) = false := by
    cases data with
    | nil => simp at hsz
    | cons _ _ => rfl
  unfold setRange
  simp only [h0, Bool.false_eq_true, if_false]
  by_cases hc : (a < 0 && b == -1) = true
  · simp only [hc, if_true]
    simp only [Bool.and_eq_true, decide_eq_true_eq, beq_iff_eq] at hc
    constructor
    · intro h; simp at h
    · intro h; exact absurd (Int.le_trans (Int.natCast_nonneg _) h.2) (Int.not_le.mpr hc.1)
  · simp only [hc, Bool.false_eq_true, if_false]
    by_cases hge : a ≥ (data.length : Int)
    · rw [if_pos hge]
      simp only [SetRange.unsat.injEq]
      constructor
      · intro h; exact ⟨h.symm, hge⟩
      · intro h; exact h.1.symm
    · rw [if_neg hge]
      constructor
      · intro h; split at h <;> simp at h
      · intro h; exact absurd h.2 hge

/-- **an unsatisfiable range is a 416 carrying the size** (`size > 0`): with unit `bytes` and reading `(a, b)`, the
    outcome is `HTTPRangeNotSatisfiable(size)` exactly when `a ≥ size`, and no other size is ever reported -/
theorem unsatisfiable_is_416_with_size (dl : Bool) (fp : Str) (f : File) (ims : Ims) (v : Option Hp.Str) (a b : Int)
    (hi : imsPasses f.lm ims = true)
    (hu : Hp.rangeUnit v = .ok bytesUnit) (hr : Hp.range v = .ok a b) (hsz : 0 < f.data.length) :
    (respond dl fp f ims v = .unsat f.lm f.data.length ↔ (f.data.length : Int) ≤ a) ∧
    (∀ lm n, respond dl fp f ims v = .unsat lm n → lm = f.lm ∧ n = f.data.length) := by
  rw [respond_of_passes dl fp f ims v hi, reqRange_bytes v a b hu hr]
  simp only
  have hiff := setRange_unsat_iff f.data a b hsz
  cases hsr : setRange f.data (some (a, b)) with
  | unsat n =>
    obtain ⟨hn, hle⟩ := (hiff n).mp hsr
    subst hn
    refine ⟨⟨fun _ => hle, fun _ => rfl⟩, ?_⟩
    intro lm m h
    simp only [Out.unsat.injEq] at h
    exact ⟨h.1.symm, h.2.symm⟩
  | ok stream length cr =>
    refine ⟨⟨fun h => by simp at h, fun h => ?_⟩, fun lm n h => by simp at h⟩
    have := (hiff f.data.length).mpr ⟨rfl, h⟩
    rw [hsr] at this; simp at this

/-- without a usable Range the whole file is served: 200, `Content-Length: size`, no Content-Range, and the
    stream (the raw file handle) delivers the complete content -/
theorem no_range_is_200_whole (dl : Bool) (fp : Str) (f : File) (ims : Ims) (hi : imsPasses f.lm ims = true) :
    respond dl fp f ims none = .served 200 f.lm (.raw ⟨f.data, 0⟩) f.data.length none (dlName dl fp) ∧
    (∀ block fuel, 0 < block → f.data.length < fuel → drain block fuel (.raw ⟨f.data, 0⟩) = f.data) := by
  refine ⟨?_, ?_⟩
  · rw [respond_of_passes dl fp f ims none hi]; rfl
  · intro block fuel hb hf
    exact drain_eq_window block hb fuel (.raw ⟨f.data, 0⟩) (by simpa [Stream.window] using hf)

/-- **a range unit other than `bytes` is ignored**: the response is the one for a request without Range header -/
theorem other_unit_ignored (dl : Bool) (fp : Str) (f : File) (ims : Ims) (v : Option Hp.Str) (u : Hp.Str)
    (hu : Hp.rangeUnit v = .ok u) (hne : u ≠ bytesUnit) :
    respond dl fp f ims v = respond dl fp f ims none := by
  have h1 : reqRange v = some none := by
    have : (u == bytesUnit) = false := by simpa using hne
    simp [reqRange, hu, this]
  have h2 : reqRange none = some none := rfl
  unfold respond
  rw [h1, h2]

/-- **F14, exactly**: on a zero-length file every syntactically valid Range header - also the int-ranges RFC 9110
    calls unsatisfiable - is ignored: 200, `Content-Length: 0`, no Content-Range, empty body; never 416 -/
theorem size_zero_ignores_range (dl : Bool) (fp : Str) (lm : Int) (ims : Ims) (v : Option Hp.Str)
    (r : Option (Int × Int))
    (hi : imsPasses lm ims = true) (hr : reqRange v = some r) :
    respond dl fp ⟨[], lm⟩ ims v = .served 200 lm (.raw ⟨[], 0⟩) 0 none (dlName dl fp) := by
  rw [respond_of_passes dl fp ⟨[], lm⟩ ims v hi, hr]
  cases r with
  | none => rfl
  | some t => obtain ⟨a, b⟩ := t; rfl

/-- **not modified ⇒ 304 without a body, and this test comes before any Range handling**: whatever the Range header
    (absent, satisfiable, unsatisfiable or malformed) the outcome is `notModified` - only Last-Modified is set -/
theorem not_modified_is_304_without_body (dl : Bool) (fp : Str) (f : File) (t : Int) (v : Option Hp.Str)
    (h : f.lm ≤ t) : respond dl fp f (.ok t) v = .notModified f.lm := by
  unfold respond
  have : notModifiedSince f.lm (.ok t) = true := by simp [notModifiedSince, h]
  simp [this]

/-- a malformed If-Modified-Since is a 400 before Range is looked at; a modified file goes on to the Range handling -/
theorem ims_bad_is_400 (dl : Bool) (fp : Str) (f : File) (v : Option Hp.Str) :
    respond dl fp f .bad v = .invalidHeader f.lm := by
  simp [respond]

/-- a request that does not get past If-Modified-Since: 400 for a malformed date, 304 for an unmodified file -/
theorem respond_of_not_passes (dl : Bool) (fp : Str) (f : File) (ims : Ims) (v : Option Hp.Str)
    (hi : imsPasses f.lm ims = false) :
    respond dl fp f ims v = .invalidHeader f.lm ∨
    (∃ t, ims = .ok t ∧ f.lm ≤ t) ∧ respond dl fp f ims v = .notModified f.lm := by
  cases ims with
  | absent => cases hi
  | bad => exact Or.inl (ims_bad_is_400 dl fp f v)
  | ok t =>
    have hle : f.lm ≤ t := by simpa [imsPasses, notModifiedSince] using hi
    exact Or.inr ⟨⟨t, rfl, hle⟩, not_modified_is_304_without_body dl fp f t v hle⟩

/-- conversely a 304 is only ever produced by that test -/
theorem not_modified_only_if (dl : Bool) (fp : Str) (f : File) (ims : Ims) (v : Option Hp.Str) (lm : Int)
    (h : respond dl fp f ims v = .notModified lm) : lm = f.lm ∧ ∃ t, ims = .ok t ∧ f.lm ≤ t := by
  cases hi : imsPasses f.lm ims with
  | true =>
    rw [respond_of_passes dl fp f ims v hi] at h
    cases hr : reqRange v with
    | none => rw [hr] at h; cases h
    | some r => rw [hr] at h; dsimp only at h; cases hs : setRange f.data r <;> rw [hs] at h <;> cases h
  | false =>
    rcases respond_of_not_passes dl fp f ims v hi with e | ⟨ht, e⟩
    · rw [e] at h; cases h
    · rw [e] at h; injection h with h; exact ⟨h.symm, ht⟩

/-- status 206 iff a Content-Range is present; every served Content-Range carries the file size -/
theorem served_status (dl : Bool) (fp : Str) (f : File) (ims : Ims) (v : Option Hp.Str)
    (st : Nat) (lm : Int) (stream : Stream) (len : Nat) (cr : Option (Nat × Nat × Nat)) (d : Option Str)
    (h : respond dl fp f ims v = .served st lm stream len cr d) :
    lm = f.lm ∧ d = dlName dl fp ∧ ((st = 206 ∧ cr.isSome) ∨ (st = 200 ∧ cr = none)) := by
  cases hi : imsPasses f.lm ims with
  | false =>
    rcases respond_of_not_passes dl fp f ims v hi with e | ⟨_, e⟩ <;> rw [e] at h <;> cases h
  | true =>
    rw [respond_of_passes dl fp f ims v hi] at h
    cases hr : reqRange v with
    | none => rw [hr] at h; cases h
    | some r =>
      rw [hr] at h
      dsimp only at h
      cases hs : setRange f.data r with
      | unsat n => rw [hs] at h; cases h
      | ok stream' len' cr' =>
        rw [hs] at h
        injection h with h1 h2 h3 h4 h5 h6
        subst h1 h2 h5 h6
        refine ⟨rfl, rfl, ?_⟩
        cases cr' with
        | none => exact Or.inr ⟨rfl, rfl⟩
        | some t => exact Or.inl ⟨rfl, rfl⟩

theorem startsWith_iff (s p : Str) : St.startsWith s p = true ↔ ∃ rest, s = p ++ rest := by
  unfold St.startsWith
  simp only [beq_iff_eq]
  constructor
  · intro h; exact ⟨s.drop p.length, by
      have := (List.take_append_drop p.length s).symm
      rw [h] at this; exact this⟩
  · rintro ⟨rest, rfl⟩; simp

/-- `__init__` makes every prefix end with a slash -/
theorem mkRoute_pfx_slash (pfx dir : Str) (dl : Bool) (fb : Option Str) :
    (mkRoute pfx dir dl fb).pfx.getLast? = some '/' := by
  unfold mkRoute
  simp only
  split
  · rename_i h; simpa using h
  · simp

/-- **`match`**: a route without fallback matches exactly the paths that extend its prefix (which ends with `/`, so only
    whole segments); a route with a fallback file additionally matches the prefix without its trailing slash -/
theorem matches_iff (rt : Route) (path : Str) :
    «matches» rt path = true ↔
      (∃ rest, path = rt.pfx ++ rest) ∨ (rt.fallback.isSome = true ∧ path = rt.pfx.dropLast) := by
  unfold «matches»
  cases hfb : rt.fallback with
  | none => simp [startsWith_iff]
  | some f => simp [startsWith_iff]

/-- without a fallback nothing but an extension of the prefix matches -/
theorem matches_no_fallback (rt : Route) (path : Str) (h : rt.fallback = none) :
    «matches» rt path = true ↔ ∃ rest, path = rt.pfx ++ rest := by
  rw [matches_iff, h]; simp

/-- what `req.path[len(prefix):]` is for the two ways of matching -/
theorem suffix_of_prefix_match (rt : Route) (rest : Str) : (rt.pfx ++ rest).drop rt.pfx.length = rest := by simp

theorem suffix_of_bare_match (rt : Route) : rt.pfx.dropLast.drop rt.pfx.length = [] := by
  apply List.drop_eq_nil_of_le
  rw [List.length_dropLast]; exact Nat.sub_le _ _

/-- the first matching route answers, and no earlier one matched -/
theorem findRoute_spec (routes : List Route) (path : Str) (rt : Route) (h : findRoute routes path = some rt) :
    rt ∈ routes ∧ «matches» rt path = true := by
  unfold findRoute at h
  exact ⟨List.mem_of_find?_eq_some h, by simpa using List.find?_some h⟩

theorem findRoute_none (routes : List Route) (path : Str) :
    findRoute routes path = none ↔ ∀ rt ∈ routes, «matches» rt path = false := by
  unfold findRoute; simp

/-- **the only file ever opened besides `directory/normpath(suffix)` is the configured fallback**: `__call__` opens at most
    two paths; the first is the resolved request path, the second - only if a fallback is configured and only after
    opening the first failed - is the fallback file -/
theorem only_fallback_outside (rt : Route) (fs : Fs) (req : Req) :
    (call rt fs req).1 = [] ∨
    ∃ fp, St.serve rt.fallback.isSome rt.dir (req.path.drop rt.pfx.length) = some fp ∧
      ((call rt fs req).1 = [fp] ∨
       ∃ fbp, rt.fallback = some fbp ∧ fs fp = none ∧ (call rt fs req).1 = [fp, fbp]) := by
  unfold call
  split
  · left; rfl
  · simp only
    split
    · left; rfl
    · rename_i fp hserve
      right
      refine ⟨fp, hserve, ?_⟩
      split
      · left; rfl
      · rename_i hnone
        split
        · left; rfl
        · rename_i fbp hfb
          right
          refine ⟨fbp, hfb, hnone, ?_⟩
          split <;> rfl

/-- whatever is served (200 / 206) is the response computed from the file opened last -/
theorem served_from_last_open (rt : Route) (fs : Fs) (req : Req)
    (st : Nat) (lm : Int) (stream : Stream) (len : Nat) (cr : Option (Nat × Nat × Nat)) (d : Option Str)
    (h : (call rt fs req).2 = .served st lm stream len cr d) :
    ∃ p f, (call rt fs req).1.getLast? = some p ∧ fs p = some f ∧
      (call rt fs req).2 = respond rt.downloadable p f req.ims req.range := by
  unfold call at h ⊢
  split
  · rename_i ho; simp [ho] at h
  · rename_i ho
    simp only [ho, Bool.false_eq_true, if_false] at h
    simp only
    split
    · rename_i hs; simp [hs] at h
    · rename_i fp hserve
      simp only [hserve] at h
      split
      · rename_i f hf; exact ⟨fp, f, rfl, hf, rfl⟩
      · rename_i hnone
        simp only [hnone] at h
        split
        · rename_i hfb; simp [hfb] at h
        · rename_i fbp hfb
          simp only [hfb] at h
          split
          · rename_i hn2; simp [hn2] at h
          · rename_i f hf; exact ⟨fbp, f, rfl, hf, rfl⟩

/-- every path handed to `io.open` is the configured fallback or what `St.serve` resolved the request suffix to -/
theorem opened_cases (rt : Route) (fs : Fs) (req : Req) :
    ∀ p ∈ (call rt fs req).1, rt.fallback = some p ∨
      St.serve rt.fallback.isSome rt.dir (req.path.drop rt.pfx.length) = some p := by
  intro p hp
  rcases only_fallback_outside rt fs req with h | ⟨fp, hs, h | ⟨fbp, hfb, _, h⟩⟩
  · rw [h] at hp; cases hp
  · rw [h, List.mem_singleton] at hp
    rw [hp]; exact Or.inr hs
  · rw [h] at hp
    simp only [List.mem_cons, List.not_mem_nil, or_false] at hp
    rcases hp with rfl | rfl
    · exact Or.inr hs
    · exact Or.inl hfb

/-- **end to end**: every path `__call__` hands to `io.open` is the configured fallback or lies lexically inside the
    directory: its components are the directory's followed by real names only (or by the single `.`) -/
theorem call_contained (rt : Route) (fs : Fs) (req : Req) (hd : rt.dir ≠ []) :
    ∀ p ∈ (call rt fs req).1, rt.fallback = some p ∨
      ∃ d' n, (rt.dir = d' ∨ rt.dir = d' ++ ['/']) ∧ St.splitOn '/' p = St.splitOn '/' d' ++ St.splitOn '/' n ∧
        St.startsWith n ['/'] = false ∧ (n = ['.'] ∨ ∀ c ∈ St.splitOn '/' n, St.Clean c) := by
  intro p hp
  refine (opened_cases rt fs req p hp).imp_right fun hs => ?_
  obtain ⟨_, h2, h3, d', h4, h5⟩ := St.serve_lexically_inside _ _ _ p hd hs
  exact ⟨d', _, h4, h5, h2, h3⟩

/-- a request for the bare prefix (no trailing slash; matched only by routes with a fallback) can only open the directory
    itself (`dir/.`, which `io.open` refuses) and then the fallback file -/
theorem bare_prefix_opens (rt : Route) (fs : Fs) (req : Req) (hd : rt.dir ≠ [])
    (hpath : req.path = rt.pfx.dropLast) :
    ∀ p ∈ (call rt fs req).1, rt.fallback = some p ∨ p = rt.dir ++ ['/', '.'] ∨ p = rt.dir ++ ['.'] := by
  intro p hp
  refine (opened_cases rt fs req p hp).imp_right fun hs => ?_
  rw [hpath, suffix_of_bare_match rt] at hs
  rcases (St.serve_contained _ _ _ p hd hs).1 with h | ⟨_, h⟩
  · left; rw [h]; simp [show St.normpath [] = ['.'] from rfl]
  · right; exact h

/-- the hypotheses are satisfiable: a route with a fallback, a missing file, a present fallback -/
example :
    let rt : Route := mkRoute "/f".toList "/srv/pub".toList false (some "/srv/fb.html".toList)
    let fs : Fs := fun p => if p == "/srv/fb.html".toList then some ⟨[70, 66], 5⟩ else none
    «matches» rt "/f".toList = true ∧ «matches» rt "/fx".toList = false ∧
    call rt fs ⟨false, "/f/missing".toList, .absent, none⟩ =
      (["/srv/pub/missing".toList, "/srv/fb.html".toList], .served 200 5 (.raw ⟨[70, 66], 0⟩) 2 none none) := by
  decide +kernel

/-- `OPTIONS` touches no file -/
theorem options_opens_nothing (rt : Route) (fs : Fs) (req : Req) (h : req.isOptions = true) :
    call rt fs req = ([], .options) := by
  simp [call, h]

end Sr
