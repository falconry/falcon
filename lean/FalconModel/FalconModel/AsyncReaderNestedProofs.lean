import FalconModel.AsyncReaderNested
import FalconModel.AsyncReaderProofs
import FalconModel.MultipartAsyncReaderProofs
/-! C14, async reader: **the flat-cursor theorems transfer to nested delimited readers, at any depth.**

    Which route: `ARd` (the C14 root model) has a concrete source (a list of chunks), so it has no source class to
    instantiate. But `ARd` IS `Ma`'s generic transcription of falcon/asgi/reader.py at the concrete source `Ma.Raw`
    (AsyncReaderProofs.lean: `toMa_asyncStep`, `toMa_iterate`, `toMa_good`, `toMa_abs`, ...), and `Ma`'s theorems hold for EVERY
    lawful chunk source - in particular for `Ma.DelimGen σ`, the parent's `_iter_delimited(d)` generator
    (`instance : LawfulASource (DelimGen σ)`, `Ma.PInv_reach`, `Ma.ar_history_refines_cursor`, all in
    MultipartAsyncReaderProofs.lean). Here they are sharpened:

    * `VT` (frame, via `Ma.Adv`): once `_iter_normalized` has seen the end of its source, the source holds nothing more; with it
      `absA_held`: a reader's text = what it holds (unread buffer ++ `_iter_normalized`'s pending chunk) ++ its source's text.
    * `total_reach`: reading through a child never changes the parent's `tell() + len(text to come)`.
    * `NOp` histories (operations and abandoned `async for`): `n_history_refines_cursor`.
    * `delimited_source_lawful`, `async_nested_history_refines_cursor`: every history (incl. iteration) on `p.delimit(d)` is
      accepted by the flat cursor over the text of `p` up to the first `d`; the child's `tell()` is the cursor position; the
      parent is left in a good state at position `child cursor + bytes the child holds` - nothing lost, nothing duplicated,
      never past the delimiter, exactly at it when the child was drained - and its `tell()` moved by exactly that.
    * `async_nested_depth_refines`: the same for programs with `delimit` nested to ANY depth, by induction over `AProg`
      generalising the source type (the child's source `DelimGen σ` is again a lawful source, so the induction hypothesis applies
      to the child directly); `root_nested_history_refines_cursor`, `async_nested_depth_fresh`: for the C14 root model `ARd`. -/
namespace An
open Rd (Bytes slice sliceFrom sliceTo find occ stopAt)
open Ma
open Mf (contentOf)
open Ma.LawfulASource (data left valid)

section generic
variable {σ : Type} [ASource σ] [LawfulASource σ]

/-- the chunk source is in a valid state, and once `_iter_normalized` has seen its end it holds nothing more -/
def VT (r : AR σ) : Prop := valid r.src ∧ ((r.npc = .yielded2 ∨ r.npc = .finished) → data r.src = [])

theorem vt_ite {α : Type} (c : Prop) [Decidable c] (a b : α × AR σ) (ha : VT a.2) (hb : VT b.2) : VT (if c then a else b).2 := by
  split
  · exact ha
  · exact hb

theorem normLoop_vt : ∀ (fuel : Nat) (r : AR σ), valid r.src → r.npc = .running → VT (normLoop fuel r).2 := by
  intro fuel
  induction fuel with
  | zero =>
    intro r hv hn
    refine ⟨hv, fun h => ?_⟩
    have h' : r.npc = .yielded2 ∨ r.npc = .finished := h
    rw [hn] at h'; rcases h' with h' | h' <;> cases h'
  | succ f ih =>
    intro r hv hn
    simp only [normLoop]
    rcases hx : ASource.anext r.src with ⟨it, s⟩
    cases it with
    | raiseValue => exact absurd hx (LawfulASource.anext_noraise r.src s hv)
    | stop =>
      obtain ⟨_, e2, e3⟩ := LawfulASource.anext_stop r.src s hv hx
      simp only
      split
      · exact ⟨e3, fun _ => e2⟩
      · exact ⟨e3, fun _ => e2⟩
    | chunk item =>
      obtain ⟨_, _, e3⟩ := LawfulASource.anext_chunk r.src item s hv hx
      simp only
      split
      · exact ⟨e3, fun h => by rcases h with h | h <;> cases h⟩
      · exact ih { r with src := s, pending := r.pending ++ item } e3 hn

theorem nextNorm_vt (r : AR σ) (h : VT r) : VT (nextNorm r).2 := by
  unfold nextNorm
  cases hn : r.npc with
  | finished => exact h
  | yielded2 => exact ⟨h.1, fun _ => h.2 (Or.inl hn)⟩
  | yielded1 item => exact normLoop_vt _ { r with pending := item, npc := .running } h.1 rfl
  | running => exact normLoop_vt _ r h.1 hn

theorem vt_of_adv {r r' : AR σ} (h : Adv r r') (hv : VT r) : VT r' := by
  induction h with
  | refl => exact hv
  | frame e1 e2 _ ih => exact ih (by unfold VT at hv ⊢; rw [e1, e2]; exact hv)
  | next _ ih => exact ih (nextNorm_vt _ hv)

theorem gstep_vt (fuel : Nat) (pc : Pc) (r : AR σ) (h : VT r) : VT (gstep fuel pc r).2.2 := vt_of_adv (gstep_adv fuel pc r) h

theorem arStep_vt (r : AR σ) (op : AOp) (h : VT r) : VT (arStep r op).2 := vt_of_adv (arStep_adv r op) h

theorem arRun_vt (ops : List AOp) : ∀ (r : AR σ), VT r → VT (arRun r ops).2 := by
  intro r h
  exact vt_of_adv (arRun_adv ops r) h

/-- what `_iter_normalized` has taken from its source and not yet yielded -/
def heldN (r : AR σ) : Bytes :=
  match r.npc with
  | .running => r.pending
  | .yielded1 item => item
  | _ => []

/-- the bytes a reader has taken from its source and not yet handed out: unread buffer ++ what `_iter_normalized` holds -/
def held (r : AR σ) : Bytes := sliceFrom r.buf r.pos ++ heldN r

theorem absA_held (r : AR σ) (h : VT r) : absA r = held r ++ data r.src := by
  unfold absA held future heldN
  cases hn : r.npc with
  | running => simp only [List.append_assoc]
  | yielded1 item => simp only [List.append_assoc]
  | yielded2 => simp only [h.2 (Or.inl hn), List.append_nil]
  | finished => simp only [h.2 (Or.inr hn), List.append_nil]

/-- reading through a delimited child never changes the parent's `total` (= `tell()` + text still to come), and keeps `VT` -/
theorem total_reach (A0 : Bytes) (ch : Int) (d : Bytes) {s s' : DelimGen σ} (hr : Reach s s') (h : PInv A0 ch d s) :
    total s'.parent = total s.parent ∧ (VT s.parent → VT s'.parent) := by
  induction hr with
  | refl => exact ⟨rfl, id⟩
  | @step s s1 s2 it e hrest ih =>
    have hs := anext_spec h.1 e
    obtain ⟨i1, i2⟩ := ih (PInv_reach A0 ch d (.step e (.refl _)) h)
    have hp : (gstep (fuelOf s.parent) s.pc s.parent).2.2 = s1.parent := congrArg (fun x => x.2.parent) e
    have ht : total s1.parent = total s.parent := by
      cases it with
      | raiseValue => exact absurd hs id
      | stop => exact hs.2.2.2.1
      | chunk c => exact hs.2.2.2.2.2.1
    exact ⟨by rw [i1]; exact ht, fun hv => i2 (hp ▸ gstep_vt _ _ _ hv)⟩

theorem delimit_good_vt (p : AR σ) (d : Bytes) (hg : Good p) (hd : d ≠ []) (hdc : (d.length : Int) ≤ p.chunk) :
    Good (delimit p d) ∧ VT (delimit p d) ∧ absA (delimit p d) = contentOf d (absA p) ∧ total (delimit p d) = (contentOf d (absA p)).length ∧
    PInv (absA p) p.chunk d (delimit p d).src := by
  obtain ⟨g, hab, hp⟩ := Ma.delimit_good p d hg hd hdc
  refine ⟨g, ⟨⟨hg, hd, hdc⟩, fun h => by rcases h with h | h <;> simp [delimit] at h⟩, hab, ?_, hp⟩
  show (0 : Int) + (future (delimit p d)).length = _
  have : future (delimit p d) = absA (delimit p d) := by simp [absA, delimit, sliceFrom]
  rw [this, hab]; simp

/-- how a child in a good state relates to its parent -/
theorem child_parent (A0 : Bytes) (ch : Int) (d : Bytes) (c : AR (DelimGen σ)) (hvt : VT c) (hp : PInv A0 ch d c.src) :
    held c ++ absA c.src.parent = absA c ++ A0.drop (contentOf d A0).length := by
  obtain ⟨_, _, j, hj1, hj2⟩ := hp
  have hdata : data c.src = (absA c.src.parent).take (lim c.src.pc (absA c.src.parent)) := rfl
  have hC := contentOf_length d A0
  rw [absA_held c hvt, hdata, List.append_assoc]
  congr 1
  rw [hC, ← hj2]
  have : A0.drop (j + lim c.src.pc (absA c.src.parent)) = (absA c.src.parent).drop (lim c.src.pc (absA c.src.parent)) := by
    rw [hj1, List.drop_drop]
  rw [this, List.take_append_drop]

end generic

/-! ### histories with iteration, any lawful source -/

section generic2
variable {σ : Type} [ASource σ] [LawfulASource σ]

section frames
omit [LawfulASource σ]
theorem iterLoop_adv : ∀ (k : Nat) (pc : Pc) (r : AR σ) (acc : List Bytes), Adv r (iterLoop k pc r acc).2 := by
  intro k
  induction k with
  | zero => intro pc r acc; exact .refl _
  | succ k ih =>
    intro pc r acc
    simp only [iterLoop]
    have h := gstep_adv (fuelOf r) pc r
    rcases hx : gstep (fuelOf r) pc r with ⟨y, pc', r1⟩
    rw [hx] at h
    cases y with
    | chunk c => exact h.trans (ih _ _ _)
    | stop => exact h
    | raiseValue => exact h

theorem nStep_adv (r : AR σ) (op : NOp) : Adv r (nStep r op).2 := by
  cases op with
  | op a => exact arStep_adv r a
  | iter k => exact iterLoop_adv _ _ _ _

theorem nRun_adv (ops : List NOp) : ∀ (r : AR σ), Adv r (nRun r ops).2 := by
  induction ops with
  | nil => intro r; exact .refl _
  | cons op rest ih => intro r; exact (nStep_adv r op).trans (ih _)

theorem nStep_reach (r : AR σ) (op : NOp) : Reach r.src (nStep r op).2.src := (nStep_adv r op).reach

theorem nRun_reach (ops : List NOp) (r : AR σ) : Reach r.src (nRun r ops).2.src := (nRun_adv ops r).reach
end frames

theorem nStep_vt (r : AR σ) (op : NOp) (h : VT r) : VT (nStep r op).2 := vt_of_adv (nStep_adv r op) h

theorem nRun_vt (ops : List NOp) (r : AR σ) (h : VT r) : VT (nRun r ops).2 := vt_of_adv (nRun_adv ops r) h

/-- the flat cursor over `A` accepts observation `o` for `op` and moves to `A'` -/
def NAccepts (chunk : Int) (A : Bytes) : NOp → NObs → Bytes → Prop
  | .op a, .obs o, A' => o.toObs = (Rd.cursorStep chunk A a.toP).1 ∧ A' = (Rd.cursorStep chunk A a.toP).2
  | .iter k, .chunks cs, A' => cs.flatten = A.take cs.flatten.length ∧ A' = A.drop cs.flatten.length ∧ cs.length ≤ k ∧
      (cs.length = k ∨ A' = [])
  | _, _, _ => False

def NAcceptsRun (chunk : Int) : Bytes → List NOp → List NObs → Bytes → Prop
  | A, [], [], A' => A' = A
  | A, op :: ops, o :: os, A' => ∃ A1, NAccepts chunk A op o A1 ∧ NAcceptsRun chunk A1 ops os A'
  | _, _, _, _ => False

def NOp.ok (chunk : Int) : NOp → Prop
  | .op a => a.okA chunk
  | .iter _ => True

theorem nStep_refines (r : AR σ) (op : NOp) (hg : Good r) (hok : op.ok r.chunk) :
    NAccepts r.chunk (absA r) op (nStep r op).1 (absA (nStep r op).2) ∧ Good (nStep r op).2 ∧
    (nStep r op).2.chunk = r.chunk ∧ total (nStep r op).2 = total r := by
  cases op with
  | op a =>
    obtain ⟨s1, s2, s3, s4, s5⟩ := arStep_refines r a hg hok
    exact ⟨⟨s1, s2⟩, s3, s4, s5⟩
  | iter k =>
    obtain ⟨cs, e1, e2, e3, e4, e5, e6, e7, e8⟩ := iterate_refines r k hg
    have hx : (nStep r (.iter k)).1 = .chunks cs := by simp only [nStep, e1]
    have hy : (nStep r (.iter k)).2 = (iterate r k).2 := rfl
    rw [hx, hy]
    exact ⟨⟨e2, e3, e4, e5⟩, e6, e8, e7⟩

/-- every history of operations (incl. abandoned iteration) on a reader over ANY lawful chunk source refines the flat cursor -/
theorem n_history_refines_cursor (ops : List NOp) : ∀ (r : AR σ), Good r → (∀ op ∈ ops, op.ok r.chunk) →
    NAcceptsRun r.chunk (absA r) ops (nRun r ops).1 (absA (nRun r ops).2) ∧ Good (nRun r ops).2 ∧
    (nRun r ops).2.chunk = r.chunk ∧ total (nRun r ops).2 = total r := by
  induction ops with
  | nil => intro r hg _; exact ⟨rfl, hg, rfl, rfl⟩
  | cons op rest ih =>
    intro r hg hok
    obtain ⟨h1, h3, h4, h5⟩ := nStep_refines r op hg (hok op (by simp))
    obtain ⟨t1, t2, t3, t4⟩ := ih (nStep r op).2 h3 (fun op' h' => by rw [h4]; exact hok op' (by simp [h']))
    rw [h4] at t1
    exact ⟨⟨_, h1, t1⟩, t2, t3.trans h4, t4.trans h5⟩

end generic2

theorem parent_src_reach {σ : Type} [ASource σ] {s s' : DelimGen σ} (hr : Reach s s') : Reach s.parent.src s'.parent.src := by
  induction hr with
  | refl => exact .refl _
  | @step s s1 s2 it e _ ih =>
    have hp : (gstep (fuelOf s.parent) s.pc s.parent).2.2 = s1.parent := congrArg (fun x => x.2.parent) e
    exact (hp ▸ gstep_reach (fuelOf s.parent) s.pc s.parent).trans ih

variable {σ : Type} [ASource σ] [LawfulASource σ]

/-- **C14, one level of nesting (async) - `async_nested_history_refines_cursor`.** Parent `p` in a good state over ANY lawful chunk
    source, delimiter `d` with `1 ≤ |d| ≤ chunk size`, ANY history `ops` of read / readall / peek / read_until / pipe_until / pipe /
    exhaust / iteration (complete, or abandoned after `k` chunks) on the child `p.delimit(d)`; `C` = the parent's text before the
    first `d`; `c'`/`p'` = child and parent afterwards:
    1. every observation is accepted by the flat cursor over `C` in turn, ending at `absA c'` (the child's remaining text);
    2. the child is in a good state, `c'.tell() = |C| - |absA c'|` (its cursor position), `eof` only at the end;
    3. (bytes the child holds) ++ parent text = child's rest ++ (the parent's original text from the delimiter on);
    4. child drained ⇒ the parent is exactly AT the delimiter;
    5. the parent is at `j = child cursor + |held| ≤ |C|` - never past the delimiter - and `p'.tell() = p.tell() + j`;
    6. the parent is in a good state again, same chunk size (and keeps `VT`). -/
theorem async_nested_history_refines_cursor (p : AR σ) (d : Bytes) (ops : List NOp) (hg : Good p) (hd : d ≠ [])
    (hdc : (d.length : Int) ≤ p.chunk) (hok : ∀ op ∈ ops, op.ok p.chunk) :
    let c' := (nRun (delimit p d) ops).2
    let p' := c'.src.parent
    let C := contentOf d (absA p)
    NAcceptsRun p.chunk C ops (nRun (delimit p d) ops).1 (absA c') ∧
    Good c' ∧ tell c' = (C.length : Int) - (absA c').length ∧ (eof c' = true → absA c' = []) ∧
    held c' ++ absA p' = absA c' ++ (absA p).drop C.length ∧
    (absA c' = [] → absA p' = (absA p).drop C.length) ∧
    (∃ j, j ≤ C.length ∧ j + (absA c').length = C.length + (held c').length ∧ absA p' = (absA p).drop j ∧ tell p' = tell p + j) ∧
    Good p' ∧ p'.chunk = p.chunk ∧ (VT p → VT p') := by
  intro c' p' C
  obtain ⟨g1, g2, g3, g4, g5⟩ := delimit_good_vt p d hg hd hdc
  obtain ⟨t1, t3, t4, t5⟩ := n_history_refines_cursor ops (delimit p d) g1 (fun op h => hok op h)
  have hch : (delimit p d).chunk = p.chunk := rfl
  rw [g3, hch] at t1
  have hr := nRun_reach ops (delimit p d)
  have hvt := nRun_vt ops (delimit p d) g2
  have hp := PInv_reach (absA p) p.chunk d hr g5
  obtain ⟨u1, u2⟩ := total_reach (absA p) p.chunk d hr g5
  have hcp := child_parent (absA p) p.chunk d c' hvt hp
  obtain ⟨q1, q2, j, q3, q4⟩ := hp
  have hCU : C.length = U d (absA p) := contentOf_length d (absA p)
  have hU := U_le d (absA p)
  refine ⟨t1, t3, ?_, eof_rest c' t3, hcp, ?_, ⟨j, by omega, ?_, q3, ?_⟩, q1.1, q2, u2⟩
  · rw [tell_eq c' t3, t5, g4]
  · intro h0
    rw [h0] at hcp
    have hh : held c' = [] := by
      have := absA_held c' hvt
      rw [h0] at this
      exact (List.append_eq_nil_iff.mp this.symm).1
    rw [hh] at hcp
    simpa using hcp
  · have q3' : absA p' = (absA p).drop j := q3
    have hl : (held c').length + ((absA p).length - j) = (absA c').length + ((absA p).length - C.length) := by
      have := congrArg List.length hcp
      rw [List.length_append, List.length_append, q3', List.length_drop, List.length_drop] at this
      exact this
    omega
  · have e1 := tell_eq p' q1.1
    have e2 := tell_eq p hg
    have hl : (absA p').length = (absA p).length - j := by
      show (absA c'.src.parent).length = _
      rw [q3, List.length_drop]
    have u1' : total p' = total p := u1
    omega

def AProg.ok (chunk : Int) : AProg → Prop
  | .done => True
  | .op o k => o.ok chunk ∧ k.ok chunk
  | .nest d inner k => (d ≠ [] ∧ (d.length : Int) ≤ chunk) ∧ inner.ok chunk ∧ k.ok chunk

/-- the specification of a program over nested readers: every reader is a flat cursor; a delimited child is a cursor over the
    text up to the first occurrence of its delimiter; when the child is dropped the parent resumes at `T`, somewhere between
    what the child had consumed and the delimiter (`held` = what the child had taken from the parent without handing it out),
    exactly at the delimiter when the child was drained (`C' = []` forces `held = []`) -/
inductive AProgSpec (chunk : Int) : AProg → Bytes → List NObs → Bytes → Prop
  | done (A : Bytes) : AProgSpec chunk .done A [] A
  | op (o : NOp) (k : AProg) (A : Bytes) (obs : NObs) (A1 : Bytes) (os : List NObs) (A' : Bytes) :
      NAccepts chunk A o obs A1 → AProgSpec chunk k A1 os A' → AProgSpec chunk (.op o k) A (obs :: os) A'
  | nest (d : Bytes) (inner k : AProg) (A : Bytes) (os1 : List NObs) (C' held T : Bytes) (os2 : List NObs) (A' : Bytes) :
      AProgSpec chunk inner (contentOf d A) os1 C' →
      held ++ T = C' ++ A.drop (contentOf d A).length → held.length ≤ C'.length →
      AProgSpec chunk k T os2 A' → AProgSpec chunk (.nest d inner k) A (os1 ++ os2) A'

/-- **C14 for nested async readers of any depth - `async_nested_depth_refines`.** For every program (operations, iterations,
    `delimit(d){ sub-program }` blocks nested arbitrarily deep) and every reader in a good state over ANY lawful chunk source:
    `runAProg` satisfies `AProgSpec` from `absA r` to `absA` of the final reader; the invariant, the chunk size and
    `tell() + len(rest)` are preserved; the source is only advanced by `__anext__` (`Reach`); `VT` is kept. Induction over the
    program with the source type generalised: the child's source `DelimGen σ` is a lawful source (`Ma`'s instance), so the
    induction hypothesis applies to the child as it is; `PInv_reach` / `total_reach` / `child_parent` give the parent's state. -/
theorem async_nested_depth_refines (prog : AProg) : ∀ {σ : Type} [ASource σ] [LawfulASource σ] (r : AR σ), Good r →
    prog.ok r.chunk →
    AProgSpec r.chunk prog (absA r) (runAProg prog r).1 (absA (runAProg prog r).2) ∧ Good (runAProg prog r).2 ∧
    (runAProg prog r).2.chunk = r.chunk ∧ total (runAProg prog r).2 = total r ∧
    Reach r.src (runAProg prog r).2.src ∧ (VT r → VT (runAProg prog r).2) := by
  induction prog with
  | done => intro σ _ _ r hg _; exact ⟨.done _, hg, rfl, rfl, .refl _, id⟩
  | op o k ih =>
    intro σ _ _ r hg hok
    obtain ⟨s1, s3, s4, s5⟩ := nStep_refines r o hg hok.1
    obtain ⟨t1, t2, t3, t4, t5, t6⟩ := ih (nStep r o).2 s3 (by rw [s4]; exact hok.2)
    rw [s4] at t1
    simp only [runAProg]
    exact ⟨.op o k (absA r) _ _ _ _ s1 t1, t2, t3.trans s4, t4.trans s5, (nStep_reach r o).trans t5, fun h => t6 (nStep_vt r o h)⟩
  | nest d inner k ih1 ih2 =>
    intro σ _ _ r hg hok
    obtain ⟨⟨hd, hdc⟩, hok1, hok2⟩ := hok
    obtain ⟨g1, g2, g3, g4, g5⟩ := delimit_good_vt r d hg hd hdc
    have hch : (delimit r d).chunk = r.chunk := rfl
    obtain ⟨t1, t2, t3, t4, t5, t6⟩ := ih1 (delimit r d) g1 (by rw [hch]; exact hok1)
    rw [g3, hch] at t1
    have hvt := t6 g2
    have hp := PInv_reach (absA r) r.chunk d t5 g5
    obtain ⟨u1, u2⟩ := total_reach (absA r) r.chunk d t5 g5
    have hcp := child_parent (absA r) r.chunk d (runAProg inner (delimit r d)).2 hvt hp
    have hheld := absA_held (runAProg inner (delimit r d)).2 hvt
    obtain ⟨q1, q2, j, q3, q4⟩ := hp
    obtain ⟨v1, v2, v3, v4, v5, v6⟩ := ih2 (runAProg inner (delimit r d)).2.src.parent q1.1 (by rw [q2]; exact hok2)
    rw [q2] at v1
    simp only [runAProg]
    refine ⟨.nest d inner k (absA r) _ _ (held (runAProg inner (delimit r d)).2) _ _ _ t1 hcp ?_ v1, v2, v3.trans q2,
      v4.trans u1, (parent_src_reach t5).trans v5, fun h => v6 (u2 h)⟩
    rw [hheld, List.length_append]; omega

/-- the generator `parent._iter_delimited(d)` handed to the child reader is a lawful chunk source: it is `Ma`'s instance
    `LawfulASource (DelimGen σ)` (data = the parent's text up to the first `d`, valid = the generator invariant), and a freshly
    delimited child starts in a good state over exactly that text -/
theorem delimited_source_lawful {σ : Type} [ASource σ] [LawfulASource σ] (p : AR σ) (d : Bytes) (hg : Good p) (hd : d ≠ [])
    (hdc : (d.length : Int) ≤ p.chunk) :
    valid (delimit p d).src ∧ data (delimit p d).src = contentOf d (absA p) ∧ Good (delimit p d) ∧ VT (delimit p d) ∧
    absA (delimit p d) = contentOf d (absA p) ∧ tell (delimit p d) = 0 := by
  obtain ⟨g1, g2, g3, g4, g5⟩ := delimit_good_vt p d hg hd hdc
  exact ⟨g2.1, rfl, g1, g2, g3, rfl⟩

/-- **the C14 root model, one level of nesting**: a reader state of `ARd` (the model `ardriver` runs at level 0) satisfying its
    invariant, `delimit(d)` on it, any history on the child, and back to `ARd` -/
theorem root_nested_history_refines_cursor (r : ARd.AR) (d : Bytes) (ops : List NOp) (hg : ARd.Good r) (hd : d ≠ [])
    (hdc : (d.length : Int) ≤ r.chunk) (hok : ∀ op ∈ ops, op.ok r.chunk) :
    let c' := (nRun (delimit (toMa r) d) ops).2
    let r' := ofMa c'.src.parent
    let C := contentOf d (ARd.abs r)
    NAcceptsRun r.chunk C ops (nRun (delimit (toMa r) d) ops).1 (absA c') ∧
    tell c' = (C.length : Int) - (absA c').length ∧ (eof c' = true → absA c' = []) ∧
    held c' ++ ARd.abs r' = absA c' ++ (ARd.abs r).drop C.length ∧
    (absA c' = [] → ARd.abs r' = (ARd.abs r).drop C.length) ∧
    (∃ j, j ≤ C.length ∧ j + (absA c').length = C.length + (held c').length ∧ ARd.abs r' = (ARd.abs r).drop j ∧
      ARd.tell r' = ARd.tell r + j) ∧
    ARd.Good r' ∧ r'.chunk = r.chunk := by
  intro c' r' C
  have h := async_nested_history_refines_cursor (toMa r) d ops ((toMa_good r).mpr hg) hd hdc hok
  simp only [toMa_abs] at h
  obtain ⟨h1, h2, h3, h4, h5, h6, ⟨j, j1, j2, j3, j4⟩, h8, h9, _⟩ := h
  have hr' : toMa r' = c'.src.parent := toMa_ofMa _
  have ha : ARd.abs r' = absA c'.src.parent := by rw [← toMa_abs, hr']
  have ht : ARd.tell r' = tell c'.src.parent := by rw [← toMa_tell, hr']
  refine ⟨h1, h3, h4, by rw [ha]; exact h5, by rw [ha]; exact h6, ⟨j, j1, j2, by rw [ha]; exact j3, ?_⟩, ?_, h9⟩
  · rw [ht, j4, toMa_tell]
  · exact (toMa_good r').mp (by rw [hr']; exact h8)

/-- **from construction, any depth**: `BufferedReader(source, chunk_size)` over any list of source chunks, any program of
    operations, iterations and nested `delimit`s -/
theorem async_nested_depth_fresh (prog : AProg) (chunk : Int) (parts : List Bytes) (hc : 0 < chunk) (hok : prog.ok chunk) :
    let r0 : ARd.AR := { chunk := chunk, src := parts }
    let run := runAProg prog (toMa r0)
    AProgSpec chunk prog parts.flatten run.1 (absA run.2) ∧ Good run.2 ∧
    tell run.2 = (parts.flatten.length : Int) - (absA run.2).length := by
  intro r0 run
  obtain ⟨f1, f2, f3⟩ := ARd.fresh_async chunk parts hc
  have hg : Good (toMa r0) := (toMa_good r0).mpr f1
  obtain ⟨t1, t2, t3, t4, _, _⟩ := async_nested_depth_refines prog (toMa r0) hg hok
  have ha : absA (toMa r0) = parts.flatten := by rw [toMa_abs]; exact f2
  have hch : (toMa r0).chunk = chunk := rfl
  rw [ha, hch] at t1
  refine ⟨t1, t2, ?_⟩
  have e1 := tell_eq (runAProg prog (toMa r0)).2 t2
  have e0 := tell_eq (toMa r0) hg
  have f3' : tell (toMa r0) = 0 := by rw [toMa_tell]; exact f3
  rw [ha] at e0
  show tell (runAProg prog (toMa r0)).2 = _ - ((absA (runAProg prog (toMa r0)).2).length : Int)
  omega

/-- "ab--cd\nef--gh" in source chunks `a` `b-` `` `-cd\ne` `f--gh`; chunk size 3 -/
def exRoot : ARd.AR := { chunk := 3, src := [[97], [98,45], [], [45,99,100,10,101], [102,45,45,103,104]] }

/-- read(1); child("--"){peek(1); iterate 1 chunk}; read_until("--", consume); child("--"){ grandchild("\n"){read(1)}; peek(5) }; pipe() -/
def exProg : AProg :=
  .op (.op (.read (some 1))) (.nest [45,45] (.op (.op (.peek 1)) (.op (.iter 1) .done))
    (.op (.op (.readUntil [45,45] none true)) (.nest [45,45] (.nest [10] (.op (.op (.read (some 1))) .done) (.op (.op (.peek 5)) .done)) (.op (.op .pipe) .done))))

example : (0 : Int) < exRoot.chunk ∧ exProg.ok exRoot.chunk := by
  refine ⟨by decide, trivial, ⟨by simp, by decide⟩, ⟨trivial, trivial, trivial⟩, ⟨by simp, by decide⟩, ⟨by simp, by decide⟩,
    ⟨⟨by simp, by decide⟩, ⟨trivial, trivial⟩, trivial, trivial⟩, trivial, trivial⟩

example : (runAProg exProg (toMa exRoot)).1 = [.obs (.bytes [97]), .obs (.bytes [98]), .chunks [[98]], .obs (.bytes []),
    .obs (.bytes [99]), .obs (.bytes [10, 101, 102]), .obs (.bytes [45, 45, 103, 104])] ∧
    tell (runAProg exProg (toMa exRoot)).2 = 13 := ⟨by rfl, by rfl⟩

end An
