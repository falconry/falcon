import FalconModel.ErrHandle
/-! C04: `_handle_exception` discards the body set so far, renders what the handler raises, and with the default
    registrations never lets an Exception-derived error escape. -/
namespace Eh

/-- **body reset**: whatever text / data / media were set before the raise, the outcome is the same -/
theorem body_reset_before_handler (reg : Reg) (beh : Handler → Beh) (mro : List Cls) (st : Nat) (r : Resp)
    (t d m : Option Nat) :
    handle reg beh mro st { r with text := t, data := d, media := m } = handle reg beh mro st r := by
  simp [handle, reset]

/-- a handler that sets no body leaves an empty body -/
theorem handler_runs_on_clean_body (reg : Reg) (beh : Handler → Beh) (mro : List Cls) (st : Nat) (r : Resp)
    (h : Handler) (s : Option Nat) (hf : find reg mro = some h) (hb : beh h = .sets s none none none) :
    ∃ r', handle reg beh mro st r = some r' ∧ r'.text = none ∧ r'.data = none ∧ r'.media = none ∧ body r' = none := by
  simp [handle, hf, hb, reset, body]

/-- an HTTPError raised by the handler is rendered in turn: its status, its serialized body -/
theorem handler_raised_http_rendered (reg : Reg) (beh : Handler → Beh) (mro : List Cls) (st : Nat) (r : Resp)
    (h : Handler) (s : Nat) (hf : find reg mro = some h) (hb : beh h = .raisesHttp s) :
    ∃ r', handle reg beh mro st r = some r' ∧ r'.status = s ∧ body r' = some errBody := by
  simp [handle, hf, hb, reset, composeError, body]

/-- an HTTPStatus raised by the handler is rendered in turn: its status, its text -/
theorem handler_raised_status_rendered (reg : Reg) (beh : Handler → Beh) (mro : List Cls) (st : Nat) (r : Resp)
    (h : Handler) (s : Nat) (hf : find reg mro = some h) (hb : beh h = .raisesStatus s) :
    ∃ r', handle reg beh mro st r = some r' ∧ r'.status = s ∧ body r' = some statusText := by
  simp [handle, hf, hb, reset, composeStatus, body]

/-- the exception reaches the server iff no class of the MRO is registered, or the chosen handler raises
    something other than HTTPError / HTTPStatus -/
theorem escape_iff (reg : Reg) (beh : Handler → Beh) (mro : List Cls) (st : Nat) (r : Resp) :
    handle reg beh mro st r = none ↔
      find reg mro = none ∨ ∃ h, find reg mro = some h ∧ beh h = .raisesOther := by
  unfold handle
  cases hf : find reg mro with
  | none => simp
  | some h =>
    cases hb : beh h <;> simp [hb]

theorem lookup_append (a b : Reg) (c : Cls) :
    lookup (a ++ b) c = match lookup b c with
      | some h => some h
      | none => lookup a c := by
  induction a with
  | nil => cases h : lookup b c <;> simp [lookup, h]
  | cons x xs ih =>
    obtain ⟨cx, hx⟩ := x
    simp only [List.cons_append, lookup, ih]
    cases h : lookup b c <;> simp

theorem lookup_none_of_not_registered (reg : Reg) (c : Cls) (h : ∀ p ∈ reg, p.1 ≠ c) : lookup reg c = none := by
  induction reg with
  | nil => rfl
  | cons x xs ih =>
    obtain ⟨cx, hx⟩ := x
    have h1 : cx ≠ c := h (cx, hx) (by simp)
    have h2 := ih (fun p hp => h p (List.mem_cons_of_mem _ hp))
    simp [lookup, h2, h1]

/-- if `c0` is the only registered class of the MRO, its handler is found -/
theorem find_of_only (reg : Reg) (c0 : Cls) (h : Handler) (hl : lookup reg c0 = some h) (mro : List Cls) (hm : c0 ∈ mro)
    (ho : ∀ c ∈ mro, c ≠ c0 → lookup reg c = none) : find reg mro = some h := by
  obtain ⟨pre, post, rfl, hn⟩ := List.eq_append_cons_of_mem hm
  exact (find_most_specific reg _ h).mpr
    ⟨pre, c0, post, rfl, hl, fun c hc => ho c (List.mem_append_left _ hc) (fun e => hn (e ▸ hc))⟩

/-- **default 500, never escapes**: the registry is the three default registrations followed by any later ones; the
    raised class is Exception-derived but neither HTTPError- nor HTTPStatus-derived, and no later registration concerns a
    class of its MRO.  Then the exception is handled and the response is a 500 carrying the serialized error. -/
theorem default_exception_is_500_and_never_escapes
    (cExc cHttp cStatus : Cls) (dExc dHttp dStatus : Handler) (later : Reg) (beh : Handler → Beh)
    (mro : List Cls) (st : Nat) (r : Resp)
    (hbeh : beh dExc = .defaultException)
    (hE : cExc ∈ mro) (hH : cHttp ∉ mro) (hS : cStatus ∉ mro)
    (hlater : ∀ c ∈ mro, ∀ p ∈ later, p.1 ≠ c) :
    ∃ r', handle (defaults cExc cHttp cStatus dExc dHttp dStatus ++ later) beh mro st r = some r' ∧
      r'.status = 500 ∧ body r' = some errBody := by
  have hne1 : cHttp ≠ cExc := fun e => hH (e ▸ hE)
  have hne2 : cStatus ≠ cExc := fun e => hS (e ▸ hE)
  have hl0 : lookup (defaults cExc cHttp cStatus dExc dHttp dStatus ++ later) cExc = some dExc := by
    rw [lookup_append, lookup_none_of_not_registered later cExc (hlater cExc hE)]
    simp [defaults, lookup, hne1, hne2]
  have hf : find (defaults cExc cHttp cStatus dExc dHttp dStatus ++ later) mro = some dExc := by
    apply find_of_only _ cExc dExc hl0 mro hE
    intro c hc hne
    rw [lookup_append, lookup_none_of_not_registered later c (hlater c hc)]
    have h1 : cHttp ≠ c := fun e => hH (e ▸ hc)
    have h2 : cStatus ≠ c := fun e => hS (e ▸ hc)
    have h3 : cExc ≠ c := fun e => hne e.symm
    simp [defaults, lookup, h1, h2, h3]
  simp [handle, hf, hbeh, reset, composeError, body]

/-- **default HTTPError rendering**: HTTPError is the nearest registered class of the MRO (nothing before it is
    registered, no later registration for it).  Then the response carries the error's own status and serialized body. -/
theorem default_httperror_keeps_status
    (cExc cHttp cStatus : Cls) (dExc dHttp dStatus : Handler) (later : Reg) (beh : Handler → Beh)
    (pre post : List Cls) (st : Nat) (r : Resp)
    (hbeh : beh dHttp = .defaultHttp)
    (hne : cStatus ≠ cHttp)
    (hpre : ∀ c ∈ pre, c ≠ cExc ∧ c ≠ cHttp ∧ c ≠ cStatus)
    (hlater : ∀ c ∈ pre ++ [cHttp], ∀ p ∈ later, p.1 ≠ c) :
    ∃ r', handle (defaults cExc cHttp cStatus dExc dHttp dStatus ++ later) beh (pre ++ cHttp :: post) st r = some r' ∧
      r'.status = st ∧ body r' = some errBody := by
  have hf : find (defaults cExc cHttp cStatus dExc dHttp dStatus ++ later) (pre ++ cHttp :: post) = some dHttp := by
    rw [find_most_specific]
    refine ⟨pre, cHttp, post, rfl, ?_, ?_⟩
    · rw [lookup_append, lookup_none_of_not_registered later cHttp (hlater cHttp (by simp))]
      simp [defaults, lookup, hne]
    · intro c hc
      obtain ⟨h1, h2, h3⟩ := hpre c hc
      rw [lookup_append, lookup_none_of_not_registered later c (hlater c (by simp [hc]))]
      simp [defaults, lookup, Ne.symm h1, Ne.symm h2, Ne.symm h3]
  simp [handle, hf, hbeh, reset, composeError, body]

end Eh

/-! ### what a handler assigned before raising is discarded (fix 07d5278) -/
namespace Eh

/-- An HTTPError raised by the handler is rendered exactly as if the handler had assigned nothing first. -/
theorem draft_then_http_eq_http (reg : Reg) (beh : Handler → Beh) (mro : List Cls) (rs : Nat) (r : Resp)
    (h : Handler) (t d m : Option Nat) (s : Nat) (hf : find reg mro = some h) (hb : beh h = .draftRaisesHttp t d m s) :
    handle reg beh mro rs r = some (composeError (reset r) s) := by
  simp [handle, hf, hb, reset, composeError]

theorem draft_then_status_eq_status (reg : Reg) (beh : Handler → Beh) (mro : List Cls) (rs : Nat) (r : Resp)
    (h : Handler) (t d m : Option Nat) (s : Nat) (hf : find reg mro = some h) (hb : beh h = .draftRaisesStatus t d m s) :
    handle reg beh mro rs r = some (composeStatus (reset r) s) := by
  simp [handle, hf, hb, reset, composeStatus]

/-- The body sent for a handler-raised HTTPError is the serialized error, whatever the handler (or anything before it) had assigned. -/
theorem draft_http_body_is_error (reg : Reg) (beh : Handler → Beh) (mro : List Cls) (rs : Nat) (r : Resp)
    (h : Handler) (t d m : Option Nat) (s : Nat) (hf : find reg mro = some h) (hb : beh h = .draftRaisesHttp t d m s) :
    (handle reg beh mro rs r).map body = some (some errBody) := by
  simp [handle, hf, hb, reset, composeError, body]

theorem draft_status_body_is_status_text (reg : Reg) (beh : Handler → Beh) (mro : List Cls) (rs : Nat) (r : Resp)
    (h : Handler) (t d m : Option Nat) (s : Nat) (hf : find reg mro = some h) (hb : beh h = .draftRaisesStatus t d m s) :
    (handle reg beh mro rs r).map body = some (some statusText) := by
  simp [handle, hf, hb, reset, composeStatus, body]

/-- regression witness: on the pinned code the handler's draft text (token 1) was sent as the body of the error response -/
theorem draft_leaks_pinned_witness :
    (handlePinned [(1, 7)] (fun _ => .draftRaisesHttp (some 1) none none 410) [1] 0 ⟨200, none, none, none⟩).map body = some (some 1)
    ∧ (handle [(1, 7)] (fun _ => .draftRaisesHttp (some 1) none none 410) [1] 0 ⟨200, none, none, none⟩).map body = some (some errBody) := by
  decide +kernel

end Eh
