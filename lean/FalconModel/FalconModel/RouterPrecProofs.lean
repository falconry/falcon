import FalconModel.RouterProofs
/-! C01: the four precedence clauses of the statement, as corollaries of the depth-first walk `Rt.findSpec` (which
    `compile_correct` proves the generated finder equal to): literal before multi-field before single-field children;
    backtracking with the params of the abandoned branch discarded; a converter may veto; a trailing path converter
    swallows the rest of the path.  Each clause comes with a concrete tree, evaluated by the kernel through `walk`. -/
namespace Rt

theorem findSpec_nil (fuel : Nat) (t : Tables) (path : List String) (level : Nat) (ps : Dict) (c : Ctr) :
    findSpec fuel t [] path level ps c = none := by
  cases fuel with
  | zero => rw [findSpec]
  | succ f =>
    rw [findSpec]
    split
    · simp [sortNodes, findNodes_nil]
    · rfl

theorem findSpec_succ (fuel : Nat) (t : Tables) (ns : List Node) (path : List String) (level : Nat) (ps : Dict) (c : Ctr)
    (h : level < path.length) :
    findSpec (fuel + 1) t ns path level ps c = findNodes fuel t (sortNodes ns) path level ps c := by
  rw [findSpec]
  simp [h]

theorem findNodes_first (fuel : Nat) (t : Tables) (path : List String) (level : Nat) (ps : Dict)
    (pre : List Node) (n : Node) (post : List Node) (c : Ctr) (r : Nat × Dict)
    (hpre : SkipAll fuel t path level ps pre c)
    (hn : hereOf fuel t n path level ps (c.add (cntL pre)) = some r) :
    findNodes fuel t (pre ++ n :: post) path level ps c = some r := by
  rw [findNodes_skip fuel t path level ps pre _ c hpre, findNodes_cons, hn]

theorem filter_key_of_mem {ns l1 l2 : List Node} {n : Node} {k : Nat} (h : ns.filter (sortKey · == k) = l1 ++ n :: l2) :
    ∀ m ∈ l1, sortKey m = k := by
  intro m hm
  have : m ∈ ns.filter (sortKey · == k) := by rw [h]; simp [hm]
  simpa using (List.mem_filter.mp this).2

/-- **literal before fields**: if, among the literal children (in insertion order), the ones before `n` differ from the
    segment and the walk through `n` succeeds with `r`, the lookup returns `r` — multi-field and single-field siblings
    are never consulted, whatever they would match -/
theorem precedence_literal_first (fuel : Nat) (t : Tables) (ns : List Node) (path : List String) (level : Nat) (ps : Dict)
    (c : Ctr) (l1 l2 : List Node) (n : Node) (r : Nat × Dict) (hlen : level < path.length)
    (hsplit : ns.filter (sortKey · == 0) = l1 ++ n :: l2)
    (hl1 : ∀ m ∈ l1, m.raw ≠ path[level]?.getD "")
    (hn : hereOf fuel t n path level ps (c.add (cntL l1)) = some r) :
    findSpec (fuel + 1) t ns path level ps c = some r := by
  rw [findSpec_succ _ _ _ _ _ _ _ hlen]
  unfold sortNodes
  rw [hsplit, List.append_assoc, List.append_assoc]
  exact findNodes_first fuel t path level ps l1 n _ c r
    (skipAll_lits fuel t path level ps l1 c (fun m hm => ⟨filter_key_of_mem hsplit m hm, hl1 m hm⟩)) hn

/-- **multi-field before single-field**: if no literal child equals the segment, the multi-field children before `n`
    fail and the walk through the multi-field child `n` succeeds with `r`, the lookup returns `r` — the single-field
    sibling is never consulted, although it accepts every segment -/
theorem precedence_complex_before_simple (fuel : Nat) (t : Tables) (ns : List Node) (path : List String) (level : Nat)
    (ps : Dict) (c : Ctr) (c1 c2 : List Node) (n : Node) (r : Nat × Dict) (hlen : level < path.length)
    (hlits : ∀ m ∈ ns.filter (sortKey · == 0), m.raw ≠ path[level]?.getD "")
    (hsplit : ns.filter (sortKey · == 1) = c1 ++ n :: c2)
    (hc1 : SkipAll fuel t path level ps c1 (c.add (cntL (ns.filter (sortKey · == 0)))))
    (hn : hereOf fuel t n path level ps ((c.add (cntL (ns.filter (sortKey · == 0)))).add (cntL c1)) = some r) :
    findSpec (fuel + 1) t ns path level ps c = some r := by
  rw [findSpec_succ _ _ _ _ _ _ _ hlen]
  unfold sortNodes
  rw [List.append_assoc, findNodes_skip fuel t path level ps _ _ c
    (skipAll_lits fuel t path level ps _ c (fun m hm => ⟨by simpa using (List.mem_filter.mp hm).2, hlits m hm⟩))]
  rw [hsplit, List.append_assoc]
  exact findNodes_first fuel t path level ps c1 n _ _ r hc1 hn

/-- **backtracking**: a child that accepted the segment (`matchNode = some (ps', multi)`) but whose subtree fails and which
    cannot answer itself is abandoned: the walk goes on with the next sibling and the ORIGINAL params `ps` — nothing of
    `ps'` (the fields bound in the abandoned branch) survives -/
theorem backtracks (fuel : Nat) (t : Tables) (n : Node) (rest : List Node) (path : List String) (level : Nat)
    (ps ps' : Dict) (multi : Bool) (c : Ctr)
    (hm : matchNode t n path level ps c = some (ps', multi))
    (hsub : findSpec fuel t n.children path (level + 1) ps' (cInOf n c) = none)
    (hno : (n.hasRoute && (multi || path.length == level + 1)) = false) :
    findNodes fuel t (n :: rest) path level ps c = findNodes fuel t rest path level ps (c.add (cntN n)) := by
  rw [findNodes_cons]
  unfold hereOf
  simp only [hm, hsub, hno]
  rfl

/-- **converter veto**, single-field child: if `convert()` returns `None` the child does not match, whatever its subtree -/
theorem converter_veto_simple (fuel : Nat) (t : Tables) (n : Node) (rest : List Node) (path : List String) (level : Nat)
    (ps : Dict) (c : Ctr) (name : String) (cu : ConvUse) (hk : n.kind = .simple name (some cu))
    (hv : t.conv c.conv (if cu.multi then "/".intercalate (path.drop level) else path[level]?.getD "") = none) :
    findNodes fuel t (n :: rest) path level ps c = findNodes fuel t rest path level ps (c.add (cntN n)) := by
  rw [findNodes_cons]
  unfold hereOf matchNode
  simp only [hk, hv, Option.map_none]

/-- **converter veto**, multi-field child: the pattern matched, but one converter of the chain returned `None` -/
theorem converter_veto_complex (fuel : Nat) (t : Tables) (n : Node) (rest : List Node) (path : List String) (level : Nat)
    (ps : Dict) (c : Ctr) (text : String) (convs : List ConvUse) (nf : Nat) (g : Dict)
    (hk : n.kind = .complex text convs nf) (hp : t.pmatch c.pat (path[level]?.getD "") = some g)
    (hv : applyConvs t convs c.conv g [] = none) :
    findNodes fuel t (n :: rest) path level ps c = findNodes fuel t rest path level ps (c.add (cntN n)) := by
  rw [findNodes_cons]
  unfold hereOf matchNode
  simp only [hk, hp, hv]

/-- **a trailing path converter swallows the rest**: a route-carrying leaf whose converter consumes multiple segments
    answers with the converted remainder of the path, however many segments are left -/
theorem path_converter_swallows_rest (fuel : Nat) (t : Tables) (n : Node) (rest : List Node) (path : List String)
    (level : Nat) (ps : Dict) (c : Ctr) (name : String) (cu : ConvUse) (v : String)
    (hk : n.kind = .simple name (some cu)) (hmulti : cu.multi = true) (hroute : n.hasRoute = true)
    (hleaf : n.children = [])
    (hv : t.conv c.conv ("/".intercalate (path.drop level)) = some v) :
    findNodes fuel t (n :: rest) path level ps c = some (c.rv, Dict.set ps name v) := by
  rw [findNodes_cons]
  unfold hereOf matchNode
  simp only [hk, hmulti, if_true, hv, Option.map_some, hleaf, findSpec_nil, hroute, Bool.true_or, Bool.and_self]


/-- `re`: `{a}-{b}` matches "1-2" and "1-q"; converters: `int` accepts digit strings -/
def tblA : Tables :=
  { pmatch := fun _ s => if s == "1-2" then some [("a", "1"), ("b", "2")]
                         else if s == "1-q" then some [("a", "1"), ("b", "q")] else none,
    conv := fun _ s => if s.toList.all Char.isDigit && !s.isEmpty then some s else none }

/-- a path converter: accepts every remainder -/
def tblP : Tables := { pmatch := fun _ _ => none, conv := fun _ s => some s }

def nX (route : Bool) (ch : List Node) : Node := .mk "{x}" (.simple "x" none) route ch
def nAB (route : Bool) (ch : List Node) : Node := .mk "{a}-{b}" (.complex "^(?P<a>.+)\\-(?P<b>.+)$" [] 2) route ch
def nABint (route : Bool) (ch : List Node) : Node :=
  .mk "{a}-{b:int}" (.complex "^(?P<a>.+)\\-(?P<b>.+)$" [{ field := "b", multi := false }] 2) route ch
def nLit (s : String) (route : Bool) (ch : List Node) : Node := .mk s .lit route ch
def nPath : Node := .mk "{p:path}" (.simple "p" (some { field := "p", multi := true })) true []

/-- `findNodes` over a given walk of the subtrees -/
def walkNodes (sub : List Node → Nat → Dict → Ctr → Option (Nat × Dict)) (t : Tables) (path : List String) (level : Nat)
    (params : Dict) : List Node → Ctr → Option (Nat × Dict)
  | [], _ => none
  | node :: rest, c =>
    let here : Option (Nat × Dict) :=
      match matchNode t node path level params c with
      | none => none
      | some (ps, multi) =>
        match sub node.children (level + 1) ps (cInOf node c) with
        | some r => some r
        | none => if node.hasRoute && (multi || path.length == level + 1) then some (c.rv, ps) else none
    match here with
    | some r => some r
    | none => walkNodes sub t path level params rest (c.add (cntN node))

/-- `findSpec` by structural recursion on the fuel, which the kernel can run (`findSpec` itself recurses on a
    lexicographic measure and does not reduce) -/
def walk (t : Tables) (path : List String) : Nat → List Node → Nat → Dict → Ctr → Option (Nat × Dict)
  | 0, _, _, _, _ => none
  | f + 1, nodes, level, params, c =>
    if path.length > level then walkNodes (walk t path f) t path level params (sortNodes nodes) c else none

theorem walkNodes_eq {sub} {fuel : Nat} {t : Tables} {path : List String} {level : Nat} {params : Dict}
    (hsub : ∀ ns l ps c, sub ns l ps c = findSpec fuel t ns path l ps c) :
    ∀ nodes c, walkNodes sub t path level params nodes c = findNodes fuel t nodes path level params c
  | [], c => by rw [walkNodes, findNodes]
  | n :: rest, c => by
    simp only [walkNodes, hsub, walkNodes_eq hsub rest]
    rw [findNodes]
    rfl

theorem walk_eq (t : Tables) (path : List String) :
    ∀ f nodes level ps c, walk t path f nodes level ps c = findSpec f t nodes path level ps c
  | 0, _, _, _, _ => by rw [walk, findSpec]
  | f + 1, _, _, _, _ => by rw [walk, findSpec, walkNodes_eq (walk_eq t path f)]

theorem runSpec_eq_walk (t : Tables) (roots : List Node) (path : List String) :
    runSpec t roots path = walk t path (dL roots + 1) roots 0 [] {} := by
  rw [runSpec, walk_eq]

/-- literal first: `/{x}`, `/{a}-{b}`, `/1-2` (inserted in that order) all accept "1-2"; the literal's route answers -/
example : runSpec tblA [nX true [], nAB true [], nLit "1-2" true []] ["1-2"] = some (0, []) := by
  rw [runSpec_eq_walk]; decide +kernel
/-- multi-field before single-field: without the literal, `{a}-{b}` answers, not `{x}` -/
example : runSpec tblA [nX true [], nAB true []] ["1-2"] = some (0, [("a", "1"), ("b", "2")]) := by
  rw [runSpec_eq_walk]; decide +kernel
/-- the single-field child answers when neither matches -/
example : runSpec tblA [nX true [], nAB true [], nLit "1-2" true []] ["zz"] = some (2, [("x", "zz")]) := by
  rw [runSpec_eq_walk]; decide +kernel
/-- backtracking: `/{a}-{b}/z` accepts "1-2" (binding a, b) but has no child "c"; the walk falls back to `/{x}/c`, and the
    result carries `x` only — nothing from the abandoned branch -/
example : runSpec tblA [nX false [nLit "c" true []], nAB false [nLit "z" true []]] ["1-2", "c"] = some (1, [("x", "1-2")]) := by
  rw [runSpec_eq_walk]; decide +kernel
/-- converter veto: `{a}-{b:int}` matches "1-q" as a pattern, `int` rejects "q", so `{x}` answers -/
example : runSpec tblA [nX true [], nABint true []] ["1-q"] = some (1, [("x", "1-q")]) := by
  rw [runSpec_eq_walk]; decide +kernel
example : runSpec tblA [nX true [], nABint true []] ["1-2"] = some (0, [("b", "2"), ("a", "1")]) := by
  rw [runSpec_eq_walk]; decide +kernel
/-- a trailing path converter swallows the rest: `/files/{p:path}` on `/files/a/b/c` -/
example : runSpec tblP [nLit "files" false [nPath]] ["files", "a", "b", "c"] = some (0, [("p", "a/b/c")]) := by
  rw [runSpec_eq_walk]; decide +kernel
/-- … but a longer path does not match a node that is not path-consuming -/
example : runSpec tblP [nLit "files" true []] ["files", "a"] = none := by
  rw [runSpec_eq_walk]; decide +kernel

/-- the hypotheses of `precedence_literal_first` on the first tree (`l1 = []`, `n` the literal) -/
example : findSpec 2 tblA [nX true [], nAB true [], nLit "1-2" true []] ["1-2"] 0 [] {} = some (0, []) :=
  precedence_literal_first 1 tblA _ ["1-2"] 0 [] {} [] [] (nLit "1-2" true []) (0, []) (by decide)
    rfl (fun _ h => nomatch h)
    (by simp only [hereOf, nLit, Node.children, findSpec_nil]; rfl)
end Rt
