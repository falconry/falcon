/-! C04 prototype: `App.add_error_handler` / `_find_error_handler` — the handler of the nearest class in the exception's MRO,
    latest registration per class winning. Classes and handlers are identifiers; the MRO of the raised exception's
    type (without `object`) is supplied by the harness from `type(ex).__mro__[:-1]`. -/
namespace Eh

abbrev Cls := Nat
abbrev Handler := Nat

/-- `self._error_handlers` as the list of registrations, oldest first -/
abbrev Reg := List (Cls × Handler)

/-- dict lookup after the registrations were applied in order: the last one for the class -/
def lookup : Reg → Cls → Option Handler
  | [], _ => none
  | (c', h) :: rest, c => match lookup rest c with
    | some h' => some h'
    | none => if c' = c then some h else none

def register (reg : Reg) (c : Cls) (h : Handler) : Reg := reg ++ [(c, h)]

/-- `_find_error_handler`: walk the MRO, return the first registered handler -/
def find (reg : Reg) : List Cls → Option Handler
  | [] => none
  | c :: rest => match lookup reg c with
    | some h => some h
    | none => find reg rest

theorem lookup_append_single (reg : Reg) (c c' : Cls) (h : Handler) :
    lookup (reg ++ [(c, h)]) c' = if c = c' then some h else lookup reg c' := by
  induction reg with
  | nil => simp [lookup]
  | cons x xs ih =>
    obtain ⟨cx, hx⟩ := x
    simp only [List.cons_append, lookup, ih]
    by_cases hc : c = c'
    · simp [hc]
    · simp [hc]

/-- the latest registration for a class wins -/
theorem latest_registration_wins (reg : Reg) (c : Cls) (h : Handler) : lookup (register reg c h) c = some h := by
  unfold register; rw [lookup_append_single]; simp

/-- … and does not disturb any other class -/
theorem other_class_unaffected (reg : Reg) (c c' : Cls) (h : Handler) (hne : c ≠ c') :
    lookup (register reg c h) c' = lookup reg c' := by
  unfold register; rw [lookup_append_single]; simp [hne]

/-- `find` is the library's `findSome?` over the MRO -/
theorem find_eq_findSome? (reg : Reg) (mro : List Cls) : find reg mro = mro.findSome? (lookup reg) := by
  induction mro with
  | nil => rfl
  | cons c rest ih => rw [find, List.findSome?_cons, ih]; cases lookup reg c <;> rfl

/-- **the nearest class in the MRO decides**: `find` returns `h` iff some class of the MRO is registered with `h` and
    no class before it in the MRO is registered at all -/
theorem find_most_specific (reg : Reg) (mro : List Cls) (h : Handler) :
    find reg mro = some h ↔
      ∃ pre c post, mro = pre ++ c :: post ∧ lookup reg c = some h ∧ ∀ c' ∈ pre, lookup reg c' = none := by
  rw [find_eq_findSome?, List.findSome?_eq_some_iff]

/-- no handler is found iff no class of the MRO is registered (then the exception propagates to the server) -/
theorem find_none_iff (reg : Reg) (mro : List Cls) : find reg mro = none ↔ ∀ c ∈ mro, lookup reg c = none := by
  rw [find_eq_findSome?, List.findSome?_eq_none_iff]

#print axioms find_most_specific
end Eh
