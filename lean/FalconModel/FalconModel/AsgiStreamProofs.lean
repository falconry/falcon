import FalconModel.AsgiStreamFixed
import FalconModel.AsgiStream
/-! C07 (ASGI): the repaired `BoundedStream` is a cursor over the declared body, whatever the event shapes.

    All four loops of the stream spend one received event in the same way: `taken` is what the event hands over within the
    budget, `left` the budget it leaves.  Each loop has a one-round equation in these terms (`*_cons`); the loop
    specifications are inductions over the fuel that use nothing else about the loop. -/
namespace AsF

/-- the bytes the server will still deliver, in order, up to and including its final event -/
def future : List Event → Bytes
  | [] => []
  | .disconnect :: _ => []
  | .request body more :: rest => body.getD [] ++ (if more == some true then future rest else [])

/-- the event list contains the end of the body, so no `receive()` issued while more is expected can block -/
def complete : List Event → Bool
  | [] => false
  | .disconnect :: _ => true
  | .request _ more :: rest => if more == some true then complete rest else true

/-- what the stream will still hand out: the buffered bytes, then the future bytes within the declared length -/
def absS (s : S) : Bytes := s.buffer ++ (future s.events).take s.remaining

/-- the bytes one received event hands over while `rem` bytes are still declared (an oversized chunk is cut: F04, F05) -/
def taken : Event → Nat → Bytes
  | .request body _, rem => (body.getD []).take rem
  | .disconnect, _ => []

/-- the budget after that event: an event that is not followed by more ends the body -/
def left (e : Event) (rem : Nat) : Nat := if moreOf e then rem - (taken e rem).length else 0

theorem moreOf_request (body : Option Bytes) (more : Option Bool) : moreOf (.request body more) = (more == some true) := by
  cases more with
  | none => rfl
  | some b => cases b <;> rfl

theorem future_cons (e : Event) (rest : List Event) (rem : Nat) :
    (future (e :: rest)).take rem = taken e rem ++ (future rest).take (left e rem) := by
  cases e with
  | disconnect =>
    show ([] : Bytes).take rem = [] ++ (future rest).take 0
    rw [List.take_nil, List.take_zero]; rfl
  | request body more =>
    rw [future, left, moreOf_request, taken, List.take_append]
    cases more == some true
    · rw [if_neg Bool.false_ne_true, if_neg Bool.false_ne_true, List.take_nil, List.take_zero]
    · rw [if_pos rfl, if_pos rfl, List.length_take]
      rcases Nat.le_total rem (body.getD []).length with h | h
      · rw [Nat.min_eq_left h, Nat.sub_self, Nat.sub_eq_zero_of_le h]
      · rw [Nat.min_eq_right h]

theorem complete_cons (e : Event) (rest : List Event) (rem : Nat) (h : complete (e :: rest) = true) :
    left e rem = 0 ∨ complete rest = true := by
  cases e with
  | disconnect => exact Or.inl rfl
  | request body more =>
    rw [complete] at h
    rw [left, moreOf_request]
    cases hm : more == some true
    · exact Or.inl rfl
    · rw [hm] at h; exact Or.inr h

theorem complete_ne_nil {evs : List Event} (h : complete evs = true) : ∃ e rest, evs = e :: rest := by
  cases evs with
  | nil => cases h
  | cons e rest => exact ⟨e, rest, rfl⟩

theorem recv_cons {s : S} {e : Event} {rest : List Event} (he : s.events = e :: rest) :
    recv s = (some e, { s with events := rest, awaited := s.awaited + 1 }) := by
  rw [recv, he]

theorem readallLoop_cons (fuel : Nat) {s : S} (chunks : List Bytes) {e : Event} {rest : List Event}
    (he : s.events = e :: rest) (hpos : 0 < s.remaining) :
    ∃ chunks', chunks'.flatten = chunks.flatten ++ taken e s.remaining ∧
      readallLoop (fuel + 1) s chunks =
        readallLoop fuel { s with events := rest, awaited := s.awaited + 1, remaining := left e s.remaining } chunks' := by
  rw [readallLoop, if_pos hpos, recv_cons he]
  cases e with
  | disconnect => exact ⟨chunks, (List.append_nil _).symm, rfl⟩
  | request body more =>
    cases body with
    | none =>
      refine ⟨chunks, by rw [taken, Option.getD_none, List.take_nil, List.append_nil], ?_⟩
      simp only [left, moreOf_request, taken, Option.getD_none, List.take_nil, List.length_nil, Nat.sub_zero]
      cases more == some true <;> rfl
    | some c =>
      by_cases hfit : c.length ≤ s.remaining
      · refine ⟨chunks ++ [c], by rw [taken, Option.getD_some, List.take_of_length_le hfit, List.flatten_append, List.flatten_singleton], ?_⟩
        simp only [left, moreOf_request, taken, Option.getD_some, if_pos hfit, List.take_of_length_le hfit]
        cases more == some true <;> rfl
      · refine ⟨chunks ++ [c.take s.remaining], by rw [taken, Option.getD_some, List.flatten_append, List.flatten_singleton], ?_⟩
        simp only [left, moreOf_request, taken, Option.getD_some, if_neg hfit, List.length_take,
          Nat.min_eq_left (Nat.le_of_not_le hfit), Nat.sub_self]
        cases more == some true <;> rfl

theorem readallLoop_stop (fuel : Nat) {s : S} (chunks : List Bytes) (h : s.remaining = 0) :
    readallLoop fuel s chunks = (s, chunks) := by
  cases fuel with
  | zero => rfl
  | succ n => rw [readallLoop, if_neg (by rw [h]; exact Nat.lt_irrefl 0)]

theorem readallLoop_spec : ∀ (evs : List Event) (fuel : Nat) (s : S) (chunks : List Bytes),
    s.events = evs → evs.length < fuel → s.blocked = false → (s.remaining = 0 ∨ complete evs = true) →
    let r := readallLoop fuel s chunks
    r.2.flatten = chunks.flatten ++ (future evs).take s.remaining ∧ r.1.remaining = 0 ∧ r.1.blocked = false ∧
    r.1.buffer = s.buffer ∧ r.1.pos = s.pos ∧ r.1.closed = s.closed := by
  intro evs fuel
  induction fuel generalizing evs with
  | zero => intro s chunks _ hf; cases hf
  | succ n ih =>
    intro s chunks he hf hb hc
    by_cases hr : s.remaining = 0
    · rw [readallLoop_stop _ chunks hr, hr]
      exact ⟨by simp, hr, hb, rfl, rfl, rfl⟩
    · obtain ⟨e, rest, rfl⟩ := complete_ne_nil (hc.resolve_left hr)
      obtain ⟨chunks', hfl, hstep⟩ := readallLoop_cons n chunks he (Nat.pos_of_ne_zero hr)
      rw [hstep, future_cons, ← List.append_assoc, ← hfl]
      exact ih rest _ chunks' rfl (Nat.lt_of_succ_lt_succ hf) hb (complete_cons e rest _ (hc.resolve_left hr))

#print axioms readallLoop_spec

theorem eof_iff {s : S} : eof s = true ↔ s.buffer = [] ∧ s.remaining = 0 := by simp [eof]

theorem absS_of_eof {s : S} (h : eof s = true) : absS s = [] := by
  obtain ⟨h1, h2⟩ := eof_iff.mp h
  rw [absS, h1, h2]; rfl

/-- the residue of an earlier sized read is the first chunk -/
theorem bufChunk_flatten (b : Bytes) : (if !b.isEmpty then [b] else []).flatten = b := by
  cases b <;> simp

/-- `readall_refines`, and the stream stays open -/
theorem readall_spec (s : S) (hc : s.closed = false) (hb : s.blocked = false)
    (hcomp : s.remaining = 0 ∨ complete s.events = true) :
    (readall s).2.closed = false ∧
    (readall s).1 = .data (absS s) ∧ absS (readall s).2 = [] ∧
    (readall s).2.pos = s.pos + (absS s).length ∧ (readall s).2.blocked = false ∧ (readall s).2.remaining = 0 := by
  rw [readall, if_neg (by simp [hc])]
  by_cases he : eof s = true
  · rw [if_pos he, absS_of_eof he]
    exact ⟨hc, rfl, rfl, rfl, hb, (eof_iff.mp he).2⟩
  have spec := readallLoop_spec s.events (s.events.length + 1) { s with buffer := [] }
    (if !s.buffer.isEmpty then [s.buffer] else []) rfl (Nat.lt_succ_self _) hb hcomp
  rw [bufChunk_flatten] at spec
  rw [if_neg he]
  dsimp only
  generalize readallLoop _ _ _ = r at spec ⊢
  obtain ⟨t1, t2, t3, t4, t5, t6⟩ := spec
  have hdata : r.2.flatten = absS s := t1
  rw [if_neg (by simp [t3]), hdata]
  exact ⟨t6.trans hc, rfl, by rw [absS, t4, t2]; rfl, by rw [t5], t3, t2⟩

/-- `readall()` / `read()` / `read(-1)`: returns everything that is still declared, leaves nothing, and `tell()`
    advances by exactly what was returned — whatever the server's chunking, missing keys, oversized chunks or a
    disconnect in the middle -/
theorem readall_refines (s : S) (hc : s.closed = false) (hb : s.blocked = false)
    (hcomp : s.remaining = 0 ∨ complete s.events = true) :
    (readall s).1 = .data (absS s) ∧ absS (readall s).2 = [] ∧
    (readall s).2.pos = s.pos + (absS s).length ∧ (readall s).2.blocked = false ∧ (readall s).2.remaining = 0 :=
  (readall_spec s hc hb hcomp).2

#print axioms readall_refines

theorem readLoop_cons (fuel : Nat) {s : S} (chunks : List Bytes) (avail size : Nat) {e : Event} {rest : List Event}
    (he : s.events = e :: rest) (hpos : 0 < s.remaining) (hav : avail < size) :
    ∃ chunks', chunks'.flatten = chunks.flatten ++ taken e s.remaining ∧
      readLoop (fuel + 1) s chunks avail size =
        readLoop fuel { s with events := rest, awaited := s.awaited + 1, remaining := left e s.remaining } chunks'
          (avail + (taken e s.remaining).length) size := by
  rw [readLoop, if_pos (by simp [hpos, hav]), recv_cons he]
  cases e with
  | disconnect => exact ⟨chunks, (List.append_nil _).symm, rfl⟩
  | request body more =>
    cases body with
    | none =>
      refine ⟨chunks, by rw [taken, Option.getD_none, List.take_nil, List.append_nil], ?_⟩
      simp only [left, moreOf_request, taken, Option.getD_none, List.take_nil, List.length_nil, Nat.sub_zero]
      cases more == some true <;> rfl
    | some c =>
      by_cases hfit : c.length ≤ s.remaining
      · refine ⟨chunks ++ [c], by rw [taken, Option.getD_some, List.take_of_length_le hfit, List.flatten_append, List.flatten_singleton], ?_⟩
        simp only [left, moreOf_request, taken, Option.getD_some, if_pos hfit, List.take_of_length_le hfit]
        cases more == some true <;> rfl
      · refine ⟨chunks ++ [c.take s.remaining], by rw [taken, Option.getD_some, List.flatten_append, List.flatten_singleton], ?_⟩
        simp only [left, moreOf_request, taken, Option.getD_some, if_neg hfit, List.length_take,
          Nat.min_eq_left (Nat.le_of_not_le hfit), Nat.sub_self]
        cases more == some true <;> rfl

theorem readLoop_stop (fuel : Nat) {s : S} (chunks : List Bytes) {avail size : Nat} (h : s.remaining = 0 ∨ size ≤ avail) :
    readLoop fuel s chunks avail size = (s, chunks, avail) := by
  cases fuel with
  | zero => rfl
  | succ n => rw [readLoop, if_neg (by simp; omega)]

/-- `avail` is the exact count of what `chunks` holds: the F05 site -/
theorem readLoop_spec : ∀ (evs : List Event) (fuel : Nat) (s : S) (chunks : List Bytes) (avail size : Nat),
    s.events = evs → evs.length < fuel → s.blocked = false → (s.remaining = 0 ∨ complete evs = true) →
    avail = chunks.flatten.length →
    let r := readLoop fuel s chunks avail size
    r.2.1.flatten ++ (future r.1.events).take r.1.remaining = chunks.flatten ++ (future evs).take s.remaining ∧
    r.2.2 = r.2.1.flatten.length ∧ (r.1.remaining = 0 ∨ size ≤ r.2.2) ∧ r.1.blocked = false ∧
    (r.1.remaining = 0 ∨ complete r.1.events = true) ∧
    r.1.buffer = s.buffer ∧ r.1.pos = s.pos ∧ r.1.closed = s.closed := by
  intro evs fuel
  induction fuel generalizing evs with
  | zero => intro s chunks avail size _ hf; cases hf
  | succ n ih =>
    intro s chunks avail size he hf hb hc ha
    by_cases hstop : s.remaining = 0 ∨ size ≤ avail
    · rw [readLoop_stop _ chunks hstop]
      exact ⟨by rw [he], ha, hstop, hb, by rw [he]; exact hc, rfl, rfl, rfl⟩
    · have hr : s.remaining ≠ 0 := fun h => hstop (Or.inl h)
      obtain ⟨e, rest, rfl⟩ := complete_ne_nil (hc.resolve_left hr)
      obtain ⟨chunks', hfl, hstep⟩ := readLoop_cons n chunks avail size he (Nat.pos_of_ne_zero hr)
        (Nat.lt_of_not_le fun h => hstop (Or.inr h))
      rw [hstep, future_cons, ← List.append_assoc, ← hfl]
      exact ih rest _ chunks' _ size rfl (Nat.lt_of_succ_lt_succ hf) hb (complete_cons e rest _ (hc.resolve_left hr))
        (by rw [hfl, List.length_append, ha])

#print axioms readLoop_spec

/-- `read_sized_refines`, and the stream stays open -/
theorem read_sized_spec (s : S) (n : Int) (hn : 0 < n) (hc : s.closed = false) (hb : s.blocked = false)
    (hcomp : s.remaining = 0 ∨ complete s.events = true) :
    (read s (some n)).2.closed = false ∧
    (read s (some n)).1 = .data ((absS s).take n.toNat) ∧
    absS (read s (some n)).2 = (absS s).drop n.toNat ∧
    (read s (some n)).2.pos = s.pos + ((absS s).take n.toNat).length ∧
    (read s (some n)).2.blocked = false ∧
    ((read s (some n)).2.remaining = 0 ∨ complete (read s (some n)).2.events = true) := by
  rw [read, if_neg (by simp [hc])]
  by_cases he : eof s = true
  · rw [if_pos he, absS_of_eof he, List.take_nil, List.drop_nil]
    exact ⟨hc, rfl, rfl, rfl, hb, hcomp⟩
  have spec := readLoop_spec s.events (s.events.length + 1) s (if !s.buffer.isEmpty then [s.buffer] else [])
    s.buffer.length n.toNat rfl (Nat.lt_succ_self _) hb hcomp (by rw [bufChunk_flatten])
  rw [bufChunk_flatten] at spec
  rw [if_neg he, if_neg (fun h => by rw [eq_of_beq h] at hn; exact absurd hn (by decide)), if_neg (Int.not_le.mpr hn)]
  dsimp only
  generalize readLoop _ _ _ _ _ = r at spec ⊢
  obtain ⟨t1, t2, t3, t4, t5, t6, t7, t8⟩ := spec
  have habs : absS s = r.2.1.flatten ++ (future r.1.events).take r.1.remaining := t1.symm
  rw [if_neg (by simp [t4]), habs, t2]
  refine ⟨t8.trans hc, ?_⟩
  by_cases hav : r.2.1.flatten.length ≤ n.toNat
  · -- the loop stopped with at most `n` bytes: they are all there is, or exactly `n`
    have hX : r.2.1.flatten.length = n.toNat ∨ (future r.1.events).take r.1.remaining = [] := by
      rcases t3 with h | h
      · right; rw [h]; rfl
      · left; exact Nat.le_antisymm hav (t2 ▸ h)
    have htake : (r.2.1.flatten ++ (future r.1.events).take r.1.remaining).take n.toNat = r.2.1.flatten := by
      rcases hX with h | h
      · exact List.take_left' h
      · rw [h, List.append_nil, List.take_of_length_le hav]
    have hdrop : (r.2.1.flatten ++ (future r.1.events).take r.1.remaining).drop n.toNat =
        (future r.1.events).take r.1.remaining := by
      rcases hX with h | h
      · exact List.drop_left' h
      · rw [h, List.append_nil, List.drop_of_length_le hav]
    rw [if_pos hav, htake, hdrop]
    exact ⟨rfl, rfl, by rw [t7], t4, t5⟩
  · -- the last chunk overshot: the surplus goes back into the buffer
    have hle : n.toNat ≤ r.2.1.flatten.length := Nat.le_of_lt (Nat.lt_of_not_le hav)
    rw [if_neg hav, List.take_append_of_le_length hle, List.drop_append_of_le_length hle]
    exact ⟨rfl, rfl, by rw [t7], t4, t5⟩

/-- **sized `read(n)`, n > 0**: returns exactly the next `min n (what is declared)` bytes — never more than `n` (F05) —,
    leaves exactly the rest, and `tell()` advances by what was returned (F04) -/
theorem read_sized_refines (s : S) (n : Int) (hn : 0 < n) (hc : s.closed = false) (hb : s.blocked = false)
    (hcomp : s.remaining = 0 ∨ complete s.events = true) :
    (read s (some n)).1 = .data ((absS s).take n.toNat) ∧
    absS (read s (some n)).2 = (absS s).drop n.toNat ∧
    (read s (some n)).2.pos = s.pos + ((absS s).take n.toNat).length ∧
    (read s (some n)).2.blocked = false ∧
    ((read s (some n)).2.remaining = 0 ∨ complete (read s (some n)).2.events = true) :=
  (read_sized_spec s n hn hc hb hcomp).2

#print axioms read_sized_refines

theorem exhaustLoop_cons (fuel : Nat) {s : S} {e : Event} {rest : List Event}
    (he : s.events = e :: rest) (hpos : 0 < s.remaining) :
    exhaustLoop (fuel + 1) s =
      exhaustLoop fuel { s with events := rest, awaited := s.awaited + 1, remaining := left e s.remaining,
                                pos := s.pos + (taken e s.remaining).length } := by
  rw [exhaustLoop, if_pos hpos, recv_cons he]
  cases e with
  | disconnect => rfl
  | request body more =>
    simp only [left, moreOf_request, taken, List.length_take, Nat.min_comm s.remaining]
    cases more == some true <;> rfl

theorem exhaustLoop_stop (fuel : Nat) {s : S} (h : s.remaining = 0) : exhaustLoop fuel s = s := by
  cases fuel with
  | zero => rfl
  | succ n => rw [exhaustLoop, if_neg (by rw [h]; exact Nat.lt_irrefl 0)]

theorem exhaustLoop_spec : ∀ (evs : List Event) (fuel : Nat) (s : S),
    s.events = evs → evs.length < fuel → s.blocked = false → (s.remaining = 0 ∨ complete evs = true) →
    let r := exhaustLoop fuel s
    r.remaining = 0 ∧ r.pos = s.pos + ((future evs).take s.remaining).length ∧ r.blocked = false ∧
    r.buffer = s.buffer ∧ r.closed = s.closed := by
  intro evs fuel
  induction fuel generalizing evs with
  | zero => intro s _ hf; cases hf
  | succ n ih =>
    intro s he hf hb hc
    by_cases hr : s.remaining = 0
    · rw [exhaustLoop_stop _ hr, hr]
      exact ⟨hr, by simp, hb, rfl, rfl⟩
    · obtain ⟨e, rest, rfl⟩ := complete_ne_nil (hc.resolve_left hr)
      rw [exhaustLoop_cons n he (Nat.pos_of_ne_zero hr), future_cons, List.length_append, ← Nat.add_assoc]
      exact ih rest _ rfl (Nat.lt_of_succ_lt_succ hf) hb (complete_cons e rest _ (hc.resolve_left hr))

/-- `exhaust_refines`, and the stream stays open with nothing declared -/
theorem exhaust_spec (s : S) (hc : s.closed = false) (hb : s.blocked = false)
    (hcomp : s.remaining = 0 ∨ complete s.events = true) :
    ((exhaust s).2.closed = false ∧ (exhaust s).2.remaining = 0) ∧
    (exhaust s).1 = .unit ∧ absS (exhaust s).2 = [] ∧ (exhaust s).2.pos = s.pos + (absS s).length ∧
    (exhaust s).2.blocked = false := by
  rw [exhaust, if_neg (by simp [hc])]
  have spec := exhaustLoop_spec s.events (s.events.length + 1) { s with buffer := [], pos := s.pos + s.buffer.length }
    rfl (Nat.lt_succ_self _) hb hcomp
  dsimp only
  generalize exhaustLoop _ _ = r at spec ⊢
  obtain ⟨t1, t2, t3, t4, t5⟩ := spec
  rw [if_neg (by simp [t3])]
  exact ⟨⟨t5.trans hc, rfl⟩, rfl, by rw [absS, t4]; rfl, by rw [t2, absS, List.length_append, Nat.add_assoc], t3⟩

/-- **`exhaust()`**: leaves nothing to read and advances `tell()` by exactly what was still declared (F04: the buffered
    first chunk is counted here, and an oversized chunk only up to the declared length) -/
theorem exhaust_refines (s : S) (hc : s.closed = false) (hb : s.blocked = false)
    (hcomp : s.remaining = 0 ∨ complete s.events = true) :
    (exhaust s).1 = .unit ∧ absS (exhaust s).2 = [] ∧ (exhaust s).2.pos = s.pos + (absS s).length ∧
    (exhaust s).2.blocked = false :=
  (exhaust_spec s hc hb hcomp).2

#print axioms exhaust_refines

/-- what the iteration has handed out (`X`) and what the stream will still hand out make up what was declared -/
structure IterPost (s : S) (acc : Bytes) (r : S × Bytes) : Prop where
  split : ∃ X, r.2 = acc ++ X ∧ X ++ (future r.1.events).take r.1.remaining = (future s.events).take s.remaining ∧
    r.1.pos = s.pos + X.length
  blocked : r.1.blocked = false
  cont : r.1.remaining = 0 ∨ complete r.1.events = true      -- the next operation cannot block (F19)
  buffer : r.1.buffer = s.buffer
  closed : r.1.closed = s.closed

theorem IterPost.stop {s : S} (acc : Bytes) (hb : s.blocked = false) (hc : s.remaining = 0 ∨ complete s.events = true) :
    IterPost s acc (s, acc) :=
  ⟨⟨[], by simp, by simp, by simp⟩, hb, hc, rfl, rfl⟩

theorem IterPost.step {s s1 : S} {acc acc1 c : Bytes} {r : S × Bytes}
    (h : IterPost s1 acc1 r) (hacc : acc1 = acc ++ c)
    (hfut : c ++ (future s1.events).take s1.remaining = (future s.events).take s.remaining)
    (hpos : s1.pos = s.pos + c.length) (hbuf : s1.buffer = s.buffer) (hcl : s1.closed = s.closed) :
    IterPost s acc r := by
  obtain ⟨X, x1, x2, x3⟩ := h.split
  refine ⟨⟨c ++ X, by rw [x1, hacc, List.append_assoc], ?_, ?_⟩, h.blocked, h.cont, by rw [h.buffer, hbuf], by rw [h.closed, hcl]⟩
  · rw [List.append_assoc, x2, hfut]
  · rw [x3, hpos, List.length_append, Nat.add_assoc]

/-- an event without bytes is skipped; any other is yielded, and the consumer may stop there (`k = 1`) -/
theorem iterLoop_cons (fuel : Nat) {s : S} {k : Nat} (acc : Bytes) {e : Event} {rest : List Event}
    (he : s.events = e :: rest) (hk : k ≠ 0) (hpos : 0 < s.remaining) :
    iterLoop (fuel + 1) s k acc =
      if (taken e s.remaining).isEmpty then
        iterLoop fuel { s with events := rest, awaited := s.awaited + 1, remaining := left e s.remaining } k acc
      else if k == 1 then
        ({ s with events := rest, awaited := s.awaited + 1, remaining := left e s.remaining,
                  pos := s.pos + (taken e s.remaining).length }, acc ++ taken e s.remaining)
      else
        iterLoop fuel { s with events := rest, awaited := s.awaited + 1, remaining := left e s.remaining,
                               pos := s.pos + (taken e s.remaining).length } (k - 1) (acc ++ taken e s.remaining) := by
  rw [iterLoop, if_neg (by simpa using hk), if_pos hpos, recv_cons he]
  cases e with
  | disconnect => rfl
  | request body more =>
    cases body with
    | none =>
      simp only [left, moreOf_request, taken, Option.getD_none, List.take_nil, List.length_nil, Nat.sub_zero,
        List.isEmpty_nil, if_true]
      cases more == some true <;> rfl
    | some c =>
      cases c with
      | nil =>
        simp only [left, moreOf_request, taken, Option.getD_some, List.take_nil, List.length_nil, Nat.sub_zero,
          List.isEmpty_nil, Bool.not_true, Bool.false_eq_true, if_false, if_true]
        cases more == some true <;> rfl
      | cons a c =>
        have hne : ((a :: c).take s.remaining).isEmpty = false := by
          cases hr : s.remaining with
          | zero => rw [hr] at hpos; exact absurd hpos (Nat.lt_irrefl 0)
          | succ n => rfl
        by_cases hfit : (a :: c).length ≤ s.remaining
        · simp only [left, moreOf_request, taken, Option.getD_some, List.take_of_length_le hfit, List.isEmpty_cons,
            Bool.not_false, if_true, if_pos hfit, Bool.false_eq_true, if_false]
          cases more == some true <;> rfl
        · simp only [left, moreOf_request, taken, Option.getD_some, hne, List.isEmpty_cons, Bool.not_false, if_true,
            if_neg hfit, Bool.false_eq_true, if_false, List.length_take, Nat.min_eq_left (Nat.le_of_not_le hfit),
            Nat.sub_self]
          cases more == some true <;> rfl

theorem iterLoop_spec : ∀ (evs : List Event) (fuel : Nat) (s : S) (k : Nat) (acc : Bytes),
    s.events = evs → evs.length < fuel → s.blocked = false → (s.remaining = 0 ∨ complete evs = true) →
    IterPost s acc (iterLoop fuel s k acc) := by
  intro evs fuel
  induction fuel generalizing evs with
  | zero => intro s k acc _ hf; cases hf
  | succ n ih =>
    intro s k acc he hf hb hc
    subst he
    by_cases hk : k = 0
    · rw [iterLoop, if_pos (by simp [hk])]
      exact IterPost.stop acc hb hc
    by_cases hr : s.remaining = 0
    · rw [iterLoop, if_neg (by simpa using hk), if_neg (by rw [hr]; exact Nat.lt_irrefl 0)]
      exact ⟨⟨[], by simp, by simp, by simp⟩, hb, Or.inl hr, rfl, rfl⟩
    · obtain ⟨e, rest, he⟩ := complete_ne_nil (hc.resolve_left hr)
      have hc' := complete_cons e rest s.remaining (he ▸ hc.resolve_left hr)
      have hf' : rest.length < n := by rw [he] at hf; exact Nat.lt_of_succ_lt_succ hf
      have hfut := (future_cons e rest s.remaining).symm
      rw [← he] at hfut
      rw [iterLoop_cons n acc he hk (Nat.pos_of_ne_zero hr)]
      split
      · rename_i hT
        rw [List.isEmpty_iff] at hT
        rw [hT] at hfut
        exact IterPost.step (ih rest _ k acc rfl hf' hb hc') (List.append_nil acc).symm hfut rfl rfl rfl
      · split
        · exact ⟨⟨_, rfl, hfut, rfl⟩, hb, hc', rfl, rfl⟩
        · exact IterPost.step (ih rest _ (k - 1) _ rfl hf' hb hc') rfl hfut rfl rfl rfl

#print axioms iterLoop_spec

/-- `iterate_refines`, and the stream stays open -/
theorem iterate_spec (s : S) (k : Nat) (hc : s.closed = false) (hi : s.iterStarted = false) (hb : s.blocked = false)
    (hcomp : s.remaining = 0 ∨ complete s.events = true) :
    (iterate s k).2.closed = false ∧
    ∃ acc, (iterate s k).1 = .data acc ∧ acc ++ absS (iterate s k).2 = absS s ∧
      (iterate s k).2.pos = s.pos + acc.length ∧ (iterate s k).2.blocked = false ∧
      ((iterate s k).2.remaining = 0 ∨ complete (iterate s k).2.events = true) := by
  rw [iterate, if_neg (by simp [hc]), if_neg (by simp [hi])]
  by_cases he : eof s = true
  · rw [if_pos he]
    exact ⟨hc, [], rfl, rfl, rfl, hb, hcomp⟩
  rw [if_neg he]
  by_cases hbuf : s.buffer.isEmpty = true
  · have hbn : s.buffer = [] := by simpa using hbuf
    have spec := iterLoop_spec s.events (s.events.length + 1) { s with iterStarted := true } k [] rfl
      (Nat.lt_succ_self _) hb hcomp
    simp only [hbuf, Bool.not_true, Bool.false_eq_true, if_false]
    generalize iterLoop _ _ _ _ = r at spec ⊢
    obtain ⟨X, x1, x2, x3⟩ := spec.split
    rw [if_neg (by simp [spec.blocked])]
    refine ⟨spec.closed.trans hc, r.2, rfl, ?_, by rw [x3, x1]; rfl, spec.blocked, spec.cont⟩
    rw [absS, absS, spec.buffer, hbn, x1]
    exact x2
  · simp only [hbuf, Bool.not_false, if_true]
    by_cases hk : k ≤ 1
    · rw [if_pos hk]
      exact ⟨hc, s.buffer, rfl, rfl, rfl, hb, hcomp⟩
    · rw [if_neg hk]
      have spec := iterLoop_spec s.events (s.events.length + 1)
        { s with iterStarted := true, buffer := [], pos := s.pos + s.buffer.length } (k - 1) s.buffer rfl
        (Nat.lt_succ_self _) hb hcomp
      generalize iterLoop _ _ _ _ = r at spec ⊢
      obtain ⟨X, x1, x2, x3⟩ := spec.split
      rw [if_neg (by simp [spec.blocked])]
      refine ⟨spec.closed.trans hc, r.2, rfl, ?_, by rw [x3, x1, List.length_append, Nat.add_assoc], spec.blocked, spec.cont⟩
      rw [absS, spec.buffer, x1, List.append_assoc]
      exact congrArg _ x2

/-- **`async for chunk in stream`, abandoned after at most `k` chunks**: what was handed out is the next part of the
    declared body, `tell()` advanced by exactly that, and — the F19 repair — whatever chunk the consumer stopped at, the
    stream is left in a state from which no later operation can block on `receive()` -/
theorem iterate_refines (s : S) (k : Nat) (hc : s.closed = false) (hi : s.iterStarted = false) (hb : s.blocked = false)
    (hcomp : s.remaining = 0 ∨ complete s.events = true) :
    ∃ acc, (iterate s k).1 = .data acc ∧ acc ++ absS (iterate s k).2 = absS s ∧
      (iterate s k).2.pos = s.pos + acc.length ∧ (iterate s k).2.blocked = false ∧
      ((iterate s k).2.remaining = 0 ∨ complete (iterate s k).2.events = true) :=
  (iterate_spec s k hc hi hb hcomp).2

#print axioms iterate_refines

end AsF

section Witness
open As in
/-- F05 on the pinned model: Content-Length 10, one 20-byte chunk, `read(3)` returns 10 bytes -/
theorem f05_witness :
    (match (As.read (As.init none (some 10) [.request (some (List.replicate 20 120)) none]) (some 3)).1 with
     | .data d => d.length | _ => 0) = 10 := by decide
open As in
/-- F04 on the pinned model: the first event's body is counted before anything was read -/
theorem f04_witness : (As.init (some (.request (some [104, 101, 108, 108, 111]) (some true))) none []).pos = 5 := by decide
/-- on the repaired model the F05 input yields 3 bytes, and the hypotheses of `read_sized_refines` hold for it -/
example :
    let s := AsF.init none (some 10) [.request (some (List.replicate 20 120)) none]
    s.closed = false ∧ s.blocked = false ∧ (s.remaining = 0 ∨ AsF.complete s.events = true) ∧
    (match (AsF.read s (some 3)).1 with | .data d => d.length | _ => 0) = 3 ∧ (AsF.read s (some 3)).2.pos = 3 := by decide
open As in
/-- F19 on the pinned model: the consumer stops iterating on the chunk of the final event; the next `read()` awaits
    `receive()` although the body is complete (outcome `blocked`) — on the repaired model it returns `b''` at once -/
theorem f19_witness :
    (match (As.read (As.iterate (As.init none none [.request (some [97]) (some true), .request (some [98]) none]) 2).2 none).1 with
     | .blocked => true | _ => false) = true ∧
    (match (AsF.read (AsF.iterate (AsF.init none none [.request (some [97]) (some true), .request (some [98]) none]) 2).2 none).1 with
     | .data [] => true | _ => false) = true := by decide
end Witness
