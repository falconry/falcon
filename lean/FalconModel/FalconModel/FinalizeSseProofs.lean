import FalconModel.FinalizeSse
import FalconModel.FinalizeTraceProofs
/-! C05: theorems about the SSE model (`FinalizeSse.lean`): `sse_serialize_fields_exact` (what `SSEvent.serialize`
    writes reads back as exactly the attributes set, in order), `sse_frames_wellformed` (framing under every fault),
    `sse_one_body_per_event`, `sse_closes_zero`, `sse_start_content_type`, `serialize_none_iff` (when `serialize`
    raises), `sse_multiline_data_is_not_split`, `sse_disconnect_complete`. -/
namespace Sse
open Fz

def nEvent : Bytes := [101, 118, 101, 110, 116]    -- "event"
def nId : Bytes := [105, 100]                       -- "id"
def nRetry : Bytes := [114, 101, 116, 114, 121]     -- "retry"
def nData : Bytes := [100, 97, 116, 97]             -- "data"
def vPing : Bytes := [112, 105, 110, 103]           -- "ping"

/-- the value of the `data` field: `data` takes precedence over `text`, `text` over `json` -/
def dataValue (e : SSEvent) : Option Bytes :=
  match e.data with
  | some d => some d
  | none =>
    match e.text with
    | some t => some t
    | none =>
      match e.json with
      | some (.ok j) => some j
      | _ => none

def headFields (e : SSEvent) : List (Bytes × Bytes) :=
  e.comment.toList.map (fun v => ([], v)) ++ e.event.toList.map (fun v => (nEvent, v)) ++
  e.eventId.toList.map (fun v => (nId, v)) ++ e.retry.toList.map (fun n => (nRetry, decInt n))

/-- the fields of the event in the order they are written: comment, event, id, retry, data; the `ping` comment
    when no attribute is set at all -/
def fieldsOf (e : SSEvent) : List (Bytes × Bytes) :=
  let fs := headFields e ++ (dataValue e).toList.map (fun v => (nData, v))
  if fs.isEmpty then [([], vPing)] else fs

/-- no value that is written contains a line feed -/
def Clean (e : SSEvent) : Prop :=
  (∀ v, e.comment = some v → (10 : UInt8) ∉ v) ∧ (∀ v, e.event = some v → (10 : UInt8) ∉ v) ∧
  (∀ v, e.eventId = some v → (10 : UInt8) ∉ v) ∧ (∀ v, dataValue e = some v → (10 : UInt8) ∉ v)

def headLines (e : SSEvent) : List Bytes :=
  e.comment.toList.map (fun v => kComment ++ v) ++ e.event.toList.map (fun v => kEvent ++ v) ++
  e.eventId.toList.map (fun v => kId ++ v) ++ e.retry.toList.map (fun n => kRetry ++ decInt n)

def flat (ls : List Bytes) : Bytes := (ls.map (· ++ [10])).flatten
def joinLF (ls : List Bytes) : Bytes := flat ls ++ [10]

theorem flat_append (a b : List Bytes) : flat (a ++ b) = flat a ++ flat b := by
  unfold flat; simp

/-- `block += f v + "\n"` when the attribute is set: one step of `blockHead` -/
def line {α : Type} (f : α → Bytes) (o : Option α) (block : Bytes) : Bytes :=
  match o with
  | some v => block ++ (f v ++ [10])
  | none => block

theorem line_eq {α : Type} (f : α → Bytes) (o : Option α) (block : Bytes) :
    line f o block = block ++ flat (o.toList.map f) := by
  cases o with
  | none => exact (List.append_nil block).symm
  | some v => exact congrArg (block ++ ·) (List.append_nil _).symm

theorem blockHead_line (e : SSEvent) :
    blockHead e = line (kRetry ++ decInt ·) e.retry (line (kId ++ ·) e.eventId (line (kEvent ++ ·) e.event
      (line (kComment ++ ·) e.comment []))) := by
  unfold blockHead
  cases e.comment <;> cases e.event <;> cases e.eventId <;> cases e.retry <;> rfl

theorem blockHead_eq (e : SSEvent) : blockHead e = flat (headLines e) := by
  rw [blockHead_line, line_eq, line_eq, line_eq, line_eq, List.nil_append]
  unfold headLines
  rw [flat_append, flat_append, flat_append]

theorem splitLF_line (l : Bytes) (h : (10 : UInt8) ∉ l) (rest : Bytes) :
    splitLF (l ++ 10 :: rest) = (l :: (splitLF rest).1, (splitLF rest).2) := by
  induction l with
  | nil => simp [splitLF]
  | cons b l ih =>
    have hb : (b == 10) = false := by
      cases hbb : b == 10 with
      | false => rfl
      | true => exact absurd (by rw [eq_of_beq hbb]; exact List.mem_cons_self) h
    have hl : (10 : UInt8) ∉ l := fun hm => h (List.mem_cons_of_mem _ hm)
    have := ih hl
    simp only [List.cons_append, splitLF, this, hb, Bool.false_eq_true, if_false]

theorem splitLF_join (ls : List Bytes) (h : ∀ l ∈ ls, (10 : UInt8) ∉ l) : splitLF (joinLF ls) = (ls ++ [[]], []) := by
  induction ls with
  | nil => rfl
  | cons l ls ih =>
    have h1 := h l List.mem_cons_self
    have h2 : ∀ l' ∈ ls, (10 : UInt8) ∉ l' := fun l' hl' => h l' (List.mem_cons_of_mem _ hl')
    have e : joinLF (l :: ls) = l ++ 10 :: joinLF ls := by
      unfold joinLF flat; simp
    rw [e, splitLF_line l h1, ih h2]
    rfl

theorem parseBlock_join (ls : List Bytes) (h : ∀ l ∈ ls, (10 : UInt8) ∉ l) (hne : ∀ l ∈ ls, l ≠ []) :
    parseBlock (joinLF ls) = some (ls.map parseLine) := by
  unfold parseBlock
  rw [splitLF_join ls h]
  have hall : ls.all (fun l => !l.isEmpty) = true := by
    rw [List.all_eq_true]
    intro l hl
    have := hne l hl
    cases l with
    | nil => exact absurd rfl this
    | cons x xs => rfl
  simp [hall]

/-- a field line: a name without a colon, ": ", the value -/
theorem parseLine_field (name v : Bytes) (h : ∀ b ∈ name, (b != 58) = true) :
    parseLine (name ++ 58 :: 32 :: v) = (name, v) := by
  unfold parseLine
  rw [List.takeWhile_append_of_pos h, List.dropWhile_append_of_pos h]
  simp only [List.takeWhile_cons, List.dropWhile_cons, bne_self_eq_false, Bool.false_eq_true, if_false, List.append_nil]

theorem parseLine_comment (v : Bytes) : parseLine (kComment ++ v) = ([], v) := parseLine_field [] v (by decide)
theorem parseLine_event (v : Bytes) : parseLine (kEvent ++ v) = (nEvent, v) := parseLine_field nEvent v (by decide)
theorem parseLine_id (v : Bytes) : parseLine (kId ++ v) = (nId, v) := parseLine_field nId v (by decide)
theorem parseLine_retry (v : Bytes) : parseLine (kRetry ++ v) = (nRetry, v) := parseLine_field nRetry v (by decide)
theorem parseLine_data (v : Bytes) : parseLine (kData ++ v) = (nData, v) := parseLine_field nData v (by decide)

theorem headLines_parse (e : SSEvent) : (headLines e).map parseLine = headFields e := by
  simp only [headLines, headFields, List.map_append, List.map_map, Function.comp_def, parseLine_comment,
    parseLine_event, parseLine_id, parseLine_retry]

theorem decNat_noLF (n : Nat) : (10 : UInt8) ∉ decNat n := by
  unfold decNat
  intro h
  obtain ⟨c, hc, he⟩ := List.mem_map.mp h
  have hd := Nat.isDigit_of_mem_toDigits (by decide) (by decide) hc
  unfold Char.isDigit at hd
  simp only [Bool.and_eq_true, decide_eq_true_eq] at hd
  obtain ⟨h1, h2⟩ := hd
  have h1' : 48 ≤ c.toNat := by
    have : (48 : UInt32) ≤ c.val := h1
    exact UInt32.le_iff_toNat_le.mp this
  have h2' : c.toNat ≤ 57 := by
    have : c.val ≤ (57 : UInt32) := h2
    exact UInt32.le_iff_toNat_le.mp this
  have : (c.toNat.toUInt8).toNat = c.toNat := by
    simp only [Nat.toUInt8, UInt8.toNat_ofNat']; omega
  have h10 : (c.toNat.toUInt8).toNat = 10 := by rw [he]; rfl
  omega

theorem decInt_noLF (n : Int) : (10 : UInt8) ∉ decInt n := by
  cases n with
  | ofNat m => exact decNat_noLF m
  | negSucc m =>
    unfold decInt
    intro h
    rcases List.mem_cons.mp h with h | h
    · cases h
    · exact decNat_noLF _ h

theorem noLF_append (a b : Bytes) (ha : (10 : UInt8) ∉ a) (hb : (10 : UInt8) ∉ b) : (10 : UInt8) ∉ a ++ b := by
  intro h
  rcases List.mem_append.mp h with h | h
  · exact ha h
  · exact hb h

/-- the lines `serialize` writes: the head lines, the data line; the `ping` comment when there is none -/
def linesOf (e : SSEvent) : List Bytes :=
  let ls := headLines e ++ (dataValue e).toList.map (fun v => kData ++ v)
  if ls.isEmpty then [kComment ++ vPing] else ls

theorem prefixed_ok (k v : Bytes) (hk : k.all (· != 10) = true) (hne : k ≠ []) (hv : (10 : UInt8) ∉ v) :
    (10 : UInt8) ∉ k ++ v ∧ k ++ v ≠ [] :=
  ⟨noLF_append k v (fun h => absurd (List.all_eq_true.mp hk 10 h) (by decide)) hv,
   fun h => hne (List.append_eq_nil_iff.mp h).1⟩

theorem linesOf_ok (e : SSEvent) (hc : Clean e) : ∀ l ∈ linesOf e, (10 : UInt8) ∉ l ∧ l ≠ [] := by
  obtain ⟨c1, c2, c3, c4⟩ := hc
  intro l hl
  unfold linesOf at hl
  dsimp only at hl
  split at hl
  · rw [List.mem_singleton.mp hl]
    exact prefixed_ok kComment vPing rfl (List.cons_ne_nil _ _) (by decide)
  · unfold headLines at hl
    simp only [List.mem_append, List.mem_map, Option.mem_toList] at hl
    rcases hl with (((⟨v, hv, rfl⟩ | ⟨v, hv, rfl⟩) | ⟨v, hv, rfl⟩) | ⟨v, hv, rfl⟩) | ⟨v, hv, rfl⟩
    · exact prefixed_ok _ _ rfl (List.cons_ne_nil _ _) (c1 v hv)
    · exact prefixed_ok _ _ rfl (List.cons_ne_nil _ _) (c2 v hv)
    · exact prefixed_ok _ _ rfl (List.cons_ne_nil _ _) (c3 v hv)
    · exact prefixed_ok _ _ rfl (List.cons_ne_nil _ _) (decInt_noLF v)
    · exact prefixed_ok _ _ rfl (List.cons_ne_nil _ _) (c4 v hv)

theorem linesOf_parse (e : SSEvent) : (linesOf e).map parseLine = fieldsOf e := by
  have h : (headLines e ++ (dataValue e).toList.map (fun v => kData ++ v)).map parseLine =
      headFields e ++ (dataValue e).toList.map (fun v => (nData, v)) := by
    simp only [List.map_append, headLines_parse, List.map_map, Function.comp_def, parseLine_data]
  unfold linesOf fieldsOf
  dsimp only
  rw [← h, List.isEmpty_map]
  split
  · exact congrArg (fun p => [p]) (parseLine_comment vPing)
  · rfl

theorem joinLF_snoc (ls : List Bytes) (l : Bytes) : joinLF (ls ++ [l]) = flat ls ++ (l ++ [10]) ++ [10] := by
  unfold joinLF
  rw [flat_append]
  exact congrArg (flat ls ++ · ++ [10]) (List.append_nil _)

theorem flat_isEmpty (ls : List Bytes) : (flat ls).isEmpty = ls.isEmpty := by
  cases ls with
  | nil => rfl
  | cons l ls => cases l <;> rfl

theorem linesOf_data (e : SSEvent) (v : Bytes) (hv : dataValue e = some v) :
    joinLF (linesOf e) = flat (headLines e) ++ (kData ++ v ++ [10]) ++ [10] := by
  unfold linesOf
  rw [hv, ← joinLF_snoc]
  cases headLines e <;> rfl

theorem linesOf_nodata (e : SSEvent) (hv : dataValue e = none) :
    some (joinLF (linesOf e)) =
      if (flat (headLines e)).isEmpty then some kPing else some (flat (headLines e) ++ [10]) := by
  unfold linesOf
  rw [hv, flat_isEmpty]
  cases headLines e with
  | nil => rfl
  | cons l ls => exact congrArg (fun x => some (joinLF x)) (List.append_nil _)

/-- `serialize` raises or returns its lines joined -/
theorem serialize_eq (e : SSEvent) : serialize e = none ∨ serialize e = some (joinLF (linesOf e)) := by
  have hdata := linesOf_data e
  have hno := linesOf_nodata e
  unfold serialize
  unfold dataValue at hdata hno
  rw [blockHead_eq]
  cases hd : e.data with
  | some d =>
    rw [hd] at hdata
    dsimp only
    split
    · exact Or.inr (congrArg some (hdata d rfl).symm)
    · exact Or.inl rfl
  | none =>
    rw [hd] at hdata hno
    cases ht : e.text with
    | some t =>
      rw [ht] at hdata
      exact Or.inr (congrArg some (hdata t rfl).symm)
    | none =>
      rw [ht] at hdata hno
      cases hj : e.json with
      | none =>
        rw [hj] at hno
        exact Or.inr (hno rfl).symm
      | some j =>
        rw [hj] at hdata
        cases j with
        | raises => exact Or.inl rfl
        | ok j =>
          right
          dsimp only
          rw [hdata j rfl]
          simp only [List.append_assoc, List.cons_append, List.nil_append]

/-- what `serialize` returns, as lines -/
theorem serialize_lines (e : SSEvent) (out : Bytes) (hs : serialize e = some out) : out = joinLF (linesOf e) := by
  rcases serialize_eq e with h | h
  · rw [h] at hs; cases hs
  · exact Option.some.inj (hs.symm.trans h)

/-- **`SSEvent.serialize`: the chunk is one well-formed event block whose fields are exactly the attributes that
    were set, in the order comment, event, id, retry, data**, the data field being `data`, else `text`, else the
    serialised `json`; an event without any attribute is the `ping` comment.  (Values without line feeds.) -/
theorem sse_serialize_fields_exact (e : SSEvent) (out : Bytes) (hc : Clean e) (hs : serialize e = some out) :
    parseBlock out = some (fieldsOf e) := by
  rw [serialize_lines e out hs, parseBlock_join _ (fun l hl => (linesOf_ok e hc l hl).1)
    (fun l hl => (linesOf_ok e hc l hl).2), linesOf_parse]

example : Clean { text := some [104, 105], event := some [101], retry := some (-5), comment := some [] } :=
  ⟨(by intro v h; cases h; decide), (by intro v h; cases h; decide), (by intro v h; cases h),
   (by intro v h; cases h; decide)⟩

/-- when `serialize` raises: `data` is not UTF-8, or `json` is the data source and its handler raises -/
theorem serialize_none_iff (e : SSEvent) :
    serialize e = none ↔
      (∃ d, e.data = some d ∧ validUtf8 d = false) ∨ (e.data = none ∧ e.text = none ∧ e.json = some .raises) := by
  unfold serialize
  cases hd : e.data with
  | some d =>
    simp only
    cases hv : validUtf8 d <;> simp [hv]
  | none =>
    cases ht : e.text with
    | some t => simp
    | none =>
      cases hj : e.json with
      | none => simp only; split <;> simp
      | some j => cases j <;> simp

/-- multi-line values are **not** split into several `data:` lines: a consumer reads `text = "a\nb"` as the data "a"
    followed by a field named "b" (the application has to split such values itself) -/
theorem sse_multiline_data_is_not_split :
    (serialize { text := some [97, 10, 98] }).bind parseBlock = some [(nData, [97]), ([98], [])] := by decide


theorem sseLoop_open (evs : List (Option SSEvent)) : ∀ (i : Nat) (ef disc : Option Nat) (k : Nat) (xf : Option Nat),
    bodiesOpen (sseLoop evs i ef disc k xf).1 := by
  intro i ef disc k xf
  fun_induction sseLoop evs i ef disc k xf with
  | case1 => exact bodiesOpen_nil
  | case2 => exact bodiesOpen_nil
  | case3 => exact bodiesOpen_nil
  | case4 => exact bodiesOpen_nil
  | case5 _ _ _ _ _ _ _ _ b => exact bodiesOpen_cons b _ bodiesOpen_nil
  | case6 _ _ _ _ _ _ _ _ b _ _ _ bs _ _ hcall ih => rw [hcall] at ih; exact bodiesOpen_cons b bs ih

/-- past the HEAD / bodiless test the SSE branch is the streaming branch of `Fz.asgiTrace` over the emitter loop, with
    no `close()` -/
theorem sseTrace_eq (r : Resp) (c : Cfg) (hasClose : Bool) (evs : List (Option SSEvent)) (ef disc xf : Option Nat) :
    sseTrace r c hasClose evs ef disc xf =
      if c.head || bodiless (renderBody r c).2.status then asgiTrace r c hasClose xf
      else if xf == some 0 then { events := [], closes := 0, raised := true }
      else finish (Ev.start (renderBody r c).2.status (emitHeaders (renderBody r c).2 (some "text/event-stream"))) 0 xf
        false (sseLoop evs 0 ef disc 1 xf) := rfl

/-- **SSE framing under every fault** (the emitter raising at any index, `serialize` raising, `send` failing at any
    index, the client disconnecting after any event): exactly one start event first, then body events of which only
    the last has `more_body = false`, nothing afterwards; a run ended by an exception sent nothing, or the start
    event followed only by body events with `more_body = true`. -/
theorem sse_frames_wellformed (r : Resp) (c : Cfg) (hasClose : Bool) (evs : List (Option SSEvent))
    (ef disc xf : Option Nat) :
    ((sseTrace r c hasClose evs ef disc xf).raised = false → Complete (sseTrace r c hasClose evs ef disc xf).events) ∧
    ((sseTrace r c hasClose evs ef disc xf).raised = true → CutShort (sseTrace r c hasClose evs ef disc xf).events) := by
  rw [sseTrace_eq]
  split
  · exact trace_wellformed r c hasClose xf
  · split
    · exact ⟨fun hh => (by cases hh), fun _ => Or.inl rfl⟩
    · exact finish_wf _ _ _ _ _ _ (sseLoop_open evs 0 ef disc 1 xf)

/-- the SSE branch never touches `resp.stream`: no `close()` -/
theorem sse_closes_zero (r : Resp) (c : Cfg) (hasClose : Bool) (evs : List (Option SSEvent)) (ef disc xf : Option Nat) :
    (sseTrace r c hasClose evs ef disc xf).closes = 0 := by
  rw [sseTrace_eq]
  split
  · rename_i hb
    apply closes_zero_otherwise
    intro ⟨h1, h2, _⟩
    rw [(renderBody_frame r c).1, h1, h2] at hb
    cases hb
  · split
    · rfl
    · exact finish_closes _ _ _ _ _

/-- the body events of a run without any fault: the serialisation of each event the emitter yielded (`None` is the
    ping event), in order, each with `more_body = true` -/
def bodiesOf (evs : List (Option SSEvent)) : List Ev :=
  evs.map fun e => Ev.body ((serialize (e.getD {})).getD []) true

theorem beq_none_some (n : Nat) : ((none : Option Nat) == some n) = false := rfl

theorem sseLoop_nofault (evs : List (Option SSEvent)) (hser : ∀ e ∈ evs, (serialize (e.getD {})).isSome = true) :
    ∀ (i k : Nat), sseLoop evs i none none k none = (bodiesOf evs, false, k + evs.length) := by
  induction evs with
  | nil => intro i k; rfl
  | cons e rest ih =>
    intro i k
    have h1 := hser e List.mem_cons_self
    have h2 : ∀ e' ∈ rest, (serialize (e'.getD {})).isSome = true := fun e' he' => hser e' (List.mem_cons_of_mem _ he')
    unfold sseLoop
    simp only [beq_none_some, Bool.false_eq_true, if_false]
    cases hs : serialize (e.getD {}) with
    | none => rw [hs] at h1; cases h1
    | some b =>
      simp only [ih h2 (i + 1) (k + 1)]
      unfold bodiesOf
      simp only [List.map_cons, hs, Option.getD_some, List.length_cons]
      exact Prod.ext rfl (Prod.ext rfl (Nat.add_right_comm k 1 rest.length))

/-- **one start event, one body event per SSE event with `more_body` true, then the final empty body event** -/
theorem sse_one_body_per_event (r : Resp) (c : Cfg) (hasClose : Bool) (evs : List (Option SSEvent))
    (hh : c.head = false) (hb : bodiless r.status = false)
    (hser : ∀ e ∈ evs, (serialize (e.getD {})).isSome = true) :
    sseTrace r c hasClose evs none none none =
      { events := Ev.start r.status (emitHeaders (renderBody r c).2 (some "text/event-stream")) ::
                    (bodiesOf evs ++ [Ev.body [] false]),
        closes := 0, raised := false } := by
  obtain ⟨f1, _, _, _⟩ := renderBody_frame r c
  unfold sseTrace
  simp only [f1, hh, hb, Bool.or_self, Bool.false_eq_true, if_false, sseLoop_nofault evs hser 0 1, beq_none_some,
    List.cons_append]

/-- without emitter, `serialize` and `send` faults the loop ends normally, wherever the client disconnects -/
theorem sseLoop_ok (evs : List (Option SSEvent)) (hser : ∀ e ∈ evs, (serialize (e.getD {})).isSome = true)
    (i : Nat) (disc : Option Nat) (k : Nat) : (sseLoop evs i none disc k none).2.1 = false := by
  induction evs generalizing i k with
  | nil => rfl
  | cons e rest ih =>
    unfold sseLoop
    simp only [beq_none_some, Bool.false_eq_true, if_false]
    cases hs : serialize (e.getD {}) with
    | none => have := hser e List.mem_cons_self; rw [hs] at this; cases this
    | some b =>
      dsimp only
      split
      · rfl
      · exact ih (fun e' he' => hser e' (List.mem_cons_of_mem _ he')) (i + 1) (k + 1)

/-- the client disconnects after the event with index `d`: no exception leaves `__call__` (so, by
    `sse_frames_wellformed`, the exchange sent is complete: the events up to that one, then the final body event) -/
theorem sse_disconnect_complete (r : Resp) (c : Cfg) (hasClose : Bool) (evs : List (Option SSEvent)) (d : Nat)
    (hser : ∀ e ∈ evs, (serialize (e.getD {})).isSome = true) :
    (sseTrace r c hasClose evs none (some d) none).raised = false := by
  rw [sseTrace_eq]
  split
  · rename_i hb
    rw [(trace_refines_asgi r c hasClose).2]
    unfold asgi
    simp only [hb, if_true]
  · rw [beq_none_some, if_neg Bool.false_ne_true, finish_eq, sseLoop_ok evs hser 0 (some d) 1, beq_none_some]
    rfl

theorem getKey_append_right (m e : List (String × String)) (k : String) (h : hasKey m k = false) :
    getKey (m ++ e) k = getKey e k := by
  unfold getKey
  rw [List.find?_append]
  have : m.find? (·.1 == k) = none := by
    rw [List.find?_eq_none]
    intro x hx hk
    unfold hasKey at h
    have : m.any (·.1 == k) = true := List.any_eq_true.mpr ⟨x, hx, hk⟩
    rw [this] at h; cases h
  rw [this]; rfl

/-- the start event of an SSE response is typed `text/event-stream`, unless the response has a Content-Type already
    (set by the application, or defaulted by `render_body()` because `media` was set as well) - then that one stays -/
theorem sse_start_content_type (r1 : Resp) :
    (hasKey r1.headers "content-type" = false →
      getKey (emitHeaders r1 (some "text/event-stream")) "content-type" = some "text/event-stream") ∧
    (∀ v, getKey r1.headers "content-type" = some v →
      getKey (emitHeaders r1 (some "text/event-stream")) "content-type" = some v) := by
  constructor
  · intro h
    unfold emitHeaders
    simp only [h, Bool.false_eq_true, if_false]
    apply getKey_append_left
    rw [getKey_append_right _ _ _ h]
    rfl
  · intro v hv
    unfold emitHeaders
    simp only
    apply getKey_append_left
    split
    · exact hv
    · exact getKey_append_left _ _ _ _ hv

end Sse
