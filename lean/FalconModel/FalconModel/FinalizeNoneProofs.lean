import FalconModel.FinalizeNone
import FalconModel.FinalizeTraceProofs
/-! C05: theorems about the ASGI streaming loops over hand-out sequences that may contain `None` (`FinalizeNone.lean`):
    * `asgiTraceN_some`            the model of FinalizeTrace.lean is the special case without `None`;
    * `loopIterN_cut`, `asgiTraceN_iter`   for an async iterator / generator the `None` marker is exhaustion at that
                                   point: the exchange is `Fz.asgiTrace` of the chunks handed out before it (the chunks
                                   behind it are never asked for);
    * `traceN_wellformed`          start, body events with `more_body`, one final body event - or a prefix when an
                                   exception ended the run - for **every** hand-out sequence, stream fault and send fault;
    * `traceN_closed_exactly_once`, `traceN_closes_zero_otherwise`   the close() count;
    * `traceN_iter_payload`        the fault-free exchange of a `None`-terminated iterator. -/
namespace Fn
open Fz

theorem cutNone_some (chunks : List Bytes) : cutNone (chunks.map some) = chunks := by
  induction chunks with
  | nil => rfl
  | cons c rest ih => simp only [List.map_cons, cutNone, ih]

theorem loopIterN_cut (items : List Item) : ∀ (i : Nat) (sf : Option Nat) (k : Nat) (xf : Option Nat),
    loopIterN items i sf k xf = loopIter (cutNone items) i sf k xf := by
  induction items with
  | nil => intro i sf k xf; rfl
  | cons it rest ih =>
    intro i sf k xf
    cases it with
    | none => rfl
    | some c =>
      unfold loopIterN cutNone loopIter
      rw [ih (i + 1) sf (k + 1) xf]

theorem loopIterN_some (chunks : List Bytes) (i : Nat) (sf : Option Nat) (k : Nat) (xf : Option Nat) :
    loopIterN (chunks.map some) i sf k xf = loopIter chunks i sf k xf := by
  rw [loopIterN_cut, cutNone_some]

theorem loopFileN_some (chunks : List Bytes) : ∀ (i : Nat) (sf : Option Nat) (k : Nat) (xf : Option Nat),
    loopFileN (chunks.map some) i sf k xf = loopFile chunks i sf k xf := by
  induction chunks with
  | nil => intro i sf k xf; rfl
  | cons c rest ih =>
    intro i sf k xf
    simp only [List.map_cons]
    unfold loopFileN loopFile
    rw [ih (i + 1) sf (k + 1) xf]
    have he : (some c == some ([] : Bytes)) = c.isEmpty := by
      cases c with
      | nil => rfl
      | cons a b => simp
    simp only [he, Option.getD_some]

theorem streamLoopN_some (kind : StreamKind) (chunks : List Bytes) (sf : Option Nat) (k : Nat) (xf : Option Nat) :
    streamLoopN kind (chunks.map some) sf k xf = streamLoop kind chunks sf k xf := by
  unfold streamLoopN streamLoop
  cases kind
  · exact loopFileN_some chunks 0 sf k xf
  · exact loopIterN_some chunks 0 sf k xf

theorem asgiTraceN_eq (r : Resp) (items : List Item) (c : Cfg) (hasClose : Bool) (xf : Option Nat) :
    asgiTraceN r items c hasClose xf = dispatch r c xf (Ev.start (asgi r c).status (asgi r c).headers)
      (fun kind _ sf => finish (Ev.start (asgi r c).status (asgi r c).headers) (if hasClose then 1 else 0) xf false
        (streamLoopN kind items sf 1 xf)) := rfl

/-- **`Fz.asgiTrace` is the special case without `None`**: when the stream hands out exactly its chunk list, the
    generalised trace is `Fz.asgiTrace` -/
theorem asgiTraceN_some (r : Resp) (c : Cfg) (hasClose : Bool) (xf : Option Nat) (kind : StreamKind) (chunks : List Bytes)
    (hs : r.stream = some (kind, chunks)) :
    asgiTraceN r (chunks.map some) c hasClose xf = asgiTrace r c hasClose xf := by
  rw [asgiTraceN_eq, asgiTrace_eq]
  apply dispatch_congr
  intro kind' chunks' hs'
  obtain ⟨rfl, rfl⟩ := Prod.mk.inj (Option.some.inj (hs.symm.trans hs'))
  rw [streamLoopN_some]

/-- **the `None` marker of an async iterator is exhaustion at that point**: when the response state records, as the
    chunks its iterator delivers, the byte strings handed out before the first `None`, the exchange is exactly
    `Fz.asgiTrace` of that state (so every `Fz` theorem applies: the final body event is sent, `close()` once, …) -/
theorem asgiTraceN_iter (r : Resp) (items : List Item) (c : Cfg) (hasClose : Bool) (xf : Option Nat)
    (hs : r.stream = some (.iter, cutNone items)) :
    asgiTraceN r items c hasClose xf = asgiTrace r c hasClose xf := by
  rw [asgiTraceN_eq, asgiTrace_eq]
  apply dispatch_congr
  intro kind' chunks' hs'
  obtain ⟨rfl, rfl⟩ := Prod.mk.inj (Option.some.inj (hs.symm.trans hs'))
  exact congrArg _ (loopIterN_cut items 0 _ 1 xf)

theorem loopIterN_open (items : List Item) (i : Nat) (sf : Option Nat) (k : Nat) (xf : Option Nat) :
    bodiesOpen (loopIterN items i sf k xf).1 := by
  rw [loopIterN_cut]; exact loopIter_open _ i sf k xf

theorem loopFileN_open (items : List Item) : ∀ (i : Nat) (sf : Option Nat) (k : Nat) (xf : Option Nat),
    bodiesOpen (loopFileN items i sf k xf).1 := by
  intro i sf k xf
  fun_induction loopFileN items i sf k xf with
  | case1 => exact bodiesOpen_nil
  | case2 => exact bodiesOpen_nil
  | case3 => exact bodiesOpen_nil
  | case4 => exact bodiesOpen_nil
  | case5 it _ _ _ _ _ _ _ _ evs _ _ hcall ih => rw [hcall] at ih; exact bodiesOpen_cons _ evs ih

theorem streamLoopN_open (kind : StreamKind) (items : List Item) (sf : Option Nat) (k : Nat) (xf : Option Nat) :
    bodiesOpen (streamLoopN kind items sf k xf).1 := by
  unfold streamLoopN
  cases kind
  · exact loopFileN_open items 0 sf k xf
  · exact loopIterN_open items 0 sf k xf

/-- **ASGI framing for every hand-out sequence** (byte strings and `None` in any order, either kind of stream), every
    failing stream call and every failing `send` index: one start event first, then body events of which only the last
    has `more_body = false`, nothing afterwards; a run ended by an exception sent nothing or the start event followed
    only by body events with `more_body = true`.  In particular a stream that ends with the `None` marker gets its final
    body event. -/
theorem traceN_wellformed (r : Resp) (items : List Item) (c : Cfg) (hasClose : Bool) (xf : Option Nat) :
    ((asgiTraceN r items c hasClose xf).raised = false → Complete (asgiTraceN r items c hasClose xf).events) ∧
    ((asgiTraceN r items c hasClose xf).raised = true → CutShort (asgiTraceN r items c hasClose xf).events) := by
  rw [asgiTraceN_eq]
  exact dispatch_wf r c xf _ _ _ fun kind _ sf => finish_wf _ _ _ _ _ _ (streamLoopN_open kind items sf 1 xf)

/-- **close() exactly once, once streaming has begun** - for every hand-out sequence, `None` items included -/
theorem traceN_closed_exactly_once (r : Resp) (items : List Item) (c : Cfg) (hasClose : Bool) (xf : Option Nat)
    (hb : Begun r c xf) : (asgiTraceN r items c hasClose xf).closes = if hasClose then 1 else 0 := by
  obtain ⟨_, _, _, h⟩ := dispatch_begun r c xf _ _ hb
  rw [asgiTraceN_eq, h]
  exact finish_closes _ _ _ _ _

/-- and never when streaming did not begin -/
theorem traceN_closes_zero_otherwise (r : Resp) (items : List Item) (c : Cfg) (hasClose : Bool) (xf : Option Nat)
    (hb : ¬ Begun r c xf) : (asgiTraceN r items c hasClose xf).closes = 0 := by
  obtain ⟨_, h⟩ := dispatch_not_begun r c xf _ _ hb
  rw [asgiTraceN_eq, h]
  exact twoEvents_closes _ _ _

theorem drainIter_nofail (chunks : List Bytes) : ∀ i, drainIter chunks none i = (chunks, false) := by
  induction chunks with
  | nil => intro i; rfl
  | cons c rest ih =>
    intro i
    unfold drainIter
    rw [ih (i + 1)]
    rfl

/-- the exchange of a `None`-terminated iterator without faults: the byte strings handed out before the marker, one
    body event each, then the final empty body event; no exception -/
theorem traceN_iter_payload (r : Resp) (items : List Item) (c : Cfg) (hasClose : Bool)
    (hh : c.head = false) (hbl : bodiless r.status = false) (hrd : rendered r = none)
    (hs : r.stream = some (.iter, cutNone items)) (hf : r.streamFail = none) :
    evBodies (asgiTraceN r items c hasClose none).events = cutNone items ++ [[]] ∧
    (asgiTraceN r items c hasClose none).raised = false := by
  -- `Fz.asgi` drains `cutNone items` without a failure and appends the empty final chunk
  have hasgi : (asgi r c).body = cutNone items ++ [[]] ∧ (asgi r c).iterErr = false := by
    obtain ⟨f1, f2, f3, _⟩ := renderBody_frame r c
    have fd := renderBody_fst r c
    unfold asgi
    rcases hrb : renderBody r c with ⟨data, r1⟩
    rw [hrb] at f1 f2 f3 fd
    simp only at f1 f2 f3 fd
    have hbb : (c.head || bodiless r1.status) = false := by rw [f1, hh, hbl]; rfl
    simp only [hbb, Bool.false_eq_true, if_false]
    have hd : data = none := by rw [fd]; exact hrd
    subst hd
    simp only [f2, hs, f3, hf, drainIter_nofail]
    simp
  obtain ⟨h1, h2⟩ := trace_refines_asgi r c hasClose
  rw [asgiTraceN_iter r items c hasClose none hs, h1, h2]
  exact hasgi

def exResp : Resp := { status := 200, text := none, data := none, media := none, stream := some (StreamKind.iter, []),
                       streamFail := none, headers := [], cookies := [] }
def exCfg : Cfg := { head := false, appDefaultType := none, respDefaultType := none, fileWrapper := false }

/-- an async generator that yields b"a", then None, and would have yielded b"b": start, one body event, the final event -/
example : (asgiTraceN exResp [some [97], none, some [98]] exCfg true none).events
    = [Ev.start 200 [], Ev.body [97] true, Ev.body [] false] := by decide

/-- a `read()` that returns None: an empty body event with more_body, reading goes on -/
example : (asgiTraceN { exResp with stream := some (StreamKind.fileLike, []) } [some [97], none, some [98]] exCfg true none).events
    = [Ev.start 200 [], Ev.body [97] true, Ev.body [] true, Ev.body [98] true, Ev.body [] false] := by decide

end Fn
