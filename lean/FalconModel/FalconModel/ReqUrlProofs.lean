import FalconModel.ReqUrl
import FalconModel.ForwardedProofs
import FalconModel.CookieOutProofs
/-! C09 proofs for `ReqUrl.lean`: how `uri`, `prefix`, `relative_uri`, the `forwarded_*` variants, `netloc` and `subdomain` fit together.

    * `uri_eq_prefix_path_query`, `uri_eq_prefix_relative` (an iff: only for an empty `root_path`), `forwarded_uri_eq`, `forwarded_eq_plain`;
    * `forwarded_scheme_precedence`, `forwarded_host_precedence`, `xforwarded_ignored_with_forwarded`, `forwarded_valid_eq_rfc`;
    * `netloc_omits_default_port_only_without_host_header` (WSGI) and its ASGI twin; `subdomain_spec`; `initPath_*`;
    * memo cells: `access_fresh`, `run_fresh` / `run_new` (any sequence of reads returns fresh values), `memo_idempotent`;
    * `wsgi_forwarded_core` / `asgi_forwarded_core`, `wsgi_asgi_core`, `wsgi_asgi_agree`. -/
namespace Ru
open Hp (Str AccRes)
open Fw (Fwd)

/-! ### `path` as `__init__` leaves it -/
theorem initPath_ne_nil (raw : Str) (strip : Bool) : initPath raw strip ≠ [] := by
  unfold initPath
  have hne : (if raw.isEmpty then ['/'] else raw) ≠ [] := by
    split
    · exact List.cons_ne_nil _ _
    · rename_i h; intro e; rw [e] at h; exact h rfl
  generalize (if raw.isEmpty then ['/'] else raw) = p at hne ⊢
  simp only
  split
  · rename_i hc
    simp only [Bool.and_eq_true, bne_iff_ne, ne_eq] at hc
    match p, hc with
    | [_], hc => exact absurd rfl hc.1.2
    | _ :: _ :: _, _ => exact List.cons_ne_nil _ _
  · exact hne

/-- a single trailing slash of a longer path is removed when the option is set -/
theorem initPath_strip (p : Str) (hp : p ≠ []) : initPath (p ++ ['/']) true = p := by
  unfold initPath
  have h1 : (p ++ ['/']).isEmpty = false := by cases p <;> rfl
  have h2 : ((p ++ ['/']).length != 1) = true := by
    cases p with
    | nil => exact absurd rfl hp
    | cons a t => simp
  simp [h1, hp]

theorem initPath_keep (raw : Str) (hr : raw ≠ []) : initPath raw false = raw := by
  unfold initPath
  have : raw.isEmpty = false := by cases raw with | nil => exact absurd rfl hr | cons _ _ => rfl
  simp [this]

theorem initPath_root (strip : Bool) : initPath [] strip = ['/'] ∧ initPath ['/'] strip = ['/'] := by
  cases strip <;> exact ⟨rfl, rfl⟩

theorem relativeUri_eq (k : Core) : relativeUri k = k.rootPath ++ pathQuery k := by
  unfold relativeUri pathQuery; split <;> simp [List.append_assoc]

/-- **`uri = prefix + path [+ '?' + query]`** -/
theorem uri_eq_prefix_path_query (k : Core) : uri k = pfx k ++ pathQuery k := by
  simp only [uri, pfx, relativeUri_eq, List.append_assoc]

/-- `prefix` and `relative_uri` both carry `root_path`: `uri = prefix + relative_uri` holds exactly when `root_path` is empty -/
theorem uri_eq_prefix_relative (k : Core) : uri k = pfx k ++ relativeUri k ↔ k.rootPath = [] := by
  constructor
  · intro h
    have := congrArg List.length h
    simp only [uri, pfx, relativeUri_eq, List.length_append] at this
    exact List.eq_nil_of_length_eq_zero (by omega)
  · intro h
    simp only [uri, pfx, relativeUri_eq, h, List.append_nil, List.nil_append, List.append_assoc]

/-- in general the concatenation repeats `root_path` -/
theorem prefix_relative_eq (k : Core) : pfx k ++ relativeUri k = k.scheme ++ sep ++ k.netloc ++ k.rootPath ++ k.rootPath ++ pathQuery k := by
  simp only [pfx, relativeUri_eq, List.append_assoc]

theorem uri_eq (k : Core) : uri k = k.scheme ++ sep ++ k.netloc ++ k.rootPath ++ k.path ++ (if k.query.isEmpty then [] else '?' :: k.query) := by
  simp only [uri, relativeUri]; split <;> simp [List.append_assoc]

/-- **`forwarded_uri`** is `forwarded_scheme://forwarded_host` + `relative_uri` = `forwarded_prefix` + path and query -/
theorem forwarded_uri_eq (k : Core) :
    forwardedUri k = forwardedScheme k ++ sep ++ forwardedHost k ++ relativeUri k ∧ forwardedUri k = forwardedPrefix k ++ pathQuery k := by
  refine ⟨rfl, ?_⟩
  simp only [forwardedUri, forwardedPrefix, relativeUri_eq, List.append_assoc]

/-- without any of the three headers the forwarded variants are the plain ones -/
theorem forwarded_eq_plain (k : Core) (h1 : k.forwarded = none) (h2 : k.xfProto = none) (h3 : k.xfHost = none) :
    forwardedScheme k = k.scheme ∧ forwardedHost k = k.netloc ∧ forwardedPrefix k = pfx k ∧ forwardedUri k = uri k := by
  have a : forwardedScheme k = k.scheme := by simp [forwardedScheme, forwardedSchemeOf, h1, h2]
  have b : forwardedHost k = k.netloc := by simp [forwardedHost, forwardedHostOf, h1, h3]
  exact ⟨a, b, by simp only [forwardedPrefix, pfx, a, b], by simp only [forwardedUri, uri, a, b]⟩

/-! ### `forwarded_scheme` / `forwarded_host`: Forwarded, else X-Forwarded-*, else the request's own -/
/-- **`forwarded_scheme_precedence`** -/
theorem forwarded_scheme_precedence (k : Core) :
    (∀ h hop rest, k.forwarded = some h → Fw.parseForwarded h = hop :: rest → forwardedScheme k = orStr hop.scheme k.scheme) ∧
    (∀ h, k.forwarded = some h → Fw.parseForwarded h = [] → forwardedScheme k = k.scheme) ∧
    (∀ p, k.forwarded = none → k.xfProto = some p → forwardedScheme k = Fw.lowerS p) ∧
    (k.forwarded = none → k.xfProto = none → forwardedScheme k = k.scheme) := by
  refine ⟨?_, ?_, ?_, ?_⟩
  · intro h hop rest h1 h2; simp [forwardedScheme, forwardedSchemeOf, forwarded, h1, h2]
  · intro h h1 h2; simp [forwardedScheme, forwardedSchemeOf, forwarded, h1, h2]
  · intro p h1 h2; simp [forwardedScheme, forwardedSchemeOf, h1, h2]
  · intro h1 h2; simp [forwardedScheme, forwardedSchemeOf, h1, h2]

theorem forwarded_host_precedence (k : Core) :
    (∀ h hop rest, k.forwarded = some h → Fw.parseForwarded h = hop :: rest → forwardedHost k = orStr hop.host k.netloc) ∧
    (∀ h, k.forwarded = some h → Fw.parseForwarded h = [] → forwardedHost k = k.netloc) ∧
    (∀ p, k.forwarded = none → k.xfHost = some p → forwardedHost k = p) ∧
    (k.forwarded = none → k.xfHost = none → forwardedHost k = k.netloc) := by
  refine ⟨?_, ?_, ?_, ?_⟩
  · intro h hop rest h1 h2; simp [forwardedHost, forwardedHostOf, forwarded, h1, h2]
  · intro h h1 h2; simp [forwardedHost, forwardedHostOf, forwarded, h1, h2]
  · intro p h1 h2; simp [forwardedHost, forwardedHostOf, h1, h2]
  · intro h1 h2; simp [forwardedHost, forwardedHostOf, h1, h2]

/-- as soon as a Forwarded header is present the X-Forwarded-* headers are not looked at, whatever they hold -/
theorem xforwarded_ignored_with_forwarded (k : Core) (h : k.forwarded.isSome = true) (p q : Option Str) :
    forwardedScheme { k with xfProto := p, xfHost := q } = forwardedScheme k ∧ forwardedHost { k with xfProto := p, xfHost := q } = forwardedHost k := by
  cases hf : k.forwarded with
  | none => rw [hf] at h; exact absurd h (by decide)
  | some v =>
    unfold forwardedScheme forwardedHost forwardedSchemeOf forwardedHostOf forwarded
    simp only [hf, and_self]

/-- on a grammatical header (RFC 7239; distinct parameter names per element) the forwarded scheme / host are the first
    element's `proto` in lower case / `host`, and the request's own scheme / netloc when the parameter is missing or empty -/
theorem forwarded_valid_eq_rfc (k : Core) (e : List Fw.Param) (es : List (List Fw.Param)) (hf : k.forwarded = some (Fw.render (e :: es)))
    (hne : ∀ x ∈ e :: es, x ≠ []) (hv : ∀ x ∈ e :: es, ∀ p ∈ x, p.valid = true) (hd : ∀ x ∈ e :: es, (x.map Fw.Param.key).Nodup) :
    forwardedScheme k = orStr ((Fw.getParam e ['p', 'r', 'o', 't', 'o']).map Fw.lowerS) k.scheme ∧
    forwardedHost k = orStr (Fw.getParam e ['h', 'o', 's', 't']) k.netloc := by
  have hp := Fw.forwarded_valid_eq_rfc (e :: es) hne hv hd
  simp only [List.map_cons] at hp
  obtain ⟨a, _, _, _⟩ := forwarded_scheme_precedence k
  obtain ⟨b, _, _, _⟩ := forwarded_host_precedence k
  exact ⟨a _ _ _ hf hp, b _ _ _ hf hp⟩

/-- **`subdomain_spec`**: the host up to its first dot; `None` when it has no dot; a 400 exactly when `host` is one -/
theorem subdomain_spec (k : Core) :
    (k.host = .bad400 → subdomain k = .bad400) ∧
    (∀ a b, k.host = .ok (a ++ '.' :: b) → '.' ∉ a → subdomain k = .ok (some a)) ∧
    (∀ h, k.host = .ok h → '.' ∉ h → subdomain k = .ok none) := by
  refine ⟨?_, ?_, ?_⟩
  · intro h; simp [subdomain, h]
  · intro a b h ha; simp [subdomain, h, Hp.partition_append a b '.' ha]
  · intro h hh hn; simp [subdomain, hh, Hp.partition_no_sep h '.' hn]

/-- **WSGI**: with a Host header `netloc` is that header verbatim (an explicit default port stays); without one it is
    `SERVER_NAME`, followed by `':' + SERVER_PORT` unless the port text is `'443'` under `https` resp. `'80'` under any other scheme -/
theorem netloc_omits_default_port_only_without_host_header (e : Wsgi) :
    (∀ h, e.httpHost = some h → e.netloc = h) ∧
    (e.httpHost = none → e.netloc =
      e.serverName ++ (if e.serverPort = (if e.urlScheme = sHttps then s443 else s80) then [] else ':' :: e.serverPort)) := by
  refine ⟨?_, ?_⟩
  · intro h hh; simp [Wsgi.netloc, hh]
  · intro hh
    simp only [Wsgi.netloc, hh, Wsgi.scheme]
    by_cases hs : e.urlScheme = sHttps
    · by_cases hp : e.serverPort = s443 <;> simp [hs, hp]
    · by_cases hp : e.serverPort = s80 <;> simp [hs, hp]

/-- **ASGI**: the same with the server's integer port; `wss` counts as secure; a missing server is `localhost` on the default port -/
theorem asgi_netloc_omits_default_port_only_without_host_header (a : Asgi) :
    (∀ h, a.hostHeader = some h → a.netloc = h) ∧
    (a.hostHeader = none → a.netloc =
      a.serverOf.1 ++ (if a.serverOf.2 = (if a.secure then 443 else 80) then [] else ':' :: Cw.intDec a.serverOf.2)) ∧
    (a.hostHeader = none → a.server = none → a.netloc = sLocalhost) := by
  refine ⟨?_, ?_, ?_⟩
  · intro h hh; simp [Asgi.netloc, hh]
  · intro hh
    simp only [Asgi.netloc, hh]
    cases hs : a.secure with
    | true => by_cases hp : a.serverOf.2 = 443 <;> simp [hp]
    | false => by_cases hp : a.serverOf.2 = 80 <;> simp [hp]
  · intro hh hsv
    simp only [Asgi.netloc, hh, Asgi.serverOf, hsv]
    cases hs : a.secure <;> simp

/-- `Host: example.com:80` on plain http: the explicit default port stays in `netloc` (and hence in `uri`) -/
def exWsgi : Wsgi :=
  { urlScheme := sHttp, httpHost := some "example.com:80".toList, serverName := "srv".toList, serverPort := s80, scriptName := some "/app".toList,
    rawPath := "/p/q/".toList, stripSlash := true, queryString := some "x=1".toList, forwarded := some "for=1.2.3.4;Proto=HTTPS, proto=http".toList,
    xfProto := some "ws".toList, xfHost := some "xfh.example".toList }
example : exWsgi.netloc = "example.com:80".toList ∧ ({ exWsgi with httpHost := none } : Wsgi).netloc = "srv".toList ∧
    ({ exWsgi with httpHost := none, urlScheme := sHttps } : Wsgi).netloc = "srv:80".toList := by decide +kernel


/-! ### the two transcriptions of `forwarded_scheme` / `forwarded_host` are the shared one -/
theorem wsgi_forwarded_core (e : Wsgi) (fl : Option (List Fwd)) :
    e.forwardedSchemeOf fl = forwardedSchemeOf e.core fl ∧ e.forwardedHostOf fl = forwardedHostOf e.core fl := ⟨rfl, rfl⟩

theorem asgi_forwarded_core (a : Asgi) (fl : Option (List Fwd)) :
    a.forwardedSchemeOf fl = forwardedSchemeOf a.core fl ∧ a.forwardedHostOf fl = forwardedHostOf a.core fl := ⟨rfl, rfl⟩

/-- every cell is unset or holds what a fresh computation gives -/
structure Cache.Ok (k : Core) (c : Cache) : Prop where
  forwarded : c.forwarded = none ∨ c.forwarded = Ru.forwarded k
  relativeUri : c.relativeUri = none ∨ c.relativeUri = some (Ru.relativeUri k)
  uri : c.uri = none ∨ c.uri = some (Ru.uri k)
  pfx : c.pfx = none ∨ c.pfx = some (Ru.pfx k)
  forwardedUri : c.forwardedUri = none ∨ c.forwardedUri = some (Ru.forwardedUri k)
  forwardedPrefix : c.forwardedPrefix = none ∨ c.forwardedPrefix = some (Ru.forwardedPrefix k)

theorem Cache.ok_empty (k : Core) : Cache.Ok k {} := ⟨Or.inl rfl, Or.inl rfl, Or.inl rfl, Or.inl rfl, Or.inl rfl, Or.inl rfl⟩

/-- a set cell holds the fresh value -/
theorem cell_eq {α : Type} {x : Option α} {v f : α} (h : x = none ∨ x = some f) (hx : x = some v) : v = f := by
  rcases h with h | h
  · rw [hx] at h; cases h
  · rw [hx] at h; cases h; rfl

theorem forwardedM_ok (k : Core) (c : Cache) (h : c.Ok k) : (forwardedM k c).1 = forwarded k ∧ (forwardedM k c).2.Ok k := by
  unfold forwardedM
  cases hc : c.forwarded with
  | some v =>
    rcases h.forwarded with h1 | h1
    · rw [hc] at h1; cases h1
    · exact ⟨by rw [← h1, hc], h⟩
  | none =>
    cases hk : k.forwarded with
    | none => exact ⟨by simp [forwarded, hk], h⟩
    | some v => exact ⟨by simp [forwarded, hk], { h with forwarded := Or.inr (by simp [forwarded, hk]) }⟩

theorem forwardedSchemeM_ok (k : Core) (c : Cache) (h : c.Ok k) : (forwardedSchemeM k c).1 = forwardedScheme k ∧ (forwardedSchemeM k c).2.Ok k := by
  unfold forwardedSchemeM
  cases hk : k.forwarded with
  | none => exact ⟨by simp [forwardedScheme, forwardedSchemeOf, hk], h⟩
  | some v => exact ⟨by simp only [forwardedScheme, (forwardedM_ok k c h).1], (forwardedM_ok k c h).2⟩

theorem forwardedHostM_ok (k : Core) (c : Cache) (h : c.Ok k) : (forwardedHostM k c).1 = forwardedHost k ∧ (forwardedHostM k c).2.Ok k := by
  unfold forwardedHostM
  cases hk : k.forwarded with
  | none => exact ⟨by simp [forwardedHost, forwardedHostOf, hk], h⟩
  | some v => exact ⟨by simp only [forwardedHost, (forwardedM_ok k c h).1], (forwardedM_ok k c h).2⟩

theorem relativeUriM_ok (k : Core) (c : Cache) (h : c.Ok k) : (relativeUriM k c).1 = relativeUri k ∧ (relativeUriM k c).2.Ok k := by
  unfold relativeUriM
  cases hc : c.relativeUri with
  | some v => exact ⟨cell_eq h.relativeUri hc, h⟩
  | none => exact ⟨rfl, { h with relativeUri := Or.inr rfl }⟩

theorem pfxM_ok (k : Core) (c : Cache) (h : c.Ok k) : (pfxM k c).1 = pfx k ∧ (pfxM k c).2.Ok k := by
  unfold pfxM
  cases hc : c.pfx with
  | some v => exact ⟨cell_eq h.pfx hc, h⟩
  | none => exact ⟨rfl, { h with pfx := Or.inr rfl }⟩

theorem uriM_ok (k : Core) (c : Cache) (h : c.Ok k) : (uriM k c).1 = uri k ∧ (uriM k c).2.Ok k := by
  unfold uriM
  cases hc : c.uri with
  | some v => exact ⟨cell_eq h.uri hc, h⟩
  | none =>
    obtain ⟨r1, r2⟩ := relativeUriM_ok k c h
    simp only [r1]
    exact ⟨rfl, { r2 with uri := Or.inr rfl }⟩

theorem forwardedPrefixM_ok (k : Core) (c : Cache) (h : c.Ok k) : (forwardedPrefixM k c).1 = forwardedPrefix k ∧ (forwardedPrefixM k c).2.Ok k := by
  unfold forwardedPrefixM
  cases hc : c.forwardedPrefix with
  | some v => exact ⟨cell_eq h.forwardedPrefix hc, h⟩
  | none =>
    obtain ⟨s1, s2⟩ := forwardedSchemeM_ok k c h
    obtain ⟨h1, h2⟩ := forwardedHostM_ok k _ s2
    simp only [s1, h1]
    exact ⟨rfl, { h2 with forwardedPrefix := Or.inr rfl }⟩

theorem forwardedUriM_ok (k : Core) (c : Cache) (h : c.Ok k) : (forwardedUriM k c).1 = forwardedUri k ∧ (forwardedUriM k c).2.Ok k := by
  unfold forwardedUriM
  cases hc : c.forwardedUri with
  | some v => exact ⟨cell_eq h.forwardedUri hc, h⟩
  | none =>
    obtain ⟨s1, s2⟩ := forwardedSchemeM_ok k c h
    obtain ⟨h1, h2⟩ := forwardedHostM_ok k _ s2
    obtain ⟨r1, r2⟩ := relativeUriM_ok k _ h2
    simp only [s1, h1, r1]
    exact ⟨rfl, { r2 with forwardedUri := Or.inr rfl }⟩

/-- **one read**: on an object whose cells are consistent every property returns what a fresh computation gives, and leaves the cells consistent -/
theorem access_fresh (k : Core) (a : Attr) (c : Cache) (h : c.Ok k) : (access k a c).1 = fresh k a ∧ (access k a c).2.Ok k := by
  cases a with
  | scheme => exact ⟨rfl, h⟩
  | netloc => exact ⟨rfl, h⟩
  | host => exact ⟨rfl, h⟩
  | rootPath => exact ⟨rfl, h⟩
  | subdomain => exact ⟨rfl, h⟩
  | forwarded => exact (forwardedM_ok k c h).imp (congrArg _) id
  | forwardedScheme => exact (forwardedSchemeM_ok k c h).imp (congrArg _) id
  | forwardedHost => exact (forwardedHostM_ok k c h).imp (congrArg _) id
  | relativeUri => exact (relativeUriM_ok k c h).imp (congrArg _) id
  | pfx => exact (pfxM_ok k c h).imp (congrArg _) id
  | forwardedPrefix => exact (forwardedPrefixM_ok k c h).imp (congrArg _) id
  | uri => exact (uriM_ok k c h).imp (congrArg _) id
  | forwardedUri => exact (forwardedUriM_ok k c h).imp (congrArg _) id

/-- **any sequence of reads** on a new request object: every read, in whatever order and however often repeated, returns the fresh value -/
theorem run_fresh (k : Core) : ∀ (as : List Attr) (c : Cache), c.Ok k → (run k as c).1 = as.map (fresh k) ∧ (run k as c).2.Ok k
  | [], c, h => ⟨rfl, h⟩
  | a :: as, c, h => by
    obtain ⟨a1, a2⟩ := access_fresh k a c h
    obtain ⟨r1, r2⟩ := run_fresh k as _ a2
    exact ⟨by simp only [run, a1, r1, List.map_cons], r2⟩

theorem run_new (k : Core) (as : List Attr) : (run k as {}).1 = as.map (fresh k) := (run_fresh k as {} (Cache.ok_empty k)).1

theorem forwardedM_idem (k : Core) (c : Cache) : forwardedM k (forwardedM k c).2 = forwardedM k c := by
  unfold forwardedM
  cases hc : c.forwarded with
  | some v => simp [hc]
  | none => cases hk : k.forwarded <;> simp only [hc]

/-- **`memo_idempotent`**, for each of the thirteen properties and every state of the memo cells: reading a property a second
    time returns the value of the first read and leaves all cells as the first read left them -/
theorem memo_idempotent (k : Core) (a : Attr) (c : Cache) : access k a (access k a c).2 = access k a c := by
  cases a with
  | scheme => rfl
  | netloc => rfl
  | host => rfl
  | rootPath => rfl
  | subdomain => rfl
  | forwarded => simp only [access, forwardedM_idem]
  | forwardedScheme =>
    unfold access forwardedSchemeM
    cases hk : k.forwarded with
    | none => rfl
    | some v => simp only [forwardedM_idem]
  | forwardedHost =>
    unfold access forwardedHostM
    cases hk : k.forwarded with
    | none => rfl
    | some v => simp only [forwardedM_idem]
  | relativeUri => unfold access relativeUriM; cases hc : c.relativeUri <;> simp only [hc]
  | pfx => unfold access pfxM; cases hc : c.pfx <;> simp only [hc]
  | forwardedPrefix => unfold access forwardedPrefixM; cases hc : c.forwardedPrefix <;> simp only [hc]
  | uri => unfold access uriM; cases hc : c.uri <;> simp only [hc]
  | forwardedUri => unfold access forwardedUriM; cases hc : c.forwardedUri <;> simp only [hc]


/-! ### WSGI and ASGI compose the same URL from agreeing inputs (feeds C06) -/
/-- value of a string of decimal digits -/
def decVal (s : Str) : Nat := s.foldl (fun a c => 10 * a + (c.toNat - 48)) 0

theorem decVal_natDec (n : Nat) : decVal (Cw.natDec n) = n := by
  fun_induction Cw.natDec n with
  | case1 n h =>
    simp only [decVal, List.foldl_cons, List.foldl_nil, Cw.digit_toNat, Nat.add_sub_cancel_left, Nat.mul_zero, Nat.zero_add]
    exact Nat.mod_eq_of_lt h
  | case2 n h ih =>
    simp only [decVal] at ih
    simp only [decVal, List.foldl_append, List.foldl_cons, List.foldl_nil, ih, Cw.digit_toNat, Nat.add_sub_cancel_left]
    exact Nat.div_add_mod n 10

theorem natDec_80 : Cw.natDec 80 = s80 := by
  rw [Cw.natDec, if_neg (by decide), Cw.natDec, if_pos (by decide)]; decide

theorem natDec_443 : Cw.natDec 443 = s443 := by
  rw [Cw.natDec, if_neg (by decide), Cw.natDec, if_neg (by decide), Cw.natDec, if_pos (by decide)]; decide

/-- `str(p)` is the decimal text of a natural number exactly when `p` is that number -/
theorem intDec_eq_natDec (p : Int) (n : Nat) (hd : (Cw.natDec n).head? ≠ some '-') : Cw.intDec p = Cw.natDec n ↔ p = n := by
  constructor
  · intro h
    unfold Cw.intDec at h
    split at h
    · rw [← h] at hd; simp at hd
    · have := congrArg decVal h
      rw [decVal_natDec, decVal_natDec] at this
      omega
  · intro h; subst h
    rw [Cw.intDec, if_neg (by omega), Int.toNat_natCast]

/-- `str(port) == '443'` exactly for the port 443 (and likewise 80) -/
theorem intDec_443 (p : Int) : Cw.intDec p = s443 ↔ p = 443 := by
  rw [← natDec_443]; exact intDec_eq_natDec p 443 (by rw [natDec_443]; decide)

theorem intDec_80 (p : Int) : Cw.intDec p = s80 ↔ p = 80 := by
  rw [← natDec_80]; exact intDec_eq_natDec p 80 (by rw [natDec_80]; decide)

/-- the same request as a WSGI server and as an ASGI server present it (`SERVER_PORT` is the decimal text of the port; the
    path after undoing the WSGI tunnelling; `wss` is not a WSGI scheme) -/
structure Agree (e : Wsgi) (a : Asgi) : Prop where
  scheme : a.schemeOpt = some e.urlScheme
  notWss : e.urlScheme ≠ sWss
  host : a.hostHeader = e.httpHost
  server : ∃ p : Int, a.server = some (e.serverName, p) ∧ e.serverPort = Cw.intDec p
  root : a.rootPathOpt.getD [] = e.scriptName.getD []
  path : a.rawPath = e.rawPath
  strip : a.stripSlash = e.stripSlash
  query : a.queryString = e.queryString.getD []
  forwarded : a.forwarded = e.forwarded
  xfProto : a.xfProto = e.xfProto
  xfHost : a.xfHost = e.xfHost

theorem agree_netloc (e : Wsgi) (a : Asgi) (h : Agree e a) : a.netloc = e.netloc := by
  obtain ⟨p, hs, hp⟩ := h.server
  have hsch : a.scheme = e.urlScheme := by simp [Asgi.scheme, h.scheme]
  have hsec : a.secure = (e.urlScheme == sHttps) := by
    have : (e.urlScheme == sWss) = false := by simpa using h.notWss
    simp [Asgi.secure, hsch, this]
  have b443 : (Cw.intDec p != s443) = (p != 443) := by rw [Bool.eq_iff_iff]; simp [intDec_443]
  have b80 : (Cw.intDec p != s80) = (p != 80) := by rw [Bool.eq_iff_iff]; simp [intDec_80]
  simp only [Asgi.netloc, Wsgi.netloc, h.host, Wsgi.scheme, hsec, Asgi.serverOf, hs, hp, b443, b80]

/-- **WSGI/ASGI agreement**: agreeing inputs give the same `Core`, hence the same value for every property … -/
theorem wsgi_asgi_core (e : Wsgi) (a : Asgi) (h : Agree e a) : a.core = e.core := by
  obtain ⟨p, hs, hp⟩ := h.server
  have hsch : a.scheme = e.scheme := by simp [Asgi.scheme, Wsgi.scheme, h.scheme]
  have hhost : a.host = e.host := by simp [Asgi.host, Wsgi.host, h.host, Asgi.serverOf, hs]
  simp only [Asgi.core, Wsgi.core, hsch, agree_netloc e a h, hhost, Asgi.rootPath, Wsgi.rootPath, h.root, h.path, h.strip, h.query, h.forwarded,
    h.xfProto, h.xfHost]

/-- … in every sequence of reads -/
theorem wsgi_asgi_agree (e : Wsgi) (a : Asgi) (h : Agree e a) (as : List Attr) (c : Cache) : run a.core as c = run e.core as c := by
  rw [wsgi_asgi_core e a h]

def exAsgi : Asgi :=
  { schemeOpt := some sHttp, websocket := false, hostHeader := some "example.com:80".toList, server := some ("srv".toList, 80),
    rootPathOpt := some "/app".toList, rawPath := "/p/q/".toList, stripSlash := true, queryString := "x=1".toList,
    forwarded := some "for=1.2.3.4;Proto=HTTPS, proto=http".toList, xfProto := some "ws".toList, xfHost := some "xfh.example".toList }

example : Agree exWsgi exAsgi :=
  ⟨rfl, by decide, rfl, ⟨80, rfl, by rw [(intDec_80 80).mpr rfl]; rfl⟩, rfl, rfl, rfl, rfl, rfl, rfl, rfl⟩

example : (run exWsgi.core [.uri, .forwardedUri, .pfx, .relativeUri, .subdomain, .forwardedScheme, .uri] {}).1 =
    [.str "http://example.com:80/app/p/q?x=1".toList, .str "https://example.com:80/app/p/q?x=1".toList, .str "http://example.com:80/app".toList,
     .str "/app/p/q?x=1".toList, .sub (.ok (some "example".toList)), .str "https".toList, .str "http://example.com:80/app/p/q?x=1".toList] := by decide +kernel

/-- `uri ≠ prefix + relative_uri` as soon as there is a root path -/
example : uri exWsgi.core ≠ pfx exWsgi.core ++ relativeUri exWsgi.core := by decide +kernel

/-- the Forwarded header wins over X-Forwarded-Proto / X-Forwarded-Host; without `host=` the request's own netloc is used, not X-Forwarded-Host -/
example : forwardedScheme exWsgi.core = "https".toList ∧ forwardedHost exWsgi.core = "example.com:80".toList ∧
    forwardedScheme { exWsgi.core with forwarded := none } = "ws".toList ∧ forwardedHost { exWsgi.core with forwarded := none } = "xfh.example".toList := by decide +kernel

end Ru
