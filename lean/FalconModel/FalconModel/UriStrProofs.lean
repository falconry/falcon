import FalconModel.UriStr
import FalconModel.UriEncodeProofs
import FalconModel.Utf8Proofs
/-! C10, str level: the byte-level theorems of `UriEncodeProofs` lifted through `str.encode()` / `bytes.decode('utf-8','replace')`. -/
namespace Us
open U8 (ValidScalar encodeCp)

/-- a string of Unicode scalar values (what `str.encode()` accepts) -/
def ValidStr (s : Str) : Prop := ∀ c ∈ s, ValidScalar c
instance (s : Str) : Decidable (ValidStr s) := by unfold ValidStr; exact inferInstance

theorem validStr_of_ascii (s : Str) (h : ∀ c ∈ s, c < 0x80) : ValidStr s := by
  intro c hc; have := h c hc; unfold ValidScalar; omega

theorem validStr_replacePlus (s : Str) (h : ValidStr s) : ValidStr (replacePlus s) := by
  intro c hc
  obtain ⟨x, hx, rfl⟩ := List.mem_map.mp hc
  split
  · exact Or.inl (by decide)
  · exact h x hx

/-- `'+' in s` / `'%' in s` on the str = the same test on the UTF-8 bytes -/
theorem contains_encode (s : Str) (hv : ValidStr s) (a : UInt8) (ha : a.toNat < 0x80) :
    (U8.encode s).contains a = s.contains a.toNat := by
  rw [Bool.eq_iff_iff, List.contains_iff_mem, List.contains_iff_mem]
  exact U8.mem_encode_ascii s hv a ha

/-- one code point: `'+' → ' '` before or after encoding -/
theorem encodeCp_plus (c : Nat) (hv : ValidScalar c) :
    encodeCp (if c == 43 then 32 else c) = (encodeCp c).map (fun b => if b == 43 then 32 else b) := by
  by_cases h43 : c = 43
  · subst h43; rfl
  · rw [if_neg (by simpa using h43), Uri.map_plus_id]
    intro b hb e
    subst e
    by_cases h : c < 0x80
    · rw [U8.encodeCp_ascii c h, List.mem_singleton] at hb
      exact h43 ((U8.toNat_toUInt8 c (by omega)).symm.trans (congrArg UInt8.toNat hb.symm))
    · exact absurd (U8.encodeCp_high c h hv.lt 43 hb) (by decide)

/-- `s.replace('+',' ').encode() = s.encode().replace(b'+', b' ')` -/
theorem encode_replacePlus (s : Str) (hv : ValidStr s) :
    U8.encode (replacePlus s) = (U8.encode s).map (fun b => if b == 43 then 32 else b) := by
  unfold U8.encode replacePlus
  rw [List.flatMap_map, List.map_flatMap, List.flatMap_def, List.flatMap_def,
    List.map_congr_left (fun c hc => encodeCp_plus c (hv c hc))]

theorem replacePlus_of_not_contains (s : Str) (h : s.contains 43 = false) : replacePlus s = s := by
  unfold replacePlus
  conv => rhs; rw [← List.map_id s]
  refine List.map_congr_left (fun c hc => if_neg (fun e => ?_))
  have : s.contains 43 = true := List.contains_iff_mem.mpr (eq_of_beq e ▸ hc)
  rw [h] at this; cases this

/-- **refinement**: for every string of scalar values, the str-level `decode` (str tests, str.replace, short-circuit that
    returns the str itself) equals the byte-level model on `s.encode()` followed by UTF-8 replace-decoding -/
theorem decode_eq_bytes (plus : Bool) (s : Str) (hv : ValidStr s) :
    decode plus s = U8.decodeReplace (Uri.decodePlus plus (U8.encode s)) := by
  -- the '%' step on the str `d` left by the '+' step, and on its bytes
  have key : ∀ d : Str, ValidStr d →
      (if !d.contains 37 then d else
        U8.decodeReplace (if (Probe.splitPct (U8.encode d)).length < 8 then Probe.joinTokens (Probe.splitPct (U8.encode d))
          else Probe.joinTokensBA (Probe.splitPct (U8.encode d)))) = U8.decodeReplace (Probe.decodeImpl (U8.encode d)) := by
    intro d hd
    unfold Probe.decodeImpl
    rw [show d.contains 37 = (U8.encode d).contains 37 from (contains_encode d hd 37 (by decide)).symm]
    split
    · exact (U8.decodeReplace_encode d hd).symm
    · rfl
  -- without a '+' in `s` the replacement changes nothing, so the `'+' in s` test can be dropped
  have hd : (if (s.contains 43 && plus) = true then replacePlus s else s) = if plus = true then replacePlus s else s := by
    cases h : s.contains 43
    · rw [Bool.false_and, if_neg Bool.false_ne_true, replacePlus_of_not_contains s h, ite_self]
    · rw [Bool.true_and]
  unfold decode Uri.decodePlus
  rw [hd]
  cases plus
  · exact key s hv
  · rw [if_pos rfl, if_pos rfl, ← encode_replacePlus s hv]
    exact key _ (validStr_replacePlus s hv)

/-- one code point against an ASCII table: the `rstrip` test on the character = the test on its bytes -/
theorem allowedCp_eq (allowed : UInt8 → Bool) (hascii : ∀ b, allowed b = true → b.toNat < 0x80) (c : Nat) (hv : ValidScalar c) :
    allowedCp allowed c = (encodeCp c).all allowed := by
  unfold allowedCp
  by_cases h : c < 0x80
  · rw [U8.encodeCp_ascii c h, List.all_cons, List.all_nil, Bool.and_true, decide_eq_true (show c < 256 by omega), Bool.true_and]
  · have hne : ∀ b : UInt8, 0x80 ≤ b.toNat → allowed b = false := fun b hb =>
      Bool.eq_false_iff.mpr (fun ha => absurd (hascii b ha) (by omega))
    have r : (encodeCp c).all allowed = false := by
      cases hq : encodeCp c with
      | nil => exact absurd hq (U8.encodeCp_ne_nil c)
      | cons b t => rw [List.all_cons, hne b (U8.encodeCp_high c h hv.lt b (hq ▸ List.mem_cons_self)), Bool.false_and]
    rw [r]
    by_cases h256 : c < 256
    · rw [hne c.toUInt8 (by rw [U8.toNat_toUInt8 _ h256]; omega), Bool.and_false]
    · rw [decide_eq_false h256, Bool.false_and]

/-- the str-level `rstrip` test = the byte-level `all allowed` test, for ASCII tables -/
theorem all_allowedCp (allowed : UInt8 → Bool) (hascii : ∀ b, allowed b = true → b.toNat < 0x80) (s : Str) (hv : ValidStr s) :
    s.all (allowedCp allowed) = (U8.encode s).all allowed := by
  unfold U8.encode
  rw [List.all_flatMap]
  induction s with
  | nil => rfl
  | cons c cs ih =>
    rw [List.all_cons, List.all_cons, ih (fun x hx => hv x (List.mem_cons_of_mem _ hx)),
      allowedCp_eq allowed hascii c (hv c List.mem_cons_self)]

theorem ascii_of_all_allowedCp (allowed : UInt8 → Bool) (hascii : ∀ b, allowed b = true → b.toNat < 0x80) (s : Str)
    (h : s.all (allowedCp allowed) = true) : ∀ c ∈ s, c < 0x80 := by
  intro c hc
  have := List.all_eq_true.mp h c hc
  unfold allowedCp at this
  rw [Bool.and_eq_true, decide_eq_true_eq] at this
  have h2 := hascii _ this.2
  rwa [U8.toNat_toUInt8 _ this.1] at h2

/-- the UTF-8 bytes of an ASCII string, mapped back to code points, are the string -/
theorem map_toNat_encode_ascii (s : Str) (h : ∀ c ∈ s, c < 0x80) : (U8.encode s).map (·.toNat) = s := by
  induction s with
  | nil => rfl
  | cons c cs ih =>
    have hc := h c List.mem_cons_self
    unfold U8.encode at ih ⊢
    rw [List.flatMap_cons, U8.encodeCp_ascii c hc, List.singleton_append, List.map_cons,
      ih (fun x hx => h x (List.mem_cons_of_mem _ hx)), U8.toNat_toUInt8 _ (by omega)]

/-- **refinement**: the str-level encoder = the byte-level encoder on `s.encode()`, read as ASCII characters -/
theorem encodeStr_eq_bytes (allowed : UInt8 → Bool) (hascii : ∀ b, allowed b = true → b.toNat < 0x80) (s : Str) (hv : ValidStr s) :
    encodeStr allowed s = (Uri.encodeWith allowed (U8.encode s)).map (·.toNat) := by
  unfold encodeStr Uri.encodeWith
  rw [← all_allowedCp allowed hascii s hv]
  split
  · rename_i hall
    exact (map_toNat_encode_ascii s (ascii_of_all_allowedCp allowed hascii s hall)).symm
  · rfl

/-- an allowed character of an ASCII table, '%' and the upper-case hex digits are ASCII -/
theorem ascii_of_charset {allowed : UInt8 → Bool} (hascii : ∀ b, allowed b = true → b.toNat < 0x80) {b : UInt8}
    (h : allowed b = true ∨ b = 37 ∨ Uri.upperHex b = true) : b.toNat < 0x80 := by
  rcases h with h | h | h
  · exact hascii b h
  · subst h; decide
  · rw [Uri.upperHex_iff] at h; omega

/-- the output of a byte-level encoder is ASCII -/
theorem encodeWith_ascii (allowed : UInt8 → Bool) (hascii : ∀ b, allowed b = true → b.toNat < 0x80) (bs : List UInt8) :
    ∀ b ∈ Uri.encodeWith allowed bs, b.toNat < 0x80 :=
  fun b hb => ascii_of_charset hascii (Uri.encodeWith_charset allowed bs b hb)

/-- the character set of a byte string, said of its bytes read as characters -/
theorem charset_map_toNat {allowed : UInt8 → Bool} (hascii : ∀ b, allowed b = true → b.toNat < 0x80) {bs : List UInt8}
    (h : ∀ b ∈ bs, allowed b = true ∨ b = 37 ∨ Uri.upperHex b = true) :
    ∀ c ∈ bs.map (·.toNat), c < 0x80 ∧ (allowed c.toUInt8 = true ∨ c = 37 ∨ Uri.upperHex c.toUInt8 = true) := by
  intro c hc
  obtain ⟨b, hb, rfl⟩ := List.mem_map.mp hc
  refine ⟨ascii_of_charset hascii (h b hb), ?_⟩
  rw [show b.toNat.toUInt8 = b from UInt8.ofNat_toNat]
  exact (h b hb).imp_right (Or.imp_left (congrArg UInt8.toNat))

/-- **`encode_output_ascii`** (str level): every character of the encoders' output is ASCII: an allowed character, '%' or an
    upper-case hex digit -/
theorem encodeStr_charset (allowed : UInt8 → Bool) (hascii : ∀ b, allowed b = true → b.toNat < 0x80) (s : Str) (hv : ValidStr s) :
    ∀ c ∈ encodeStr allowed s, c < 0x80 ∧ (allowed c.toUInt8 = true ∨ c = 37 ∨ Uri.upperHex c.toUInt8 = true) := by
  rw [encodeStr_eq_bytes allowed hascii s hv]
  exact charset_map_toNat hascii (Uri.encodeWith_charset allowed _)

/-- the encoders' result, encoded again with `str.encode()`, is the byte-level encoder's output -/
theorem encode_encodeStr (allowed : UInt8 → Bool) (hascii : ∀ b, allowed b = true → b.toNat < 0x80) (s : Str) (hv : ValidStr s) :
    U8.encode (encodeStr allowed s) = Uri.encodeWith allowed (U8.encode s) := by
  rw [encodeStr_eq_bytes allowed hascii s hv]
  exact U8.encode_map_toNat _ (encodeWith_ascii allowed hascii _)

theorem validStr_encodeStr (allowed : UInt8 → Bool) (hascii : ∀ b, allowed b = true → b.toNat < 0x80) (s : Str) (hv : ValidStr s) :
    ValidStr (encodeStr allowed s) :=
  validStr_of_ascii _ (fun c hc => (encodeStr_charset allowed hascii s hv c hc).1)

/-- **str-level output grammar**: the result is the ASCII string `( allowed | % UPPERHEX UPPERHEX )*` -/
theorem encodeStr_grammar (allowed : UInt8 → Bool) (h37 : allowed 37 = false) (hascii : ∀ b, allowed b = true → b.toNat < 0x80)
    (s : Str) (hv : ValidStr s) :
    ∃ out : List UInt8, encodeStr allowed s = out.map (·.toNat) ∧ (∀ b ∈ out, b.toNat < 0x80) ∧ Uri.wfEsc allowed out = true :=
  ⟨Uri.encodeWith allowed (U8.encode s), encodeStr_eq_bytes allowed hascii s hv, encodeWith_ascii allowed hascii _,
    Uri.encodeWith_wf h37 _⟩

/-- str-level round trip for any encoder table that is ASCII and excludes '%'; with `unquote_plus` it must exclude '+' too -/
theorem decode_encodeStr (allowed : UInt8 → Bool) (h37 : allowed 37 = false) (hascii : ∀ b, allowed b = true → b.toNat < 0x80)
    (plus : Bool) (hplus : plus = false ∨ allowed 43 = false) (s : Str) (hv : ValidStr s) :
    decode plus (encodeStr allowed s) = s := by
  rw [decode_eq_bytes plus _ (validStr_encodeStr allowed hascii s hv), encode_encodeStr allowed hascii s hv]
  rcases hplus with rfl | h43
  · rw [Uri.decodePlus, if_neg Bool.false_ne_true, Probe.decodeImpl_eq_ref, Uri.decode_encodeWith h37,
      U8.decodeReplace_encode s hv]
  · rw [Uri.decodePlus_encodeWith h37 h43, U8.decodeReplace_encode s hv]

theorem allowedValue_ascii : ∀ b, Uri.allowedValue b = true → b.toNat < 0x80 := by
  intro b hb
  rw [Uri.allowedValue_iff] at hb; omega
theorem allowedUri_ascii : ∀ b, Uri.allowedUri b = true → b.toNat < 0x80 :=
  fun b hb => Nat.lt_of_le_of_lt (Uri.allowedUri_range b hb).2.1 (by decide)

/-- **`decode(encode_value(s), unquote_plus) == s`** for every `str` of scalar values and both settings of `unquote_plus` -/
theorem decode_encode_value_str (plus : Bool) (s : Str) (hv : ValidStr s) : decode plus (encodeValue s) = s :=
  decode_encodeStr Uri.allowedValue Uri.allowedValue_pct allowedValue_ascii plus (Or.inr Uri.allowedValue_plus) s hv

/-- **`decode(encode(s), unquote_plus=False) == s`** for every `str` of scalar values -/
theorem decode_encode_uri_str (s : Str) (hv : ValidStr s) : decode false (encode s) = s :=
  decode_encodeStr Uri.allowedUri Uri.allowedUri_pct allowedUri_ascii false (Or.inl rfl) s hv

example : ValidStr [0x61, 0x2B, 0x25, 0xE9, 0x20AC, 0x1F600, 0x10FFFF] := by decide
example : decode true (encodeValue [0x61, 0x2B, 0x25, 0xE9, 0x20AC, 0x1F600, 0x10FFFF]) = [0x61, 0x2B, 0x25, 0xE9, 0x20AC, 0x1F600, 0x10FFFF] := by
  decide +kernel
/-- whole-URI encoding keeps '+', so `unquote_plus=True` does not round-trip "a+b" (str level) -/
theorem decode_encode_uri_str_plus_witness : decode true (encode [97, 43, 98]) = [97, 32, 98] := by decide +kernel

/-- **`decode_str_total`**: `decode` returns a `str` of Unicode scalar values for every input of scalar values - no exception,
    no lone surrogate, so the result can be encoded again -/
theorem decode_str_total (plus : Bool) (s : Str) (hv : ValidStr s) : ValidStr (decode plus s) := by
  rw [decode_eq_bytes plus s hv]
  exact U8.decodeReplace_scalar _

theorem encodeValue_charset (s : Str) (hv : ValidStr s) :
    ∀ c ∈ encodeValue s, c < 0x80 ∧ (Uri.allowedValue c.toUInt8 = true ∨ c = 37 ∨ Uri.upperHex c.toUInt8 = true) :=
  encodeStr_charset _ allowedValue_ascii s hv
theorem encode_charset (s : Str) (hv : ValidStr s) :
    ∀ c ∈ encode s, c < 0x80 ∧ (Uri.allowedUri c.toUInt8 = true ∨ c = 37 ∨ Uri.upperHex c.toUInt8 = true) :=
  encodeStr_charset _ allowedUri_ascii s hv
theorem encodeValue_grammar (s : Str) (hv : ValidStr s) :
    ∃ out : List UInt8, encodeValue s = out.map (·.toNat) ∧ (∀ b ∈ out, b.toNat < 0x80) ∧ Uri.wfEsc Uri.allowedValue out = true :=
  encodeStr_grammar _ Uri.allowedValue_pct allowedValue_ascii s hv
theorem encode_grammar (s : Str) (hv : ValidStr s) :
    ∃ out : List UInt8, encode s = out.map (·.toNat) ∧ (∀ b ∈ out, b.toNat < 0x80) ∧ Uri.wfEsc Uri.allowedUri out = true :=
  encodeStr_grammar _ Uri.allowedUri_pct allowedUri_ascii s hv
/-! ### `parse_host` on the str -/

theorem strip2_ne (c : Nat) (r : Str) (hc : c ≠ 93) : strip2 (c :: r) = none := by
  cases r with
  | nil => rfl
  | cons d a => rw [strip2, beq_false_of_ne hc]; rfl

/-- no `]:` starts inside a prefix without ']' -/
theorem splitLast2_append_none (l q : Str) (hl : ∀ c ∈ l, c ≠ 93) (hq : splitLast2 q = none) : splitLast2 (l ++ q) = none := by
  induction l with
  | nil => exact hq
  | cons c r ih =>
    rw [List.cons_append, splitLast2, ih (fun x hx => hl x (List.mem_cons_of_mem _ hx)), strip2_ne c _ (hl c List.mem_cons_self)]
    rfl

theorem splitLast2_none_of_no93 (p : Str) (h : ∀ c ∈ p, c ≠ 93) : splitLast2 p = none :=
  List.append_nil p ▸ splitLast2_append_none p [] h rfl

theorem splitLast2_last (pre p : Str) (hp : splitLast2 p = none) : splitLast2 (pre ++ 93 :: 58 :: p) = some (pre, p) := by
  induction pre with
  | nil => rw [List.nil_append, splitLast2, splitLast2, hp, strip2_ne 58 p (by decide)]; rfl
  | cons c cs ih => rw [List.cons_append, splitLast2, ih]

/-- `[v6]:port` on the str: the LAST `]:` splits; empty port = default -/
theorem parseHost_v6_port (inner p : Str) (hp : ∀ c ∈ p, c ≠ 93) :
    parseHost (91 :: inner ++ 93 :: 58 :: p) = (inner, portOf p) := by
  rw [parseHost, if_pos (by rfl), splitLast2_last (91 :: inner) p (splitLast2_none_of_no93 p hp)]
  rfl

/-- `[v6]` without a port -/
theorem parseHost_v6 (inner : Str) (hi : ∀ c ∈ inner, c ≠ 93) :
    parseHost (91 :: inner ++ [93]) = (inner, none) := by
  have hn : ∀ c ∈ 91 :: inner, c ≠ 93 := by
    intro c hc
    rcases List.mem_cons.mp hc with rfl | hc
    · decide
    · exact hi c hc
  rw [parseHost, if_pos (by rfl), splitLast2_append_none _ [93] hn rfl]
  exact congrArg (·, none) List.dropLast_concat

theorem count_zero_of_no58 (h : Str) (hh : ∀ c ∈ h, c ≠ 58) : h.count 58 = 0 :=
  List.count_eq_zero.mpr (fun hm => hh 58 hm rfl)

theorem partColon_split (h p : Str) (hh : ∀ c ∈ h, c ≠ 58) : partColon (h ++ 58 :: p) = (h, true, p) := by
  induction h with
  | nil => rfl
  | cons c r ih =>
    rw [List.cons_append, partColon, if_neg (by simpa using hh c List.mem_cons_self),
      ih (fun x hx => hh x (List.mem_cons_of_mem _ hx))]

/-- reg-name / IPv4 without a port (any characters, non-ASCII included) -/
theorem parseHost_plain (h : Str) (hh : ∀ c ∈ h, c ≠ 58) (hb : h.head? ≠ some 91) : parseHost h = (h, none) := by
  rw [parseHost, if_neg (fun e => hb (eq_of_beq e)), count_zero_of_no58 h hh, if_pos (by rfl)]

/-- reg-name / IPv4 with a port (empty port = default) -/
theorem parseHost_port (h p : Str) (hh : ∀ c ∈ h, c ≠ 58) (hp : ∀ c ∈ p, c ≠ 58) (hb : (h ++ 58 :: p).head? ≠ some 91) :
    parseHost (h ++ 58 :: p) = (h, portOf p) := by
  have hcount : (h ++ 58 :: p).count 58 = 1 := by
    rw [List.count_append, List.count_cons_self, count_zero_of_no58 h hh, count_zero_of_no58 p hp]
  rw [parseHost, if_neg (fun e => hb (eq_of_beq e)), hcount, if_neg (by decide), partColon_split h p hh]

example : parseHost [91, 0x3A, 0x3A, 0x31, 93, 58, 56, 48] = ([0x3A, 0x3A, 0x31], some [56, 48]) := by decide +kernel
/-- why the str-level model is needed: on "[é" (no closing bracket) `host[1:-1]` drops the CHARACTER é and returns "",
    whereas the byte-level model `Uri.parseHost` drops one byte and leaves the lone lead byte C3 -/
theorem parseHost_bytes_differs_witness :
    (parseHost [91, 233]).1 = [] ∧ (Uri.parseHost (U8.encode [91, 233])).1 = [0xC3] := by decide +kernel

/-! ### the check-escaped encoders on the str -/

theorem splitPctS_ne_nil (s : Str) : splitPctS s ≠ [] := by
  cases s with
  | nil => exact List.cons_ne_nil _ _
  | cons c rest =>
    rw [splitPctS]
    split
    · exact List.cons_ne_nil _ _
    · split <;> exact List.cons_ne_nil _ _

/-- `bytes.split(b'%')` and `str.split('%')` agree on a byte string read as characters -/
theorem splitPctS_map_toNat (bs : List UInt8) : splitPctS (bs.map (·.toNat)) = (Probe.splitPct bs).map (·.map (·.toNat)) := by
  induction bs with
  | nil => rfl
  | cons b bs ih =>
    have e : (b.toNat == 37) = (b == 37) := Bool.eq_iff_iff.mpr
      ⟨fun h => beq_iff_eq.mpr (UInt8.toNat_inj.mp (eq_of_beq h)), fun h => beq_iff_eq.mpr (congrArg UInt8.toNat (eq_of_beq h))⟩
    rw [List.map_cons, splitPctS, Probe.splitPct, ih, e]
    split
    · rfl
    · cases Probe.splitPct bs <;> rfl

theorem tokOkS_map_toNat (t : List UInt8) : tokOkS (t.map (·.toNat)) = Uri.tokOk t := by
  have e : ∀ b : UInt8, isHexCp b.toNat = Uri.isHex b := fun b => by
    rw [isHexCp, decide_eq_true b.toNat_lt, Bool.true_and, show b.toNat.toUInt8 = b from UInt8.ofNat_toNat]
  match t with
  | [] => rfl
  | [_] => rfl
  | a :: b :: _ => rw [List.map_cons, List.map_cons, tokOkS, Uri.tokOk, e, e]

theorem allowedCp_or_pct (allowed : UInt8 → Bool) (c : Nat) :
    (allowedCp allowed c || c == 37) = allowedCp (fun b => allowed b || b == 37) c := by
  unfold allowedCp
  by_cases h : c < 256
  · have e : (c.toUInt8 == 37) = (c == 37) := Bool.eq_iff_iff.mpr
      ⟨fun h' => beq_iff_eq.mpr ((U8.toNat_toUInt8 c h).symm.trans (congrArg UInt8.toNat (eq_of_beq h'))),
        fun h' => beq_iff_eq.mpr (congrArg Nat.toUInt8 (eq_of_beq h'))⟩
    rw [decide_eq_true h, Bool.true_and, Bool.true_and]
    exact congrArg (allowed c.toUInt8 || ·) e.symm
  · rw [decide_eq_false h, Bool.false_and, Bool.false_and, Bool.false_or, beq_eq_false_iff_ne]
    omega

theorem ascii_or_pct {allowed : UInt8 → Bool} (hascii : ∀ b, allowed b = true → b.toNat < 0x80) (b : UInt8)
    (hb : (allowed b || b == 37) = true) : b.toNat < 0x80 :=
  ascii_of_charset hascii ((Bool.or_eq_true_iff.mp hb).imp_right (fun h => Or.inl (eq_of_beq h)))

/-- a str that passes the first half of the heuristic is ASCII -/
theorem ascii_of_all_or_pct (allowed : UInt8 → Bool) (hascii : ∀ b, allowed b = true → b.toNat < 0x80) (s : Str)
    (h : s.all (fun c => allowedCp allowed c || c == 37) = true) : ∀ c ∈ s, c < 0x80 := by
  apply ascii_of_all_allowedCp _ (ascii_or_pct hascii) s
  rw [← h]; congr 1; funext c; exact (allowedCp_or_pct allowed c).symm

/-- the str-level "already escaped?" heuristic = the byte-level one on `s.encode()` -/
theorem looksEscapedS_eq (allowed : UInt8 → Bool) (hascii : ∀ b, allowed b = true → b.toNat < 0x80) (s : Str) (hv : ValidStr s) :
    looksEscapedS allowed s = Uri.looksEscaped allowed (U8.encode s) := by
  unfold looksEscapedS Uri.looksEscaped
  have h1 : s.all (fun c => allowedCp allowed c || c == 37) = (U8.encode s).all (fun c => allowed c || c == 37) := by
    rw [← all_allowedCp _ (ascii_or_pct hascii) s hv]
    congr 1
    funext c
    exact allowedCp_or_pct allowed c
  rw [← h1]
  cases hall : s.all (fun c => allowedCp allowed c || c == 37) with
  | false => rfl
  | true =>
    -- the str is ASCII: it is its own bytes read as characters, and the two token loops agree
    have hs := map_toNat_encode_ascii s (ascii_of_all_or_pct allowed hascii s hall)
    rw [Bool.true_and, Bool.true_and]
    conv => lhs; rw [← hs, splitPctS_map_toNat, ← List.map_tail, List.all_map]
    exact congrArg _ (funext tokOkS_map_toNat)

theorem ascii_of_looksEscapedS (allowed : UInt8 → Bool) (hascii : ∀ b, allowed b = true → b.toNat < 0x80) (s : Str)
    (h : looksEscapedS allowed s = true) : ∀ c ∈ s, c < 0x80 := by
  unfold looksEscapedS at h
  rw [Bool.and_eq_true] at h
  exact ascii_of_all_or_pct allowed hascii s h.1

/-- **refinement**: the str-level check-escaped encoder = the byte-level one on `s.encode()`, read as ASCII characters -/
theorem encodeCheckStr_eq_bytes (allowed : UInt8 → Bool) (hascii : ∀ b, allowed b = true → b.toNat < 0x80) (s : Str) (hv : ValidStr s) :
    encodeCheckStr allowed s = (Uri.encodeCheck allowed (U8.encode s)).map (·.toNat) := by
  unfold encodeCheckStr Uri.encodeCheck
  rw [← all_allowedCp allowed hascii s hv, ← looksEscapedS_eq allowed hascii s hv]
  split
  · rename_i hall
    exact (map_toNat_encode_ascii s (ascii_of_all_allowedCp allowed hascii s hall)).symm
  · split
    · rename_i hl
      exact (map_toNat_encode_ascii s (ascii_of_looksEscapedS allowed hascii s hl)).symm
    · rfl

/-- the output of a byte-level check-escaped encoder is ASCII -/
theorem encodeCheck_ascii (allowed : UInt8 → Bool) (hascii : ∀ b, allowed b = true → b.toNat < 0x80) (bs : List UInt8) :
    ∀ b ∈ Uri.encodeCheck allowed bs, b.toNat < 0x80 :=
  fun b hb => ascii_of_charset hascii (Uri.encodeCheck_charset allowed bs b hb)

theorem encode_encodeCheckStr (allowed : UInt8 → Bool) (hascii : ∀ b, allowed b = true → b.toNat < 0x80) (s : Str) (hv : ValidStr s) :
    U8.encode (encodeCheckStr allowed s) = Uri.encodeCheck allowed (U8.encode s) := by
  rw [encodeCheckStr_eq_bytes allowed hascii s hv]
  exact U8.encode_map_toNat _ (encodeCheck_ascii allowed hascii _)

theorem validStr_encodeCheckStr (allowed : UInt8 → Bool) (hascii : ∀ b, allowed b = true → b.toNat < 0x80) (s : Str) (hv : ValidStr s) :
    ValidStr (encodeCheckStr allowed s) := by
  apply validStr_of_ascii
  rw [encodeCheckStr_eq_bytes allowed hascii s hv]
  exact fun c hc => (charset_map_toNat hascii (Uri.encodeCheck_charset allowed _) c hc).1

/-- **str-level idempotence** of the check-escaped encoders -/
theorem encodeCheckStr_idem (allowed : UInt8 → Bool) (h37 : allowed 37 = false) (hhex : ∀ c, Uri.isHex c = true → allowed c = true)
    (hascii : ∀ b, allowed b = true → b.toNat < 0x80) (s : Str) (hv : ValidStr s) :
    encodeCheckStr allowed (encodeCheckStr allowed s) = encodeCheckStr allowed s := by
  rw [encodeCheckStr_eq_bytes allowed hascii _ (validStr_encodeCheckStr allowed hascii s hv),
    encode_encodeCheckStr allowed hascii s hv, Uri.encodeCheck_idem h37 hhex, ← encodeCheckStr_eq_bytes allowed hascii s hv]

/-- **str-level fixpoint**: a string whose UTF-8 bytes are `( allowed | % HEXDIG HEXDIG )*` (hence ASCII) is returned unchanged -/
theorem encodeCheckStr_fixpoint (allowed : UInt8 → Bool) (hhex : ∀ c, Uri.isHex c = true → allowed c = true)
    (hascii : ∀ b, allowed b = true → b.toNat < 0x80) (s : Str) (hv : ValidStr s)
    (he : Uri.escaped allowed (U8.encode s) = true) : encodeCheckStr allowed s = s := by
  have hl := Uri.escaped_looksEscaped hhex _ he
  rw [← looksEscapedS_eq allowed hascii s hv] at hl
  unfold encodeCheckStr
  rw [if_pos hl]
  split <;> rfl

theorem encodeCheckEscaped_idem (s : Str) (hv : ValidStr s) : encodeCheckEscaped (encodeCheckEscaped s) = encodeCheckEscaped s :=
  encodeCheckStr_idem _ Uri.allowedUri_pct Uri.hex_allowedUri allowedUri_ascii s hv
theorem encodeValueCheckEscaped_idem (s : Str) (hv : ValidStr s) :
    encodeValueCheckEscaped (encodeValueCheckEscaped s) = encodeValueCheckEscaped s :=
  encodeCheckStr_idem _ Uri.allowedValue_pct Uri.hex_allowedValue allowedValue_ascii s hv
theorem encodeCheckEscaped_fixpoint (s : Str) (hv : ValidStr s) (he : Uri.escaped Uri.allowedUri (U8.encode s) = true) :
    encodeCheckEscaped s = s := encodeCheckStr_fixpoint _ Uri.hex_allowedUri allowedUri_ascii s hv he
theorem encodeValueCheckEscaped_fixpoint (s : Str) (hv : ValidStr s) (he : Uri.escaped Uri.allowedValue (U8.encode s) = true) :
    encodeValueCheckEscaped s = s := encodeCheckStr_fixpoint _ Uri.hex_allowedValue allowedValue_ascii s hv he
example : Uri.escaped Uri.allowedValue (U8.encode [37, 99, 51, 37, 65, 57, 97]) = true := by decide +kernel
example : encodeValueCheckEscaped [37, 71, 49, 233] = [37, 50, 53, 71, 49, 37, 67, 51, 37, 65, 57] := by decide +kernel
end Us
