import FalconModel.RouterHist
import FalconModel.RouterInsertProofs
import FalconModel.RouterProofs
/-! C01, histories: (1) rejected `add_route` calls can be removed from a history without changing the tree;
    (2) every tree built by `insert` is well-formed, so (3) `compile_correct` applies to the tree after ANY history. -/
namespace Rh
open Ri

/-! ### rejected calls are invisible (repaired code) -/

/-- dropping the rejected calls changes nothing, and what is left is accepted call by call -/
theorem history_accepted : ∀ (h : List Add) (t : List Tree),
    runH true t h = runH true t (acceptedH true t h) ∧ allOk true t (acceptedH true t h) = true := by
  intro h
  induction h with
  | nil => intro t; exact ⟨rfl, rfl⟩
  | cons a h ih =>
    intro t
    cases hacc : (Ri.insert true a.1 a.2 t).2 with
    | true =>
      simp only [acceptedH, hacc, if_true, runH, allOk, Bool.true_and]
      exact ih _
    | false =>
      simp only [acceptedH, hacc, Bool.false_eq_true, if_false, runH]
      rw [rejected_insert_unchanged a.1 a.2 t hacc]
      exact ih t

theorem history_rejected_removed : ∀ (h : List Add) (t : List Tree),
    runH true t h = runH true t (acceptedH true t h) :=
  fun h t => (history_accepted h t).1

theorem acceptedH_all_accepted : ∀ (h : List Add) (t : List Tree), allOk true t (acceptedH true t h) = true :=
  fun h t => (history_accepted h t).2

theorem acceptedH_of_allOk (fixed : Bool) : ∀ (h : List Add) (t : List Tree), allOk fixed t h = true → acceptedH fixed t h = h := by
  intro h
  induction h with
  | nil => intro t _; rfl
  | cons a h ih =>
    intro t hok
    simp only [allOk, Bool.and_eq_true] at hok
    simp only [acceptedH, hok.1, if_true]
    rw [ih _ hok.2]

theorem acceptedH_idem (h : List Add) (t : List Tree) :
    acceptedH true t (acceptedH true t h) = acceptedH true t h :=
  acceptedH_of_allOk true _ t (acceptedH_all_accepted h t)

/-! ### `insert` keeps the tree well-formed (pinned and repaired code alike) -/

theorem WfL_append (P : Seg → Prop) : ∀ (a b : List Tree),
    WfL P (a ++ b) ↔ (WfL P a ∧ WfL P b ∧ ∀ x ∈ a, ∀ y ∈ b, x.seg.raw ≠ y.seg.raw) := by
  intro a
  induction a with
  | nil => intro b; simp [WfL]
  | cons x xs ih =>
    intro b
    simp only [List.cons_append, WfL, ih b, List.mem_append, List.mem_cons]
    constructor
    · rintro ⟨hx, hd, hxs, hb, hxb⟩
      refine ⟨⟨hx, fun u hu => hd u (Or.inl hu), hxs⟩, hb, ?_⟩
      intro y hy z hz
      rcases hy with rfl | hy
      · exact hd z (Or.inr hz)
      · exact hxb y hy z hz
    · rintro ⟨⟨hx, hd, hxs⟩, hb, hxb⟩
      refine ⟨hx, ?_, hxs, hb, fun y hy z hz => hxb y (Or.inr hy) z hz⟩
      intro u hu
      rcases hu with hu | hu
      · exact hd u hu
      · exact hxb x (Or.inl rfl) u hu

theorem WfL_single (P : Seg → Prop) (x : Tree) : WfL P [x] ↔ WfT P x := by
  simp [WfL]

/-- replacing a node by one with the same segment record keeps the sibling list well-formed -/
theorem WfL_replace (P : Seg → Prop) (before after : List Tree) (x x' : Tree)
    (h : WfL P (before ++ [x] ++ after)) (hx' : WfT P x') (hseg : x'.seg = x.seg) :
    WfL P (before ++ [x'] ++ after) := by
  rw [WfL_append, WfL_append, WfL_single] at h ⊢
  obtain ⟨⟨hb, _, hbx⟩, ha, hba⟩ := h
  refine ⟨⟨hb, hx', ?_⟩, ha, ?_⟩
  · intro y hy z hz
    simp only [List.mem_singleton] at hz
    subst hz
    rw [hseg]
    exact hbx y hy x (by simp)
  · intro y hy z hz
    simp only [List.mem_append, List.mem_singleton] at hy
    rcases hy with hy | rfl
    · exact hba y (by simp [hy]) z hz
    · rw [hseg]
      exact hba x (by simp) z hz

theorem scan_found_raw (s : Seg) : ∀ (nodes acc before : List Tree) (hit : Tree) (after : List Tree),
    scan s nodes acc = .found before hit after → hit.seg.raw = s.raw := by
  intro nodes acc before hit after h
  have := scan_spec s nodes acc
  rw [h] at this
  exact this.2

theorem scan_none (s : Seg) (nodes acc : List Tree) (h : scan s nodes acc = .none) : ∀ t ∈ nodes, t.seg.raw ≠ s.raw := by
  have := scan_spec s nodes acc
  rw [h] at this
  exact this

theorem WfL_snoc (P : Seg → Prop) (nodes : List Tree) (x : Tree) (h : WfL P nodes) (hx : WfT P x)
    (hd : ∀ t ∈ nodes, t.seg.raw ≠ x.seg.raw) : WfL P (nodes ++ [x]) := by
  rw [WfL_append, WfL_single]
  refine ⟨h, hx, ?_⟩
  intro y hy z hz
  simp only [List.mem_singleton] at hz
  subst hz
  exact hd y hy

/-- **`insert_wf`**: whatever `insert` does (return or raise, pinned or repaired), the node list stays well-formed -/
theorem insert_wf (P : Seg → Prop) (fixed : Bool) (route : Nat) : ∀ (path : List Seg) (nodes : List Tree),
    (∀ s ∈ path, P s) → WfL P nodes → WfL P (Ri.insert fixed route path nodes).1 := by
  intro path
  induction path with
  | nil => intro nodes _ h; exact h
  | cons s path ih =>
    intro nodes hP h
    have hPs : P s := hP s List.mem_cons_self
    have hPp : ∀ s' ∈ path, P s' := fun s' hs' => hP s' (List.mem_cons_of_mem _ hs')
    generalize hr : Ri.insert fixed route (s :: path) nodes = r
    rw [Ri.insert] at hr
    cases hs : scan s nodes [] with
    | conflict => simp only [hs] at hr; subst hr; exact h
    | found before hit after =>
      obtain ⟨ns, nroute, ch⟩ := hit
      simp only [hs] at hr
      have hnodes : nodes = before ++ [.node ns nroute ch] ++ after := scan_found s nodes [] before _ after hs
      have h' := h
      rw [hnodes, WfL_append, WfL_append, WfL_single, WfT] at h'
      have hhit := h'.1.2.1
      rw [hnodes] at h
      by_cases hp : path.isEmpty = true
      · rw [if_pos hp] at hr; subst hr
        exact WfL_replace P before after _ _ h (by rw [WfT]; exact hhit) rfl
      · rw [if_neg hp] at hr
        by_cases hc : ns.cpc = true
        · rw [if_pos hc] at hr; subst hr; rw [hnodes]; exact h
        · rw [if_neg hc] at hr; subst hr
          refine WfL_replace P before after _ _ h ?_ rfl
          rw [WfT]
          exact ⟨hhit.1, ih ch hPp hhit.2.1, fun hcpc => absurd hcpc hc⟩
    | none =>
      simp only [hs] at hr
      have hnone := scan_none s nodes [] hs
      by_cases hcx : (s.isComplex && s.cpc) = true
      · rw [if_pos hcx] at hr; subst hr; exact h
      · rw [if_neg hcx] at hr
        by_cases hp : path.isEmpty = true
        · rw [if_pos hp] at hr; subst hr
          exact WfL_snoc P nodes _ h (by rw [WfT]; exact ⟨hPs, trivial, fun _ => rfl⟩) hnone
        · rw [if_neg hp] at hr
          by_cases hc : s.cpc = true
          · rw [if_pos hc] at hr; subst hr; exact h
          · rw [if_neg hc] at hr; subst hr
            have hnew : WfL P (nodes ++ [.node s none (Ri.insert fixed route path []).1]) :=
              WfL_snoc P nodes _ h (by rw [WfT]; exact ⟨hPs, ih [] hPp trivial, fun hcpc => absurd hcpc hc⟩) hnone
            generalize Ri.insert fixed route path [] = p at hnew ⊢
            obtain ⟨ch', ok⟩ := p
            cases ok with
            | true => exact hnew
            | false =>
              cases fixed with
              | true => exact h
              | false => exact hnew

theorem runH_wf (P : Seg → Prop) (fixed : Bool) : ∀ (h : List Add) (t : List Tree),
    (∀ a ∈ h, ∀ s ∈ a.2, P s) → WfL P t → WfL P (runH fixed t h) := by
  intro h
  induction h with
  | nil => intro t _ ht; exact ht
  | cons a h ih =>
    intro t hP ht
    simp only [runH]
    exact ih _ (fun b hb => hP b (by simp [hb])) (insert_wf P fixed a.1 a.2 t (hP a (by simp)) ht)

/-! ### bridge to the code generator's tree, and the end-to-end statement -/

/-- the segment table agrees with the segment record about "this converter consumes the rest of the path" -/
def Cons (k : Nat → String × Rt.Kind) (s : Seg) : Prop := Rt.kindMulti (k s.raw).2 = true → s.cpc = true

theorem toNodes_nil_iff (k : Nat → String × Rt.Kind) (ts : List Tree) : toNodes k ts = [] ↔ ts = [] := by
  cases ts <;> simp [toNodes]

theorem mem_toNodes (k : Nat → String × Rt.Kind) : ∀ (ts : List Tree) (m : Rt.Node), m ∈ toNodes k ts → ∃ u ∈ ts, m = toNode k u := by
  intro ts
  induction ts with
  | nil => intro m hm; simp [toNodes] at hm
  | cons t ts ih =>
    intro m hm
    simp only [toNodes, List.mem_cons] at hm
    rcases hm with rfl | hm
    · exact ⟨t, by simp, rfl⟩
    · obtain ⟨u, hu, rfl⟩ := ih m hm
      exact ⟨u, by simp [hu], rfl⟩

theorem toNode_raw (k : Nat → String × Rt.Kind) (t : Tree) : (toNode k t).raw = (k t.seg.raw).1 := by
  cases t; simp [toNode, Rt.Node.raw, Tree.seg]

end Rh

namespace Rv
open Ri Rh

theorem WfL_mem (P : Seg → Prop) : ∀ (ts : List Tree), WfL P ts → ∀ u ∈ ts, WfT P u := by
  intro ts
  induction ts with
  | nil => intro _ u hu; simp at hu
  | cons t ts ih =>
    intro h u hu
    simp only [WfL] at h
    rcases List.mem_cons.mp hu with rfl | hu
    · exact h.1
    · exact ih h.2.2 u hu

theorem WfT_seg (P : Seg → Prop) (t : Tree) (h : WfT P t) : P t.seg := by
  cases t; simp only [WfT] at h; exact h.1

mutual
theorem wfN_toNode_on (k : Nat → String × Rt.Kind) (R : Seg → Prop)
    (hinj : ∀ a b, R a → R b → (k a.raw).1 = (k b.raw).1 → a.raw = b.raw) (hc : ∀ s, R s → Cons k s) :
    ∀ (t : Tree), WfT R t → Rt.wfN (toNode k t)
  | .node s r ch, h => by
    simp only [WfT] at h
    simp only [toNode, Rt.wfN]
    refine ⟨wfL_toNodes_on k R hinj hc ch h.2.1, ?_⟩
    intro hm
    rw [h.2.2 (hc s h.1 hm)]
    rfl
theorem wfL_toNodes_on (k : Nat → String × Rt.Kind) (R : Seg → Prop)
    (hinj : ∀ a b, R a → R b → (k a.raw).1 = (k b.raw).1 → a.raw = b.raw) (hc : ∀ s, R s → Cons k s) :
    ∀ (ts : List Tree), WfL R ts → Rt.wfL (toNodes k ts)
  | [], _ => by simp [toNodes, Rt.wfL]
  | t :: ts, h => by
    simp only [WfL] at h
    simp only [toNodes, Rt.wfL]
    refine ⟨wfN_toNode_on k R hinj hc t h.1, ?_, wfL_toNodes_on k R hinj hc ts h.2.2⟩
    intro m hm _ _ heq
    obtain ⟨u, hu, rfl⟩ := mem_toNodes k ts m hm
    rw [toNode_raw, toNode_raw] at heq
    exact h.2.1 u hu (hinj _ _ (WfT_seg R t h.1) (WfT_seg R u (WfL_mem R ts h.2.2 u hu)) heq)
end

end Rv

namespace Rh
open Ri

theorem wfN_toNode (k : Nat → String × Rt.Kind) (hinj : ∀ a b, (k a).1 = (k b).1 → a = b) :
    ∀ (t : Tree), WfT (Cons k) t → Rt.wfN (toNode k t) :=
  Rv.wfN_toNode_on k (Cons k) (fun _ _ _ _ h => hinj _ _ h) (fun _ h => h)

theorem wfL_toNodes (k : Nat → String × Rt.Kind) (hinj : ∀ a b, (k a).1 = (k b).1 → a = b) :
    ∀ (ts : List Tree), WfL (Cons k) ts → Rt.wfL (toNodes k ts) :=
  Rv.wfL_toNodes_on k (Cons k) (fun _ _ _ _ h => hinj _ _ h) (fun _ h => h)

/-- **END-TO-END**: after any history of `add_route` calls on the empty router (accepted or rejected, pinned or repaired
    `insert`), for every table of `re`/converter behaviour and every path, the generated finder returns exactly what
    the plain depth-first walk of the resulting tree returns. `hinj`: distinct segment ids have distinct raw texts;
    `hcons`: the table's "consumes the rest" flag agrees with the segment record; `hok`: `groupdict()` of a pattern
    contains the fields its converters pop. -/
theorem history_compile_correct (k : Nat → String × Rt.Kind) (hinj : ∀ a b, (k a).1 = (k b).1 → a = b)
    (fixed : Bool) (h : List Add) (hcons : ∀ a ∈ h, ∀ s ∈ a.2, Cons k s)
    (t : Rt.Tables) (path : List String)
    (hok : Rt.okSpec (Rt.dL (toNodes k (runH fixed [] h)) + 1) t (toNodes k (runH fixed [] h)) {}) :
    Rt.runFinder t (toNodes k (runH fixed [] h)) path = .ret (Rt.runSpec t (toNodes k (runH fixed [] h)) path) :=
  Rt.compile_correct t _ path (wfL_toNodes k hinj _ (runH_wf (Cons k) fixed h [] hcons (by simp [WfL]))) hok

/-- lookups after a history = lookups after the history with the rejected calls removed -/
theorem history_lookup_eq (k : Nat → String × Rt.Kind) (h : List Add) (t : Rt.Tables) (path : List String) :
    Rt.runFinder t (toNodes k (runH true [] h)) path = Rt.runFinder t (toNodes k (runH true [] (acceptedH true [] h))) path := by
  rw [← history_rejected_removed]

end Rh
