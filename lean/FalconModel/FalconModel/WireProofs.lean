import FalconModel.Wire
import FalconModel.HeaderParsersProofs
/-! C06, request side: WSGI and ASGI header lookups agree (`FalconModel/Wire.lean` has the model).
    (Imports `HeaderParsersProofs` for `Hp.mem_dropWhile` only.)

    Both header stores are brought into one canonical form `canon hs` (lower-cased name ↦ comma-joined values, in order
    of first occurrence): the PEP 3333 environ is `baseEnv ++ mapK envKey (canon hs) ++ tailEnv` for every header list with
    ASCII `_`-free names, falcon's ASGI store *is* `canon hs` when no singleton header is repeated, and `Request.get_header`
    on such an environ is a lookup in `canon hs`.  For EVERY header list both stores have closed forms (last value for a
    singleton header, comma-join otherwise), which make the singleton exclusion exact. -/
namespace Wr

theorem dget_none_iff (d : Dict) (k : Str) : dget d k = none ↔ k ∉ keys d := by
  fun_induction dget d k with
  | case1 => simp [keys]
  | case2 k' v' t => simp [keys]
  | case3 k' v' t k h ih => simpa [keys, Ne.symm h] using ih

theorem dget_dset (d : Dict) (k k' v : Str) : dget (dset d k v) k' = if k = k' then some v else dget d k' := by
  induction d with
  | nil => simp [dset, dget]
  | cons kv t ih =>
    obtain ⟨k0, v0⟩ := kv
    by_cases h : k0 = k
    · subst h; by_cases h' : k0 = k' <;> simp [dset, dget, h']
    · by_cases h' : k0 = k'
      · subst h'; simp [dset, dget, h]; intro e; exact absurd e.symm h
      · simp [dset, dget, h, h', ih]

theorem keys_dset (d : Dict) (k v : Str) : keys (dset d k v) = if k ∈ keys d then keys d else keys d ++ [k] := by
  induction d with
  | nil => simp [dset, keys]
  | cons kv t ih =>
    obtain ⟨k0, v0⟩ := kv
    by_cases h : k0 = k
    · subst h; simp [dset, keys]
    · have h2 : ¬ k = k0 := fun e => h e.symm
      simp only [keys] at ih
      simp only [dset, keys, h, if_false, List.map_cons, ih, List.mem_cons, h2, false_or]
      by_cases hm : k ∈ List.map Prod.fst t <;> simp [hm]

theorem dget_of_mem {d : Dict} (hd : (keys d).Nodup) {k v : Str} (h : (k, v) ∈ d) : dget d k = some v := by
  induction d with
  | nil => simp at h
  | cons kv t ih =>
    obtain ⟨k0, v0⟩ := kv
    simp only [keys, List.map_cons, List.nodup_cons] at hd
    rcases List.mem_cons.1 h with e | e
    · cases e; simp [dget]
    · have hne : k0 ≠ k := fun e' => hd.1 (e' ▸ List.mem_map.2 ⟨_, e, rfl⟩)
      simp only [dget, if_neg hne]
      exact ih hd.2 e

theorem dget_append (a b : Dict) (k : Str) :
    dget (a ++ b) k = match dget a k with | some v => some v | none => dget b k := by
  induction a with
  | nil => simp [dget]
  | cons kv t ih =>
    obtain ⟨k0, v0⟩ := kv
    by_cases h : k0 = k <;> simp [dget, h, ih]

theorem dset_append_absent (a b : Dict) (k v : Str) (h : k ∉ keys a) : dset (a ++ b) k v = a ++ dset b k v := by
  induction a with
  | nil => rfl
  | cons kv t ih =>
    simp only [keys, List.map_cons, List.mem_cons, not_or] at h
    simp only [List.cons_append, dset, if_neg (Ne.symm h.1), ih h.2]

theorem dset_of_not_mem (d : Dict) (k v : Str) (h : k ∉ keys d) : dset d k v = d ++ [(k, v)] := by
  simpa [dset] using dset_append_absent d [] k v h

theorem dset_append_present (a b : Dict) (k v : Str) (h : k ∈ keys a) : dset (a ++ b) k v = dset a k v ++ b := by
  induction a with
  | nil => simp [keys] at h
  | cons kv t ih =>
    simp only [List.cons_append, dset]
    split
    · rfl
    · rename_i h1
      simp only [keys, List.map_cons, List.mem_cons] at h
      rw [ih (h.resolve_left (Ne.symm h1)), List.cons_append]

theorem keys_mapK (g : Str → Str) (d : Dict) : keys (mapK g d) = (keys d).map g := by
  simp [keys, mapK, List.map_map, Function.comp_def]

theorem dget_mapK (g : Str → Str) (d : Dict) (k : Str) (hinj : ∀ k' ∈ keys d, g k' = g k → k' = k) :
    dget (mapK g d) (g k) = dget d k := by
  induction d with
  | nil => rfl
  | cons kv t ih =>
    have ih' := ih fun k' hk => hinj k' (List.mem_cons_of_mem _ hk)
    have h0 : g kv.1 = g k ↔ kv.1 = k := ⟨hinj _ List.mem_cons_self, congrArg g⟩
    simp only [mapK, List.map_cons, dget] at ih' ⊢
    simp only [h0, ih']

theorem dset_mapK (g : Str → Str) (d : Dict) (k v : Str) (hinj : ∀ k' ∈ keys d, g k' = g k → k' = k) :
    dset (mapK g d) (g k) v = mapK g (dset d k v) := by
  induction d with
  | nil => rfl
  | cons kv t ih =>
    have ih' := ih fun k' hk => hinj k' (List.mem_cons_of_mem _ hk)
    have h0 : g kv.1 = g k ↔ kv.1 = k := ⟨hinj _ List.mem_cons_self, congrArg g⟩
    simp only [mapK, List.map_cons, dset] at ih' ⊢
    simp only [h0, ih']
    split <;> rfl

theorem dJoin_mapK (g : Str → Str) (d : Dict) (k v : Str) (hinj : ∀ k' ∈ keys d, g k' = g k → k' = k) :
    dJoin (mapK g d) (g k) v = mapK g (dJoin d k v) := by
  unfold dJoin
  rw [dget_mapK g d k hinj]
  cases dget d k <;> simp [dset_mapK g d k _ hinj]

theorem keys_dJoin (d : Dict) (k v : Str) : keys (dJoin d k v) = if k ∈ keys d then keys d else keys d ++ [k] := by
  unfold dJoin; cases dget d k <;> simp [keys_dset]

theorem dget_dJoin (d : Dict) (k k' v : Str) :
    dget (dJoin d k v) k' = if k = k' then (match dget d k with | some old => some (old ++ 44 :: v) | none => some v) else dget d k' := by
  unfold dJoin; cases h : dget d k <;> simp [dget_dset]

def ascii (s : Str) : Prop := ∀ c ∈ s, c < 128
/-- the shape of every key of the ASGI store on the domain -/
def lk (s : Str) : Prop := ∀ c ∈ s, c < 128 ∧ c ≠ 95 ∧ ¬ (65 ≤ c ∧ c ≤ 90)
def cgiC (c : Nat) : Nat := if upA c = 45 then 95 else upA c

theorem nameOK_iff (n : Str) : nameOK n = true ↔ ∀ c ∈ n, c < 128 ∧ c ≠ 95 := by
  simp [nameOK, List.all_eq_true]

theorem ascii_of_ok {n : Str} (h : nameOK n = true) : ascii n := fun c hc => ((nameOK_iff n).1 h c hc).1
theorem ascii_of_lk {n : Str} (h : lk n) : ascii n := fun c hc => (h c hc).1

theorem pyUpper_ascii {s : Str} (h : ascii s) : pyUpper s = s.map upA := by
  induction s with
  | nil => rfl
  | cons c t ih =>
    have hc : c < 128 := h c (by simp)
    have ht : ascii t := fun d hd => h d (by simp [hd])
    simp only [pyUpper, List.flatMap_cons, List.map_cons] at ih ⊢
    rw [ih ht]; simp [pyUpperC, hc]

theorem pyLower_ascii {s : Str} (h : ascii s) : pyLower s = s.map loA := by
  unfold pyLower
  apply List.map_congr_left
  intro c hc; simp [pyLowerC, h c hc]

theorem cgiName_ascii {s : Str} (h : ascii s) : cgiName s = s.map cgiC := by
  simp [cgiName, pyUpper_ascii h, replaceC, List.map_map, Function.comp_def, cgiC]

theorem ascii_lower {s : Str} (h : ascii s) : ascii (pyLower s) := by
  rw [pyLower_ascii h]
  refine List.forall_mem_map.2 fun d hd => ?_
  have := h d hd
  unfold loA; split <;> omega

theorem cgiName_lower {s : Str} (h : ascii s) : cgiName (pyLower s) = cgiName s := by
  rw [cgiName_ascii (ascii_lower h), cgiName_ascii h, pyLower_ascii h, List.map_map]
  apply List.map_congr_left; intro c _; unfold cgiC upA loA; grind

theorem envKey_lower {s : Str} (h : ascii s) : envKey (pyLower s) = envKey s := by
  simp [envKey, cgiName_lower h]

theorem lk_lower {n : Str} (h : nameOK n = true) : lk (pyLower n) := by
  rw [pyLower_ascii (ascii_of_ok h)]
  refine List.forall_mem_map.2 fun d hd => ?_
  have := (nameOK_iff n).1 h d hd
  unfold loA; split <;> omega

theorem lower_of_lk {k : Str} (h : lk k) : pyLower k = k := by
  rw [pyLower_ascii (ascii_of_lk h)]
  refine (List.map_congr_left fun c hc => ?_).trans (List.map_id k)
  have := h c hc
  unfold loA; split <;> simp <;> omega

theorem ascii_upper {s : Str} (h : ascii s) : ascii (pyUpper s) := by
  rw [pyUpper_ascii h]
  refine List.forall_mem_map.2 fun d hd => ?_
  have := h d hd
  unfold upA; split <;> omega
theorem lower_upper {s : Str} (h : ascii s) : pyLower (pyUpper s) = pyLower s := by
  rw [pyLower_ascii (ascii_upper h), pyUpper_ascii h, pyLower_ascii h, List.map_map]
  apply List.map_congr_left; intro c _; unfold loA upA; grind
theorem lower_lower (s : Str) : pyLower (pyLower s) = pyLower s := by
  have idem : ∀ c, pyLowerC (pyLowerC c) = pyLowerC c := by intro c; unfold pyLowerC loA; grind
  simp [pyLower, List.map_map, Function.comp_def, idem]

/-- the name `Request.headers` gives to the environ key of header `k` -/
def hdrName (k : Str) : Str := replaceC 95 45 (cgiName k)

theorem hdrName_lk {k : Str} (h : lk k) : hdrName k = pyUpper k := by
  unfold hdrName
  rw [cgiName_ascii (ascii_of_lk h), pyUpper_ascii (ascii_of_lk h), replaceC, List.map_map]
  apply List.map_congr_left; intro c hc
  have := h c hc
  simp only [Function.comp, cgiC, upA]; grind

theorem lower_upper_lk {k : Str} (h : lk k) : pyLower (pyUpper k) = k := by
  rw [lower_upper (ascii_of_lk h), lower_of_lk h]

theorem pyUpper_inj_lk {a b : Str} (ha : lk a) (hb : lk b) (e : pyUpper a = pyUpper b) : a = b := by
  rw [← lower_upper_lk ha, e, lower_upper_lk hb]

def unKey (e : Str) : Str := if e.take 5 = HTTP_ then e.drop 5 else e

theorem unKey_envKey (n : Str) : unKey (envKey n) = cgiName n := by
  unfold envKey unKey
  simp only
  split
  · rename_i h; rcases h with h | h <;> rw [h] <;> rfl
  · simp [HTTP_]

theorem envKey_inj_lk {a b : Str} (ha : lk a) (hb : lk b) (e : envKey a = envKey b) : a = b := by
  have ec : cgiName a = cgiName b := by rw [← unKey_envKey, e, unKey_envKey]
  exact pyUpper_inj_lk ha hb (by rw [← hdrName_lk ha, ← hdrName_lk hb, hdrName, ec, hdrName])

theorem envKey_ne_http_content (k : Str) {x : Str} (hx : x = CT ∨ x = CL) : envKey k ≠ HTTP_ ++ x := by
  intro e
  have hc : cgiName k = x := by rw [← unKey_envKey, e]; simp [unKey, HTTP_]
  rw [envKey, hc, if_pos hx] at e
  rcases hx with rfl | rfl <;> exact absurd e (by decide)

def plainKey (k : Str) : Prop := k.take 5 ≠ HTTP_ ∧ k ≠ CT ∧ k ≠ CL

theorem envKey_not_plain (n : Str) : ¬ plainKey (envKey n) := by
  unfold envKey plainKey; simp only
  split
  · rename_i h; rcases h with h | h <;> simp [h]
  · simp [HTTP_]

theorem not_mem_of_not_plain {d : Dict} (hd : ∀ k ∈ keys d, plainKey k) {k : Str} (hk : ¬ plainKey k) : k ∉ keys d :=
  fun h => hk (hd k h)

theorem dJoin_append_absent (a b : Dict) (k v : Str) (h : k ∉ keys a) : dJoin (a ++ b) k v = a ++ dJoin b k v := by
  unfold dJoin
  rw [dget_append, (dget_none_iff a k).2 h]
  cases dget b k <;> simp [dset_append_absent a b k _ h]

theorem lk_keys_dJoin {d : Dict} {k v : Str} (hd : ∀ k' ∈ keys d, lk k') (hk : lk k) : ∀ k' ∈ keys (dJoin d k v), lk k' := by
  intro k' h'
  rw [keys_dJoin] at h'
  split at h'
  · exact hd k' h'
  · simp at h'; rcases h' with h' | h'
    · exact hd k' h'
    · rw [h']; exact hk

def headerEnv (hs : List (Str × Str)) : Dict := hs.foldl envStep []

theorem foldl_envStep_append {base : Dict} (hb : ∀ k ∈ keys base, plainKey k) (hs : List (Str × Str)) (d : Dict) :
    hs.foldl envStep (base ++ d) = base ++ hs.foldl envStep d := by
  induction hs generalizing d with
  | nil => rfl
  | cons h hs ih =>
    rw [List.foldl_cons, List.foldl_cons, envStep, dJoin_append_absent _ _ _ _ (not_mem_of_not_plain hb (envKey_not_plain h.1))]
    exact ih _

theorem headerEnv_fold : ∀ (hs : List (Str × Str)) (d : Dict), (∀ h ∈ hs, nameOK h.1 = true) → (∀ k ∈ keys d, lk k) →
    hs.foldl envStep (mapK envKey d) = mapK envKey (hs.foldl (fun d h => dJoin d (pyLower h.1) h.2) d)
  | [], _, _, _ => rfl
  | (n, v) :: hs, d, hn, hd => by
    have hok : nameOK n = true := hn (n, v) (by simp)
    have hlk := lk_lower hok
    have e1 : envStep (mapK envKey d) (n, v) = mapK envKey (dJoin d (pyLower n) v) := by
      rw [envStep, ← envKey_lower (ascii_of_ok hok),
        dJoin_mapK envKey d (pyLower n) v (fun k' hk' e => envKey_inj_lk (hd k' hk') hlk e)]
    rw [List.foldl_cons, List.foldl_cons, e1]
    exact headerEnv_fold hs _ (fun h hh => hn h (by simp [hh])) (lk_keys_dJoin hd hlk)

theorem lk_keys_canon {hs : List (Str × Str)} (hn : ∀ h ∈ hs, nameOK h.1 = true) : ∀ k ∈ keys (canon hs), lk k :=
  List.foldlRecOn (motive := fun d => ∀ k ∈ keys d, lk k) hs _ (by simp [keys])
    fun _ hd h hh => lk_keys_dJoin hd (lk_lower (hn h hh))

/-- the invariant of the loop: every singleton name is met at most once, counting the entry already stored, so `asgiStep`
    never takes its overwrite branch and is `dJoin` -/
theorem store_fold : ∀ (hs : List (Str × Str)) (d : Dict),
    (∀ s ∈ SINGLETONS, (if (dget d s).isSome then 1 else 0) + (hs.filter fun h => pyLower h.1 = s).length ≤ 1) →
    (hs.map fun h => (pyLower h.1, h.2)).foldl asgiStep d = hs.foldl (fun d h => dJoin d (pyLower h.1) h.2) d
  | [], _, _ => rfl
  | (n, v) :: hs, d, hyp => by
    simp only [List.map_cons, List.foldl_cons]
    have e1 : asgiStep d (pyLower n, v) = dJoin d (pyLower n) v := by
      unfold asgiStep dJoin; simp only
      cases hg : dget d (pyLower n) with
      | none => rfl
      | some old =>
        simp only
        by_cases hs' : pyLower n ∈ SINGLETONS
        · have := hyp _ hs'
          simp [hg] at this
          omega
        · simp [hs']
    rw [e1]
    apply store_fold hs
    intro s hs'
    have := hyp s hs'
    rw [dget_dJoin]
    by_cases e : pyLower n = s
    · -- this line is the one occurrence of `s`: it was not stored before and is now
      simp only [e, if_true, List.filter_cons] at this ⊢
      simp at this ⊢
      cases dget d s <;> simp at this ⊢ <;> omega
    · -- another name: neither the entry under `s` nor the count changes
      simp only [e, if_false, List.filter_cons] at this ⊢
      simpa using this

theorem store_canonical (hs : List (Str × Str)) (h1 : singletonsOnce hs = true) :
    asgiStore (hs.map fun h => (pyLower h.1, h.2)) = canon hs := by
  unfold asgiStore canon
  apply store_fold
  intro s hs'
  simp only [singletonsOnce, List.all_eq_true, decide_eq_true_eq] at h1
  have := h1 s hs'
  simp [dget]; exact this

instance (k : Str) : Decidable (plainKey k) := by unfold plainKey; infer_instance

theorem baseEnv_keys (r : HReq) :
    (keys (baseEnv r)).Nodup ∧ (∀ k ∈ keys (baseEnv r), plainKey k) ∧ (r.client = none → lit "REMOTE_ADDR" ∉ keys (baseEnv r)) := by
  -- the keys with a known client are evaluated once; without a client the list is a prefix of them
  have full : ∀ a : Str × Str, (keys (baseEnv { r with client := some a })).Nodup
      ∧ ∀ k ∈ keys (baseEnv { r with client := some a }), plainKey k := by
    intro a; simp only [keys, baseEnv, List.map_append, List.map_cons, List.map_nil]; decide +kernel
  cases h : r.client with
  | some a =>
    have := full a
    simp only [keys, baseEnv, h, List.map_append, List.map_cons, List.map_nil] at this ⊢
    exact ⟨this.1, this.2, nofun⟩
  | none =>
    have := full ([], [])
    simp only [keys, baseEnv, h, List.map_append, List.map_cons, List.map_nil, List.append_nil] at this ⊢
    obtain ⟨hnd, hpl⟩ := this
    rw [List.nodup_append] at hnd
    exact ⟨hnd.1, fun k hk => hpl k (List.mem_append_left _ hk), fun _ hm => hnd.2.2 _ hm _ (List.mem_cons_self ..) rfl⟩

theorem baseEnv_plain (r : HReq) : ∀ k ∈ keys (baseEnv r), plainKey k := (baseEnv_keys r).2.1

theorem tailEnv_plain (r : HReq) : ∀ k ∈ keys (tailEnv r), plainKey k := by
  cases h : r.fileWrapper <;> simp only [keys, tailEnv, h] <;> decide +kernel

theorem headerEnv_canonical {hs : List (Str × Str)} (hn : ∀ h ∈ hs, nameOK h.1 = true) :
    headerEnv hs = mapK envKey (canon hs) :=
  headerEnv_fold hs [] hn (by simp [keys])

theorem toEnviron_eq (r : HReq) : toEnviron r = baseEnv r ++ headerEnv r.headers ++ tailEnv r := by
  have := foldl_envStep_append (baseEnv_plain r) r.headers []
  rw [List.append_nil] at this
  rw [toEnviron, this, headerEnv]

/-- **The environ in canonical form**: what the PEP 3333 server hands over is the fixed CGI / `wsgi.*` keys, then one key
    per distinct header name (in order of first occurrence, values comma-joined), then `wsgi.file_wrapper`. -/
theorem environ_canonical (r : HReq) (hn : ∀ h ∈ r.headers, nameOK h.1 = true) :
    toEnviron r = baseEnv r ++ mapK envKey (canon r.headers) ++ tailEnv r := by
  rw [toEnviron_eq, headerEnv_canonical hn]

theorem dget_sandwich (base M tail : Dict) (hb : ∀ k ∈ keys base, plainKey k) (ht : ∀ k ∈ keys tail, plainKey k)
    (k : Str) (hk : ¬ plainKey k) : dget (base ++ M ++ tail) k = dget M k := by
  rw [dget_append, dget_append, (dget_none_iff base k).2 (not_mem_of_not_plain hb hk),
      (dget_none_iff tail k).2 (not_mem_of_not_plain ht hk)]
  cases dget M k <;> rfl

theorem dget_toEnviron_hdr (r : HReq) {k : Str} (hk : ¬ plainKey k) : dget (toEnviron r) k = dget (headerEnv r.headers) k := by
  rw [toEnviron_eq, dget_sandwich _ _ _ (baseEnv_plain r) (tailEnv_plain r) _ hk]

theorem dget_mapK_envKey {R : Dict} (hR : ∀ k ∈ keys R, lk k) {name : Str} (hn : nameOK name = true) :
    dget (mapK envKey R) (envKey name) = dget R (pyLower name) := by
  rw [← envKey_lower (ascii_of_ok hn)]
  exact dget_mapK envKey R _ fun k' hk' e => envKey_inj_lk (hR k' hk') (lk_lower hn) e

theorem wsgiGet_sandwich (base M tail : Dict) (hb : ∀ k ∈ keys base, plainKey k) (ht : ∀ k ∈ keys tail, plainKey k)
    (name : Str) (required : Bool) (default : Option Str) :
    wsgiGet (base ++ M ++ tail) name required default = wsgiGet M name required default := by
  unfold wsgiGet
  simp only
  rw [dget_sandwich base M tail hb ht _ (by simp [plainKey, HTTP_])]
  by_cases hc : cgiName name = CT ∨ cgiName name = CL
  · rw [dget_sandwich base M tail hb ht _ fun h => hc.elim h.2.1 h.2.2]
  · simp only [hc, if_false]

theorem wsgiGet_toEnviron (r : HReq) (name : Str) (required : Bool) (default : Option Str) :
    wsgiGet (toEnviron r) name required default = wsgiGet (headerEnv r.headers) name required default := by
  rw [toEnviron_eq]; exact wsgiGet_sandwich _ _ _ (baseEnv_plain r) (tailEnv_plain r) ..

theorem wsgiGet_envKey (env : Dict) (h : ∀ x, x = CT ∨ x = CL → dget env (HTTP_ ++ x) = none) (name : Str) (required : Bool)
    (default : Option Str) : wsgiGet env name required default = asgiGetK env (envKey name) required default := by
  unfold wsgiGet asgiGetK envKey
  simp only
  by_cases hc : cgiName name = CT ∨ cgiName name = CL
  · rw [h _ hc, if_pos hc, if_pos hc]
  · rw [if_neg hc, if_neg hc]

theorem wsgiGet_canonical (base R tail : Dict) (hb : ∀ k ∈ keys base, plainKey k) (ht : ∀ k ∈ keys tail, plainKey k)
    (hR : ∀ k ∈ keys R, lk k) (name : Str) (hn : nameOK name = true) (required : Bool) (default : Option Str) :
    wsgiGet (base ++ mapK envKey R ++ tail) name required default = asgiGetK R (pyLower name) required default := by
  rw [wsgiGet_sandwich base _ tail hb ht, wsgiGet_envKey, asgiGetK, dget_mapK_envKey hR hn, asgiGetK]
  intro x hx
  rw [dget_none_iff, keys_mapK]
  intro hm
  obtain ⟨k', _, e⟩ := List.mem_map.1 hm
  exact envKey_ne_http_content k' hx e

theorem wfReq_iff (r : HReq) : wfReq r = true ↔ (∀ h ∈ r.headers, nameOK h.1 = true) ∧ singletonsOnce r.headers = true := by
  simp only [wfReq, Bool.and_eq_true, List.all_eq_true]

/-- **WSGI and ASGI `get_header` agree.**  For every wire header list on the domain (`wfReq`: names ASCII without `_`, no
    singleton header repeated) and every spelling of the looked-up name (ASCII without `_`), `required=` and `default=`:
    `falcon.Request(environ).get_header(name, …)` and `falcon.asgi.Request(scope, …).get_header(name, …)` return the same
    value / the same default / both raise HTTPMissingHeader. -/
theorem header_lookup_agree (r : HReq) (hwf : wfReq r = true) (name : Str) (hn : nameOK name = true)
    (required : Bool) (default : Option Str) :
    wsgiGet (toEnviron r) name required default = asgiGet (asgiStore (toScope r)) name required default := by
  obtain ⟨hnames, hsing⟩ := (wfReq_iff r).1 hwf
  rw [environ_canonical r hnames, wsgiGet_canonical _ _ _ (baseEnv_plain r) (tailEnv_plain r) (lk_keys_canon hnames) name hn]
  unfold asgiGet asgiName toScope
  rw [store_canonical r.headers hsing]

-- the WSGI vectors are evaluated on the header part: on the whole environ the kernel spends its time converting the string
-- literals of the CGI keys
example : wfReq sampleReq = true := by decide +kernel
example : wsgiGet (toEnviron sampleReq) (lit "aCCept") false none = .ok (some (lit "text/html,*/*")) := by rw [wsgiGet_toEnviron]; decide +kernel
example : asgiGet (asgiStore (toScope sampleReq)) (lit "aCCept") false none = .ok (some (lit "text/html,*/*")) := by decide +kernel
example : wsgiGet (toEnviron sampleReq) (lit "X-CUSTOM") true none = .ok (some (lit "a,")) := by rw [wsgiGet_toEnviron]; decide +kernel
example : wsgiGet (toEnviron sampleReq) (lit "Content-type") false none = .ok (some (lit "application/json")) := by rw [wsgiGet_toEnviron]; decide +kernel
example : wsgiGet (toEnviron sampleReq) (lit "X-Missing") true none = .missing := by rw [wsgiGet_toEnviron]; decide +kernel

/-- a repeated singleton header: the PEP 3333 server joins the two field lines, falcon's ASGI store keeps the last one -/
theorem repeated_singleton_witness :
    let r := mkReq [("Host", "a"), ("host", "b")]
    wsgiGet (toEnviron r) (lit "Host") false none = .ok (some (lit "a,b"))
    ∧ asgiGet (asgiStore (toScope r)) (lit "Host") false none = .ok (some (lit "b"))
    ∧ (r.headers.all fun h => nameOK h.1) = true ∧ singletonsOnce r.headers = false := by
  dsimp only
  rw [wsgiGet_toEnviron]
  decide +kernel

/-- `_` in a field name: CGI cannot tell `X_A` from `X-A`, ASGI can -/
theorem underscore_wire_name_witness :
    let r := mkReq [("X_A", "1"), ("X-A", "2")]
    wsgiGet (toEnviron r) (lit "X-A") false none = .ok (some (lit "1,2"))
    ∧ asgiGet (asgiStore (toScope r)) (lit "X-A") false none = .ok (some (lit "2"))
    ∧ singletonsOnce r.headers = true := by
  dsimp only
  rw [wsgiGet_toEnviron]
  decide +kernel

/-- `_` in the looked-up name (the request itself is inside the domain) -/
theorem underscore_lookup_name_witness :
    let r := mkReq [("X-A", "1")]
    wfReq r = true
    ∧ wsgiGet (toEnviron r) (lit "X_A") false none = .ok (some (lit "1"))
    ∧ asgiGet (asgiStore (toScope r)) (lit "X_A") false none = .ok none := by
  dsimp only
  rw [wsgiGet_toEnviron]
  decide +kernel

/-- a non-ASCII looked-up name: `'ß'.upper() == 'SS'`, so `get_header('ß')` finds the header `SS` on WSGI only -/
theorem non_ascii_lookup_name_witness :
    let r := mkReq [("SS", "1")]
    wfReq r = true
    ∧ wsgiGet (toEnviron r) [223] false none = .ok (some (lit "1"))
    ∧ asgiGet (asgiStore (toScope r)) [223] false none = .ok none := by
  dsimp only
  rw [wsgiGet_toEnviron]
  decide +kernel

theorem wsgi_lookup_case_insensitive (env : Dict) (n n' : Str) (hn : ascii n) (hn' : ascii n') (e : pyLower n = pyLower n')
    (required : Bool) (default : Option Str) : wsgiGet env n required default = wsgiGet env n' required default := by
  have : cgiName n = cgiName n' := by rw [← cgiName_lower hn, ← cgiName_lower hn', e]
  unfold wsgiGet; rw [this]

theorem asgi_lookup_case_insensitive (store : Dict) (n n' : Str) (e : pyLower n = pyLower n')
    (required : Bool) (default : Option Str) : asgiGet store n required default = asgiGet store n' required default := by
  unfold asgiGet asgiName; rw [e]

/-- `get_header('X-FOO') = get_header('x-foo') = get_header('X-Foo')` on WSGI, for every environ -/
theorem wsgi_lookup_upper_lower (env : Dict) (n : Str) (hn : ascii n) (required : Bool) (default : Option Str) :
    wsgiGet env (pyUpper n) required default = wsgiGet env n required default
    ∧ wsgiGet env (pyLower n) required default = wsgiGet env n required default :=
  ⟨wsgi_lookup_case_insensitive env _ _ (ascii_upper hn) hn (lower_upper hn) _ _,
   wsgi_lookup_case_insensitive env _ _ (ascii_lower hn) hn (lower_lower n) _ _⟩
/-- `get_header('X-FOO') = get_header('x-foo') = get_header('X-Foo')` on ASGI, for every header store -/
theorem asgi_lookup_upper_lower (store : Dict) (n : Str) (hn : ascii n) (required : Bool) (default : Option Str) :
    asgiGet store (pyUpper n) required default = asgiGet store n required default
    ∧ asgiGet store (pyLower n) required default = asgiGet store n required default :=
  ⟨asgi_lookup_case_insensitive store _ _ (lower_upper hn) _ _, asgi_lookup_case_insensitive store _ _ (lower_lower n) _ _⟩

/-- the invariant of the `_name_cache`: every entry maps a name to `name.lower().encode('latin1')` -/
def CacheOK (cache : Dict) : Prop := ∀ n k, dget cache n = some k → k = asgiName n

theorem cacheOK_nil : CacheOK [] := by intro n k h; simp [dget] at h

/-- a cache that starts with at most 64 entries never grows beyond 64 (`if len(_name_cache) < 64`) -/
theorem cachedName_transparent (cache : Dict) (name : Str) (h : CacheOK cache) :
    (cachedName cache name).1 = asgiName name ∧ CacheOK (cachedName cache name).2
    ∧ (cachedName cache name).2.length ≤ max cache.length 64 := by
  unfold cachedName
  cases hg : dget cache name with
  | some k => exact ⟨h name k hg, h, Nat.le_max_left ..⟩
  | none =>
    simp only
    split
    · refine ⟨trivial, fun n k hk => ?_, ?_⟩
      · rw [dget_dset] at hk
        split at hk
        · rename_i e; subst e; cases hk; rfl
        · exact h n k hk
      · rw [dset_of_not_mem _ _ _ ((dget_none_iff _ _).1 hg), List.length_append, List.length_singleton]
        omega
    · exact ⟨trivial, h, Nat.le_max_left ..⟩

theorem asgiGetC_eq (cache store : Dict) (name : Str) (h : CacheOK cache) (required : Bool) (default : Option Str) :
    (asgiGetC cache store name required default).1 = asgiGet store name required default
    ∧ CacheOK (asgiGetC cache store name required default).2 := by
  have := cachedName_transparent cache name h
  unfold asgiGetC asgiGet
  exact ⟨by simp only; rw [this.1], this.2.1⟩

theorem nodup_keys_dJoin {d : Dict} {k v : Str} (h : (keys d).Nodup) : (keys (dJoin d k v)).Nodup := by
  rw [keys_dJoin]
  split
  · exact h
  · rename_i hk
    rw [List.nodup_append]
    exact ⟨h, by simp, by intro a ha b hb; simp at hb; subst hb; intro e; exact hk (e ▸ ha)⟩

theorem nodup_keys_canon (hs : List (Str × Str)) : (keys (canon hs)).Nodup :=
  List.foldlRecOn (motive := fun d => (keys d).Nodup) hs _ (by simp [keys]) fun _ hd _ _ => nodup_keys_dJoin hd

/-- a dict comprehension whose new keys are all distinct is a `map` -/
theorem fold_dset_fresh (g : Str → Str) : ∀ (l acc : Dict), (keys acc ++ (keys l).map g).Nodup →
    l.foldl (fun h kv => dset h (g kv.1) kv.2) acc = acc ++ mapK g l
  | [], acc, _ => by simp [mapK]
  | (k, v) :: l, acc, hnd => by
    have hk : g k ∉ keys acc := fun hm => (List.nodup_append.1 hnd).2.2 _ hm (g k) (by simp [keys]) rfl
    have hnd' : (keys (acc ++ [(g k, v)]) ++ (keys l).map g).Nodup := by simpa [keys] using hnd
    rw [List.foldl_cons, dset_of_not_mem _ _ _ hk, fold_dset_fresh g l _ hnd']
    simp [mapK]

theorem comprehension_eq (g : Str → Str) (l : Dict) (h : (keys (mapK g l)).Nodup) :
    l.foldl (fun h kv => dset h (g kv.1) kv.2) [] = mapK g l :=
  fold_dset_fresh g l [] (by rwa [keys_mapK] at h)

theorem nodup_map_on {g : Str → Str} {l : List Str} (hinj : ∀ a ∈ l, ∀ b ∈ l, g a = g b → a = b) (h : l.Nodup) :
    (l.map g).Nodup := by
  unfold List.Nodup at h ⊢
  rw [List.pairwise_map]
  exact h.imp_of_mem (fun ha hb hne e => hne (hinj _ ha _ hb e))

theorem mapK_mapK (f g : Str → Str) (d : Dict) : mapK f (mapK g d) = mapK (fun k => f (g k)) d := by
  simp [mapK, List.map_map, Function.comp_def]

theorem mapK_congr {f g : Str → Str} {d : Dict} (h : ∀ k ∈ keys d, f k = g k) : mapK f d = mapK g d :=
  List.map_congr_left fun kv hkv => by rw [h kv.1 (List.mem_map.2 ⟨kv, hkv, rfl⟩)]

theorem mapK_id (d : Dict) : mapK id d = d := List.map_id'' (fun _ => rfl) d

/-- the body of the `for name, value in self.env.items()` loop -/
def hdrStep (h : Dict) (kv : Str × Str) : Dict :=
  if kv.1.take 5 = HTTP_ then dset h (replaceC 95 45 (kv.1.drop 5)) kv.2
  else if kv.1 = CT ∨ kv.1 = CL then dset h (replaceC 95 45 kv.1) kv.2
  else h

theorem wsgiHeaders_eq (env : Dict) : wsgiHeaders env = env.foldl hdrStep [] := rfl

theorem hdrStep_eq (h : Dict) (kv : Str × Str) :
    hdrStep h kv = if plainKey kv.1 then h else dset h (replaceC 95 45 (unKey kv.1)) kv.2 := by
  unfold hdrStep plainKey unKey
  by_cases h5 : kv.1.take 5 = HTTP_
  · simp only [h5, if_true, ne_eq, not_true, false_and, if_false]
  · simp only [h5, if_false, ne_eq, not_false_eq_true, true_and, ← not_or, ite_not]

theorem hdrStep_plain (l acc : Dict) (hp : ∀ k ∈ keys l, plainKey k) : l.foldl hdrStep acc = acc :=
  List.foldlRecOn (motive := (· = acc)) l _ rfl fun b hb kv hkv => by
    rw [hb, hdrStep_eq, if_pos (hp kv.1 (List.mem_map.2 ⟨kv, hkv, rfl⟩))]

theorem hdrStep_envKey (h : Dict) (k v : Str) : hdrStep h (envKey k, v) = dset h (hdrName k) v := by
  rw [hdrStep_eq, if_neg (envKey_not_plain k), unKey_envKey, hdrName]

theorem hdrStep_mapK (R acc : Dict) :
    (mapK envKey R).foldl hdrStep acc = R.foldl (fun h kv => dset h (hdrName kv.1) kv.2) acc := by
  rw [mapK, List.foldl_map]
  congr; funext h kv; exact hdrStep_envKey h kv.1 kv.2

/-- WSGI `req.headers` is the same mapping with the names upper-cased (the documented per-interface difference) -/
theorem wsgi_headers_upper (r : HReq) (hn : ∀ h ∈ r.headers, nameOK h.1 = true) :
    wsgiHeaders (toEnviron r) = mapK pyUpper (canon r.headers) := by
  have hR := lk_keys_canon hn
  have e : mapK hdrName (canon r.headers) = mapK pyUpper (canon r.headers) := mapK_congr fun k hk => hdrName_lk (hR k hk)
  rw [environ_canonical r hn, wsgiHeaders_eq, List.foldl_append, List.foldl_append, hdrStep_plain _ [] (baseEnv_plain r),
    hdrStep_plain _ _ (tailEnv_plain r), hdrStep_mapK, comprehension_eq hdrName _, e]
  rw [e, keys_mapK]
  exact nodup_map_on (fun a ha b hb' => pyUpper_inj_lk (hR a ha) (hR b hb')) (nodup_keys_canon _)

theorem wsgiHeadersLower_eq (r : HReq) (hn : ∀ h ∈ r.headers, nameOK h.1 = true) :
    wsgiHeadersLower (toEnviron r) = canon r.headers := by
  have e : mapK pyLower (mapK pyUpper (canon r.headers)) = canon r.headers :=
    (mapK_mapK pyLower pyUpper _).trans ((mapK_congr fun k hk => lower_upper_lk (lk_keys_canon hn k hk)).trans (mapK_id _))
  rw [wsgiHeadersLower, wsgi_headers_upper r hn, comprehension_eq pyLower _ (by rw [e]; exact nodup_keys_canon _), e]

theorem asgiHeaders_nodup (R : Dict) (hnd : (keys R).Nodup) : asgiHeaders R = R :=
  (comprehension_eq id R (by rwa [mapK_id])).trans (mapK_id R)

/-- **`req.headers_lower` / `req.headers` agree, as dicts in iteration order.**  On the domain, the WSGI
    `Request.headers_lower` and the ASGI `Request.headers` (= `.headers_lower`) are the same list of (name, value) items:
    lower-cased names in order of first occurrence, repeated field lines comma-joined (both equal `canon`). -/
theorem headers_agree (r : HReq) (hwf : wfReq r = true) :
    wsgiHeadersLower (toEnviron r) = asgiHeaders (asgiStore (toScope r))
    ∧ asgiHeaders (asgiStore (toScope r)) = canon r.headers := by
  obtain ⟨hnames, hsing⟩ := (wfReq_iff r).1 hwf
  have h2 : asgiHeaders (asgiStore (toScope r)) = canon r.headers := by
    unfold toScope; rw [store_canonical r.headers hsing]; exact asgiHeaders_nodup _ (nodup_keys_canon _)
  exact ⟨by rw [h2, wsgiHeadersLower_eq r hnames], h2⟩

example : asgiHeaders (asgiStore (toScope sampleReq)) =
    [(lit "accept", lit "text/html,*/*"), (lit "x-custom", lit "a,"), (lit "content-type", lit "application/json"),
     (lit "content-length", lit "12"), (lit "host", lit "example.com")] := by decide +kernel

theorem dget_environ_key (r : HReq) (hn : ∀ h ∈ r.headers, nameOK h.1 = true) (name : Str) (hname : nameOK name = true) :
    dget (toEnviron r) (envKey name) = dget (canon r.headers) (pyLower name) := by
  rw [dget_toEnviron_hdr r (envKey_not_plain name), headerEnv_canonical hn]
  exact dget_mapK_envKey (lk_keys_canon hn) hname

theorem raw_header_agree (r : HReq) (hwf : wfReq r = true) (name : Str) (hn : nameOK name = true) :
    dget (toEnviron r) (envKey name) = dget (asgiStore (toScope r)) (pyLower name) := by
  obtain ⟨hnames, hsing⟩ := (wfReq_iff r).1 hwf
  rw [dget_environ_key r hnames name hn]
  unfold toScope; rw [store_canonical r.headers hsing]

theorem asgiContentType_eq (method : Str) (store : Dict) : asgiContentType method store = dget store ctLow := by
  unfold asgiContentType
  split
  · cases dget store ctLow <;> rfl
  · rfl

/-- **`req.content_type` agrees** (`env['CONTENT_TYPE']` vs `_asgi_headers[b'content-type']`, both method branches) -/
theorem content_type_agree (r : HReq) (hwf : wfReq r = true) :
    wsgiContentType (toEnviron r) = asgiContentType r.method (asgiStore (toScope r)) := by
  rw [asgiContentType_eq]
  exact raw_header_agree r hwf ctLow (by decide)

theorem content_length_raw_agree (r : HReq) (hwf : wfReq r = true) :
    dget (toEnviron r) CL = dget (asgiStore (toScope r)) clLow :=
  raw_header_agree r hwf clLow (by decide)

/-- `int(str)` and `int(bytes)` skip the same characters, except NEL (133) and NBSP (160), which only `str.isspace()` knows -/
theorem isWsInt_eq_isWsB (n : Nat) (h : exoticWs n = false) : isWsInt (Char.ofNat n) = Hp.isWsB (Char.ofNat n) := by
  have : (Char.ofNat n).toNat = n ∨ (Char.ofNat n).toNat = 0 := by
    by_cases hv : n.isValidChar
    · left; simp [Char.ofNat, hv, Char.ofNatAux, Char.toNat, UInt32.toNat]
    · right; simp [Char.ofNat, hv, Char.toNat, UInt32.toNat]
  unfold isWsInt
  rcases this with e | e
  · rw [e]; unfold exoticWs at h; simp at h ⊢; grind
  · rw [e]; simp

theorem dropWhile_congr {w w' : Char → Bool} : ∀ (s : List Char), (∀ c ∈ s, w c = w' c) → s.dropWhile w = s.dropWhile w'
  | [], _ => rfl
  | c :: s, h => by
    have hc := h c (by simp)
    simp only [List.dropWhile_cons, hc]
    split
    · exact dropWhile_congr s (fun d hd => h d (by simp [hd]))
    · rfl

theorem pyIntW_congr {w w' : Char → Bool} (s : List Char) (h : ∀ c ∈ s, w c = w' c) : Hp.pyIntW w s = Hp.pyIntW w' s := by
  have h1 : Hp.lstripW w s = Hp.lstripW w' s := dropWhile_congr s h
  have h2 : Hp.stripW w s = Hp.stripW w' s := by
    unfold Hp.stripW Hp.rstripW
    rw [← h1]
    congr 1
    apply dropWhile_congr
    intro c hc
    exact h c (Hp.mem_dropWhile (List.mem_reverse.1 hc))
  unfold Hp.pyIntW; rw [h2]

theorem canon_chars (Q : Nat → Prop) (k : Str) (hq : Q 44) (hs : List (Str × Str))
    (hh : ∀ h ∈ hs, pyLower h.1 = k → ∀ c ∈ h.2, Q c) : ∀ v, dget (canon hs) k = some v → ∀ c ∈ v, Q c := by
  refine List.foldlRecOn (motive := fun d => ∀ v, dget d k = some v → ∀ c ∈ v, Q c) hs _ (by simp [dget]) ?_
  intro d hd h hm v hv c hc
  rw [dget_dJoin] at hv
  split at hv
  · rename_i e
    have hx := hh h hm e
    cases hg : dget d (pyLower h.1) with
    | none => simp [hg] at hv; subst hv; exact hx c hc
    | some old =>
      simp [hg] at hv; subst hv
      simp at hc
      rcases hc with hc | hc | hc
      · exact hd old (e ▸ hg) c hc
      · rw [hc]; exact hq
      · exact hx c hc
  · exact hd v hv c hc

theorem wsgiContentLength_toEnviron (r : HReq) : wsgiContentLength (toEnviron r) = wsgiContentLength (headerEnv r.headers) := by
  unfold wsgiContentLength
  rw [dget_toEnviron_hdr r fun h => h.2.2 rfl]

/-- **`req.content_length` agrees** — absent / the number / HTTPInvalidHeader alike — although WSGI tests for the empty value
    first and parses with `int(str)` while ASGI parses with `int(bytes)` and tests for the empty value in the `except` branch. -/
theorem content_length_agree (r : HReq) (hwf : wfReq r = true) (hcl : clValueOK r = true) :
    wsgiContentLength (toEnviron r) = asgiContentLength (asgiStore (toScope r)) := by
  unfold wsgiContentLength asgiContentLength
  rw [content_length_raw_agree r hwf]
  obtain ⟨_, hsing⟩ := (wfReq_iff r).1 hwf
  rw [toScope, store_canonical r.headers hsing]
  cases hg : dget (canon r.headers) clLow with
  | none => rfl
  | some value =>
    have hchars : ∀ c ∈ value, exoticWs c = false := by
      refine canon_chars (fun c => exoticWs c = false) clLow (by decide) r.headers ?_ value hg
      intro h hm e c hc
      simp only [clValueOK, List.all_eq_true] at hcl
      have := hcl h hm
      simp [e] at this
      exact this c hc
    have hint : pyIntStr (chars value) = Hp.pyIntB (chars value) := by
      apply pyIntW_congr
      intro c hc
      simp only [chars, List.mem_map] at hc
      obtain ⟨n, hn, rfl⟩ := hc
      exact isWsInt_eq_isWsB n (hchars n hn)
    simp only
    by_cases he : value = []
    · subst he; simp [chars, (by decide : Hp.pyIntB [] = none)]
    · simp only [he, if_false, hint]

/-- the hypothesis on the value is necessary: NBSP + "5" is 5 for `int(str)` and a ValueError for `int(bytes)` -/
theorem content_length_nbsp_witness :
    let r : HReq := { sampleReq with headers := [(lit "Content-Length", [160, 53])] }
    wfReq r = true ∧ wsgiContentLength (toEnviron r) = .ok 5 ∧ asgiContentLength (asgiStore (toScope r)) = .bad := by
  dsimp only
  rw [wsgiContentLength_toEnviron]
  decide +kernel

example : clValueOK sampleReq = true := by decide +kernel
example : wsgiContentLength (toEnviron sampleReq) = .ok 12 := by rw [wsgiContentLength_toEnviron]; decide +kernel

def vals (k : Str) (hs : List (Str × Str)) : List Str := (hs.filter fun h => pyLower h.1 = k).map Prod.snd
def joinFrom (acc : Option Str) (vs : List Str) : Option Str :=
  vs.foldl (fun a x => some (match a with | none => x | some o => o ++ 44 :: x)) acc
def lastFrom (acc : Option Str) (vs : List Str) : Option Str := vs.foldl (fun _ x => some x) acc

theorem dget_foldl_step {step : Dict → Str × Str → Dict} {F : Option Str → Str → Option Str} {k : Str}
    (hstep : ∀ d n v, dget (step d (n, v)) k = if pyLower n = k then F (dget d k) v else dget d k) :
    ∀ (hs : List (Str × Str)) (d : Dict), dget (hs.foldl step d) k = (vals k hs).foldl F (dget d k)
  | [], _ => rfl
  | (n, v) :: hs, d => by
    rw [List.foldl_cons, dget_foldl_step hstep hs, hstep]
    by_cases e : pyLower n = k <;> simp [vals, e]

theorem dget_asgiStep (d : Dict) (k' v k : Str) :
    dget (asgiStep d (k', v)) k =
      if k' = k then (match dget d k with
                      | none => some v
                      | some old => if k ∈ SINGLETONS then some v else some (old ++ 44 :: v))
      else dget d k := by
  unfold asgiStep; simp only
  by_cases e : k' = k
  · subst e
    cases hg : dget d k' with
    | none => simp [dget_dset]
    | some old => by_cases hs : k' ∈ SINGLETONS <;> simp [hs, dget_dset]
  · cases hg : dget d k' with
    | none => simp [dget_dset, e]
    | some old => by_cases hs : k' ∈ SINGLETONS <;> simp [hs, dget_dset, e]

/-- **closed form of falcon's ASGI header store**, for every header list: a singleton header holds the value of its LAST
    field line, any other header the comma-join of all its field lines -/
theorem asgi_store_closed_form (hs : List (Str × Str)) (k : Str) :
    dget (asgiStore (hs.map fun h => (pyLower h.1, h.2))) k
      = if k ∈ SINGLETONS then lastFrom none (vals k hs) else joinFrom none (vals k hs) := by
  rw [asgiStore, List.foldl_map]
  split
  all_goals
    refine dget_foldl_step (fun d n v => ?_) hs []
    rw [dget_asgiStep]
    split
    · cases dget d k <;> rfl
    · rfl

theorem canon_closed_form (hs : List (Str × Str)) (k : Str) : dget (canon hs) k = joinFrom none (vals k hs) := by
  refine dget_foldl_step (fun d n v => ?_) hs []
  rw [dget_dJoin]
  split
  · rename_i e; subst e; cases dget d (pyLower n) <;> rfl
  · rfl

/-- joining at least one more value makes the string longer than what was there plus the last value -/
theorem join_last_len : ∀ (vs : List Str) (a b : Str), ∃ x y, joinFrom (some a) vs = some x ∧ lastFrom (some b) vs = some y
    ∧ a.length ≤ x.length ∧ (vs ≠ [] → a.length + y.length < x.length)
  | [], a, b => ⟨a, b, rfl, rfl, Nat.le_refl _, fun h => absurd rfl h⟩
  | y0 :: vs, a, b => by
    obtain ⟨x, y, hx, hy, h1, h2⟩ := join_last_len vs (a ++ 44 :: y0) y0
    refine ⟨x, y, hx, hy, ?_, fun _ => ?_⟩
    · simp at h1; omega
    · cases vs with
      | nil => cases hy; simp at h1; omega
      | cons _ _ => have := h2 (List.cons_ne_nil _ _); simp at this; omega

theorem join_ne_last (vs : List Str) (h : 2 ≤ vs.length) : joinFrom none vs ≠ lastFrom none vs := by
  match vs, h with
  | v0 :: v1 :: rest, _ =>
    obtain ⟨x, y, hx, hy, _, h2⟩ := join_last_len (v1 :: rest) v0 v0
    have e1 : joinFrom none (v0 :: v1 :: rest) = some x := hx
    have e2 : lastFrom none (v0 :: v1 :: rest) = some y := hy
    rw [e1, e2]
    intro e
    cases e
    have := h2 (List.cons_ne_nil _ _)
    omega
theorem singletons_ok : ∀ s ∈ SINGLETONS, nameOK s = true ∧ pyLower s = s := by decide +kernel

/-- **The singleton exclusion is exact.**  For every request whose field names are ASCII without `_`: WSGI and ASGI `get_header`
    agree on every (ASCII, `_`-free) name **iff** no singleton header is repeated.  (⇐ is `header_lookup_agree`; ⇒: a repeated
    singleton is comma-joined by the PEP 3333 server and reduced to its last field line by falcon's ASGI store, and the join is
    strictly longer.) -/
theorem singleton_exclusion_exact (r : HReq) (hn : ∀ h ∈ r.headers, nameOK h.1 = true) :
    (∀ name, nameOK name = true → wsgiGet (toEnviron r) name false none = asgiGet (asgiStore (toScope r)) name false none)
      ↔ singletonsOnce r.headers = true := by
  constructor
  · intro hall
    simp only [singletonsOnce, List.all_eq_true, decide_eq_true_eq]
    intro s hs
    apply Nat.le_of_not_lt
    intro hlt
    have hso := singletons_ok s hs
    have := hall s hso.1
    rw [environ_canonical r hn,
        wsgiGet_canonical _ _ _ (baseEnv_plain r) (tailEnv_plain r) (lk_keys_canon hn) s hso.1] at this
    unfold asgiGet asgiName asgiGetK toScope at this
    rw [hso.2, canon_closed_form, asgi_store_closed_form] at this
    simp only [hs, if_true] at this
    have hne := join_ne_last (vals s r.headers) (by simp only [vals, List.length_map]; exact hlt)
    cases h1 : joinFrom none (vals s r.headers) <;> cases h2 : lastFrom none (vals s r.headers) <;>
      simp [h1, h2] at this hne
    exact hne this
  · intro hs name hname
    exact header_lookup_agree r ((wfReq_iff r).2 ⟨hn, hs⟩) name hname false none

end Wr
