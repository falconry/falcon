import FalconModel.Ws
/-! C17: every trace of events that `_handle_websocket` gets the server to accept is a word of the ASGI WebSocket
    send-side automaton — for every responder / middleware / error-handler script, client script, fault position and
    kind, configuration, and every sequence of observed disconnect-flag values.  Also here: an abandoned receive leaves no
    trace; the connection is never left half-open; the (state, operation) → error table, the close-code table and the
    error → close-code mapping; a close reason goes only to a server that supports it; close codes the server refuses. -/
namespace Ws

/-- the ASGI server's view of the send side -/
inductive M where | connecting | opened | done
deriving DecidableEq, Repr

def M.step : M → Ev → Option M
  | .connecting, .accept _ _ => some .opened
  | .opened, .send _ => some .opened
  | .connecting, .close _ _ => some .done     -- denial: the server answers the handshake with 403
  | .opened, .close _ _ => some .done
  | _, _ => none

def M.run : M → List Ev → Option M
  | m, [] => some m
  | m, e :: es => match m.step e with | some m' => m'.run es | none => none

/-- the events the server accepted (a `send` that raised delivered nothing) -/
def okEvents (l : List (Ev × Bool)) : List Ev := (l.filter (·.2)).map (·.1)

theorem run_append (m : M) (a b : List Ev) :
    M.run m (a ++ b) = match M.run m a with | some m' => M.run m' b | none => none := by
  induction a generalizing m with
  | nil => rfl
  | cons e es ih =>
    simp only [List.cons_append, M.run]
    cases h : m.step e with
    | none => rfl
    | some m' => exact ih m'

def M.of : S → M
  | .handshake => .connecting
  | .accepted => .opened
  | .closed => .done

structure Inv (w : W) : Prop where
  legal : ∃ m, M.run .connecting (okEvents w.sent) = some m ∧ (w.st ≠ .closed → m = M.of w.st)

theorem okEvents_snoc (l : List (Ev × Bool)) (e : Ev) (ok : Bool) :
    okEvents (l ++ [(e, ok)]) = if ok then okEvents l ++ [e] else okEvents l := by
  unfold okEvents
  cases ok <;> simp [List.filter_append]

theorem Inv.init (w : W) (h1 : w.st = .handshake) (h2 : w.sent = []) : Inv w :=
  ⟨⟨.connecting, by rw [h2]; rfl, fun _ => by rw [h1]; rfl⟩⟩

def reasonOk (sup : Bool) (e : Ev) : Prop := ∀ c, e = Ev.close c true → sup = true

/-- what one operation may do to the socket: at most one event is handed to the server; if the server accepts it, the
    send-side automaton accepts it too, moving with the state -/
def Eff (w w' : W) : Prop :=
  w'.supReason = w.supReason ∧
  (((w'.sent = w.sent ∨ ∃ e, reasonOk w.supReason e ∧ w'.sent = w.sent ++ [(e, false)]) ∧ (w'.st = w.st ∨ w'.st = .closed))
    ∨ ∃ e, reasonOk w.supReason e ∧ w'.sent = w.sent ++ [(e, true)] ∧ w.st ≠ .closed ∧ (M.of w.st).step e = some (M.of w'.st))

theorem Eff.quiet {w w' : W} (hr : w'.supReason = w.supReason) (hs : w'.sent = w.sent) (ht : w'.st = w.st ∨ w'.st = .closed) :
    Eff w w' := ⟨hr, Or.inl ⟨Or.inl hs, ht⟩⟩

theorem Eff.refl (w : W) : Eff w w := Eff.quiet rfl rfl (Or.inl rfl)

theorem Inv.of_eff {w w' : W} (hi : Inv w) (h : Eff w w') : Inv w' := by
  obtain ⟨m, hm, hst⟩ := hi.legal
  rcases h.2 with ⟨hs, ht⟩ | ⟨e, _, hs, hnc, hstep⟩
  · have hok : okEvents w'.sent = okEvents w.sent := by
      rcases hs with hs | ⟨e, _, hs⟩ <;> rw [hs]
      rw [okEvents_snoc]; rfl
    refine ⟨⟨m, hok ▸ hm, fun hc => ?_⟩⟩
    rcases ht with ht | ht
    · rw [ht] at hc ⊢; exact hst hc
    · exact absurd ht hc
  · refine ⟨⟨M.of w'.st, ?_, fun _ => rfl⟩⟩
    rw [hs, okEvents_snoc, if_pos rfl, run_append, hm, hst hnc]
    simp [M.run, hstep]

theorem asgiSend_eq (w : W) (e : Ev) : ∃ ok, w.asgiSend e = ({ w with sent := w.sent ++ [(e, ok)] }, ok) := ⟨_, rfl⟩


/-- `_send`: nothing reaches the server (disconnect known or recorded), or `e` is handed over and refused, or handed over and
    accepted -/
theorem send__effect (w : W) (d : Option Int) (e : Ev) (x : W × Option Exc) (hx : w.send_ d e = x) :
    x.1.supReason = w.supReason ∧
    (((x.1.sent = w.sent ∨ x.1.sent = w.sent ++ [(e, false)]) ∧ (x.1.st = w.st ∨ x.1.st = .closed) ∧ x.2 ≠ none)
      ∨ (x.1.sent = w.sent ++ [(e, true)] ∧ x.1.st = w.st ∧ x.2 = none ∧ w.st ≠ .closed)) := by
  unfold W.send_ at hx
  cases d with
  | some c => subst hx; exact ⟨rfl, Or.inl ⟨Or.inl rfl, Or.inr rfl, nofun⟩⟩
  | none =>
    dsimp only at hx
    by_cases hc : w.st = .closed
    · rw [if_pos (by rw [hc]; rfl)] at hx
      subst hx
      exact ⟨rfl, Or.inl ⟨Or.inl rfl, Or.inl rfl, nofun⟩⟩
    · rw [if_neg (by simpa using hc)] at hx
      obtain ⟨ok, hok⟩ := asgiSend_eq w e
      rw [hok] at hx
      dsimp only at hx
      cases ok with
      | true => subst hx; exact ⟨rfl, Or.inr ⟨rfl, rfl, rfl, hc⟩⟩
      | false =>
        rw [if_neg Bool.false_ne_true] at hx
        split at hx <;> subst hx
        · exact ⟨rfl, Or.inl ⟨Or.inr rfl, Or.inr rfl, nofun⟩⟩
        · exact ⟨rfl, Or.inl ⟨Or.inr rfl, Or.inr rfl, nofun⟩⟩
        · exact ⟨rfl, Or.inl ⟨Or.inr rfl, Or.inr rfl, nofun⟩⟩
        · exact ⟨rfl, Or.inl ⟨Or.inr rfl, Or.inl rfl, nofun⟩⟩
        · exact ⟨rfl, Or.inl ⟨Or.inr rfl, Or.inl rfl, nofun⟩⟩

/-- the event part of `close()`: nothing is sent when the socket is closed or known lost; otherwise one close event (its
    reason guarded by `supReason`) is handed over -/
theorem closeGo_effect (w : W) (d : Option Int) (r : Bool) (code : Int) (x : W × Option Exc) (hx : W.close.go d r w code = x) :
    x.1.supReason = w.supReason ∧
    ((x.1.sent = w.sent ∧ x.1.st = .closed ∧ x.2 = none)
      ∨ ∃ ev ok, (∃ r', ev = Ev.close code (r' && w.supReason)) ∧ x.1.sent = w.sent ++ [(ev, ok)] ∧ w.st ≠ .closed ∧
          (ok = true → x.1.st = .closed ∧ x.2 = none) ∧
          (ok = false → x.1.st = w.st ∧ x.2 = some (w.fault.raw w.faultIcc))) := by
  unfold W.close.go at hx
  split at hx
  · split at hx <;> subst hx
    · rename_i hc
      exact ⟨rfl, Or.inl ⟨rfl, by simpa using hc, rfl⟩⟩
    · exact ⟨rfl, Or.inl ⟨rfl, rfl, rfl⟩⟩
  · rename_i hc
    have hnc : w.st ≠ .closed := fun h => hc (by simp [W.isClosed, h])
    have hg : ∃ r', Ev.close code ((r || w.reasonCodes.contains code) && w.supReason) = Ev.close code (r' && w.supReason) := ⟨_, rfl⟩
    generalize Ev.close code ((r || w.reasonCodes.contains code) && w.supReason) = ev at hg hx
    obtain ⟨ok, hok⟩ := asgiSend_eq w ev
    rw [hok] at hx
    cases ok <;> subst hx
    · exact ⟨rfl, Or.inr ⟨ev, false, hg, rfl, hnc, nofun, fun _ => ⟨rfl, rfl⟩⟩⟩
    · exact ⟨rfl, Or.inr ⟨ev, true, hg, rfl, hnc, fun _ => ⟨rfl, rfl⟩, nofun⟩⟩

theorem stopPump_eq (w : W) : ∃ b, w.stopPump = { w with pumpStopped := b } := by
  unfold W.stopPump
  split
  · exact ⟨_, rfl⟩
  · exact ⟨_, rfl⟩

theorem stopPump_st (w : W) : w.stopPump.st = w.st := by obtain ⟨b, hb⟩ := stopPump_eq w; rw [hb]
theorem stopPump_sent (w : W) : w.stopPump.sent = w.sent := by obtain ⟨b, hb⟩ := stopPump_eq w; rw [hb]
theorem stopPump_supReason (w : W) : w.stopPump.supReason = w.supReason := by obtain ⟨b, hb⟩ := stopPump_eq w; rw [hb]
theorem stopPump_errCloseCode (w : W) : w.stopPump.errCloseCode = w.errCloseCode := by obtain ⟨b, hb⟩ := stopPump_eq w; rw [hb]

def validCode (c : Int) : Bool := !(c < 1000 || (1015 ≤ c && c ≤ 1999) || (1004 ≤ c && c ≤ 1006))

theorem close_none (w : W) (d : Option Int) (r : Bool) : w.close d .none r = W.close.go d r w.stopPump 1000 := rfl

theorem close_int (w : W) (d : Option Int) (c : Int) (r : Bool) :
    w.close d (.int c) r = if validCode c then W.close.go d r w.stopPump c else (w.stopPump, some .invalidCloseCode) := by
  unfold W.close validCode
  by_cases h1 : c < 1000
  · simp [h1]
  · by_cases h2 : ((1015 ≤ c && c ≤ 1999) || (1004 ≤ c && c ≤ 1006)) = true <;> simp [h1, h2]

theorem close_cases {P : W × Option Exc → Prop} (w : W) (d : Option Int) (a : CodeArg) (r : Bool)
    (hrej : ∀ e, P (w.stopPump, some e)) (hgo : ∀ c, P (W.close.go d r w.stopPump c)) : P (w.close d a r) := by
  cases a with
  | notInt => exact hrej _
  | none => exact hgo _
  | int c =>
    rw [close_int]
    split
    · exact hgo c
    · exact hrej _

theorem accept_cases (w : W) (d : Option Int) (h s b : Bool) (he : Option Exc) :
    (w.accept d h s b he).1 = w ∨
    (w.isClosed d = false ∧ w.st = .handshake ∧ b = false ∧ (h = true → w.supHeaders = true ∧ he = none) ∧
      w.accept d h s b he = match w.send_ d (.accept h s) with
        | (w, none) => ({ w with st := .accepted }, none)
        | r => r) := by
  unfold W.accept
  cases h1 : w.isClosed d
  case true => exact Or.inl rfl
  cases h2 : w.st != .handshake
  case true => exact Or.inl rfl
  cases b
  case true => exact Or.inl rfl
  cases h4 : h && !w.supHeaders
  case true => exact Or.inl rfl
  cases h5 : h && he.isSome
  case true => exact Or.inl rfl
  refine Or.inr ⟨rfl, by simpa using h2, rfl, ?_, rfl⟩
  intro hh
  subst hh
  exact ⟨by simpa using h4, by simpa using h5⟩

theorem recv_fst (w : W) (k : RecvKind) : (w.recv k).1 = w ∨ (w.recv k).1 = w.receive_.1 := by
  unfold W.recv
  split
  · exact Or.inl rfl
  · split
    · exact Or.inl rfl
    · right
      rcases w.receive_ with ⟨w1, e | ev⟩
      · rfl
      · dsimp only; split <;> rfl

theorem recv_nil (w : W) (k : RecvKind) (hst : w.st = .accepted) (hp : w.pumpStopped = false) (hin : w.inbox = []) :
    w.recv k = (w, some .pyErr) := by
  unfold W.recv W.requireAccepted W.receive_
  rw [hst, hp, hin]
  rfl

theorem recv_disconnect (w : W) (k : RecvKind) (c : Option Int) (rest : List InEv) (hst : w.st = .accepted)
    (hp : w.pumpStopped = false) (hin : w.inbox = .disconnect c :: rest) :
    w.recv k = ({ w with inbox := rest, st := .closed, closeCode := some (c.getD 1000) }, some (wsd (some (c.getD 1000)))) := by
  unfold W.recv W.requireAccepted W.receive_
  rw [hst, hp, hin]
  rfl

/-- what `receive_text` / `receive_data` / `receive_media` raise for a message; `binOk` = msgpack importable.  It is the
    kind × event table inside `W.recv`; `recv_message` is the link. -/
def recvExc (binOk : Bool) : RecvKind → InEv → Option Exc
  | .text, .text _ => none
  | .data, .bytes => none
  | .media, .text valid => if valid then none else some .valueOther
  | .media, .bytes => if binOk then none else some .pyErr
  | _, _ => some .payloadType

/-- a message is consumed whether or not its payload type suits the call -/
theorem recv_message (w : W) (k : RecvKind) (ev : InEv) (rest : List InEv) (hst : w.st = .accepted)
    (hp : w.pumpStopped = false) (hin : w.inbox = ev :: rest) (hev : ∀ c, ev ≠ .disconnect c) :
    w.recv k = ({ w with inbox := rest }, recvExc w.binMediaOk k ev) := by
  unfold W.recv W.requireAccepted W.receive_
  rw [hst, hp, hin]
  cases ev with
  | disconnect c => exact absurd rfl (hev c)
  | text v => cases k <;> rfl
  | bytes => cases k <;> rfl

theorem accept_eff (w : W) (d : Option Int) (h s b : Bool) (he : Option Exc) : Eff w (w.accept d h s b he).1 := by
  rcases accept_cases w d h s b he with h0 | ⟨_, hst, _, _, heq⟩
  · rw [h0]; exact Eff.refl w
  · rw [heq]
    generalize hp : w.send_ d (.accept h s) = p
    obtain ⟨hr, hsp⟩ := send__effect w d (.accept h s) p hp
    obtain ⟨w1, eo⟩ := p
    refine ⟨?_, ?_⟩
    · cases eo <;> exact hr
    · rcases hsp with ⟨h1, h2, h3⟩ | ⟨h1, _, h3, hnc⟩
      · cases eo with
        | none => exact absurd rfl h3
        | some e => exact Or.inl ⟨h1.imp_right fun h' => ⟨.accept h s, (fun _ hc => nomatch hc), h'⟩, h2⟩
      · cases h3
        exact Or.inr ⟨.accept h s, (fun _ hc => nomatch hc), h1, hnc, by rw [hst]; rfl⟩

theorem closeGo_eff (w : W) (d : Option Int) (r : Bool) (code : Int) : Eff w (W.close.go d r w code).1 := by
  obtain ⟨hr, h⟩ := closeGo_effect w d r code _ rfl
  refine ⟨hr, ?_⟩
  rcases h with ⟨hs, ht, _⟩ | ⟨ev, ok, ⟨r', rfl⟩, hs, hnc, hok, hno⟩
  · exact Or.inl ⟨Or.inl hs, Or.inr ht⟩
  · have hrok : reasonOk w.supReason (Ev.close code (r' && w.supReason)) :=
      fun c hc => (Bool.and_eq_true_iff.mp (Ev.close.inj hc).2).2
    cases ok with
    | false => exact Or.inl ⟨Or.inr ⟨_, hrok, hs⟩, Or.inl (hno rfl).1⟩
    | true =>
      refine Or.inr ⟨_, hrok, hs, hnc, ?_⟩
      rw [(hok rfl).1]
      cases hst : w.st with
      | closed => exact absurd hst hnc
      | _ => rfl

theorem close_eff (w : W) (d : Option Int) (a : CodeArg) (r : Bool) : Eff w (w.close d a r).1 := by
  obtain ⟨b, hb⟩ := stopPump_eq w
  refine close_cases (P := fun x => Eff w x.1) w d a r ?_ ?_ <;> rw [hb]
  · exact fun _ => Eff.quiet rfl rfl (Or.inl rfl)
  · exact fun c => closeGo_eff { w with pumpStopped := b } d r c

theorem sendMsg_eff (w : W) (d : Option Int) (k : Kind) : Eff w (w.sendMsg d k).1 := by
  unfold W.sendMsg W.requireAccepted
  cases hst : w.st with
  | accepted =>
    obtain ⟨hr, h⟩ := send__effect w d (.send k) _ rfl
    refine ⟨hr, ?_⟩
    rcases h with ⟨h1, h2, _⟩ | ⟨h1, h2, _, hnc⟩
    · exact Or.inl ⟨h1.imp_right fun h' => ⟨.send k, (fun _ hc => nomatch hc), h'⟩, h2⟩
    · exact Or.inr ⟨.send k, (fun _ hc => nomatch hc), h1, hnc, by rw [h2, hst]; rfl⟩
  | _ => exact Eff.refl w

/-- **an abandoned (parked, then cancelled) receive leaves no trace** on the socket object, whatever the state -/
theorem recvAbandoned_noop (w : W) (k : RecvKind) : (w.recvAbandoned k).1 = w := by
  unfold W.recvAbandoned
  split
  · rfl
  · split <;> rfl

theorem recvAbandoned_ok (w : W) (k : RecvKind) (hst : w.st = .accepted) (hp : w.pumpStopped = false) :
    w.recvAbandoned k = (w, none) := by
  simp [W.recvAbandoned, W.requireAccepted, hst, hp]

theorem recvAbandoned_wrong_state (w : W) (k : RecvKind) (h : w.st ≠ .accepted ∨ w.pumpStopped = true) :
    w.recvAbandoned k = w.recv k := by
  unfold W.recvAbandoned W.recv
  rcases h with h | h
  · cases hst : w.st <;> simp_all [W.requireAccepted]
  · cases hst : w.st <;> simp [W.requireAccepted, h]

/-- **the session continues as if the abandoned receive had never been issued**: for every script around it (any per-op catch
    behaviour and observed flags), on an accepted socket with a running pump, the rest of the script runs from the same socket
    against the same client events - so the next `receive_*` gets the next client message, a send goes out, and `close(code)` sends
    the responder's own code -; the only difference is the `ok` entry the abandoned call leaves in the log -/
theorem abandoned_receive_session_continues (w : W) (k : RecvKind) (c : Catch) (d : Option Int) (rest : List Step)
    (log : List (Option Exc)) (hst : w.st = .accepted) (hp : w.pumpStopped = false) :
    runScript w ((.recvAbandoned k, c, d) :: rest) log = runScript w rest (log ++ [none]) := by
  simp [runScript, W.op, recvAbandoned_ok w k hst hp]

theorem recv_eff (w : W) (k : RecvKind) : Eff w (w.recv k).1 := by
  rcases recv_fst w k with h | h <;> rw [h]
  · exact Eff.refl w
  · unfold W.receive_
    split
    · exact Eff.refl w
    · exact Eff.quiet rfl rfl (Or.inr rfl)
    · exact Eff.quiet rfl rfl (Or.inl rfl)

theorem op_eff (w : W) (d : Option Int) (o : Op) : Eff w (w.op d o).1 := by
  cases o with
  | accept h s b he => exact accept_eff w d h s b he
  | close a r => exact close_eff w d a r
  | send k => exact sendMsg_eff w d k
  | recv k => exact recv_eff w k
  | recvAbandoned k => exact (recvAbandoned_noop w k).symm ▸ Eff.refl w
  | _ => exact Eff.refl w

/-- middleware and routing only decide which script `_handle_websocket` runs: final socket and escaped exception are those of
    `handle` on that script (the logs differ) -/
theorem handleMw_w_esc (c : Cfg) (w : W) (mwReq mwRes : List Step) (r : Route) :
    ∃ sc, (handleMw c w mwReq mwRes r).w = (handle c w (some sc)).w ∧ (handleMw c w mwReq mwRes r).esc = (handle c w (some sc)).esc := by
  unfold handleMw
  cases r with
  | responder sc => exact ⟨_, rfl, rfl⟩
  | unrouted => dsimp only; split <;> exact ⟨_, rfl, rfl⟩
  | noResponder => dsimp only; split <;> exact ⟨_, rfl, rfl⟩

section Preserves
variable {P : W → Prop} (hop : ∀ (w : W) (d : Option Int) (o : Op), P w → P (w.op d o).1)
include hop

theorem runScript_preserves (sc : List Step) : ∀ (w : W) (log : List (Option Exc)), P w → P (runScript w sc log).1 := by
  induction sc with
  | nil => intro w log hi; exact hi
  | cons x rest ih =>
    intro w log hi
    obtain ⟨o, c, d⟩ := x
    unfold runScript
    have h1 := hop w d o hi
    generalize w.op d o = p at h1 ⊢
    obtain ⟨w1, _ | e⟩ := p
    · exact ih w1 _ h1
    · dsimp only
      split
      · exact ih w1 _ h1
      · exact h1

theorem close_preserves (w : W) (d : Option Int) (a : CodeArg) (r : Bool) (hi : P w) : P (w.close d a r).1 :=
  hop w d (.close a r) hi

theorem cleanup_preserves (w : W) (fd : Option Int) (hi : P w) : P (cleanup w fd).1 := by
  unfold cleanup
  have h1 := close_preserves hop w fd (.int w.errCloseCode) false hi
  generalize w.close fd (.int w.errCloseCode) false = p at h1 ⊢
  obtain ⟨w1, _ | e⟩ := p
  · exact h1
  · dsimp only
    split
    · exact close_preserves hop w1 _ _ _ h1
    · exact h1

theorem handleException_preserves (c : Cfg) (w : W) (e : Exc) (hi : P w) : P (handleException c w e).1 := by
  unfold handleException
  split
  · exact close_preserves hop w c.fd _ false hi
  · exact close_preserves hop w c.fd _ false hi
  · split
    · exact cleanup_preserves hop w _ hi
    · rename_i hs _
      have h1 := runScript_preserves hop hs w [] hi
      split <;> rename_i heq <;> rw [heq] at h1
      · exact h1
      · exact close_preserves hop _ c.fd _ false h1
      · exact close_preserves hop _ c.fd _ false h1
      · exact h1
  · exact cleanup_preserves hop w _ hi

theorem handle_preserves (c : Cfg) (w : W) (script : Option (List Step)) (hi : P w) : P (handle c w script).w := by
  unfold handle
  cases script with
  | none => exact handleException_preserves hop c w _ hi
  | some sc =>
    dsimp only
    have h1 := runScript_preserves hop sc w [] hi
    generalize runScript w sc [] = p at h1 ⊢
    obtain ⟨w1, log, _ | e⟩ := p
    · dsimp only
      have h2 := close_preserves hop w1 c.fd .none false h1
      generalize w1.close c.fd .none false = p at h2 ⊢
      obtain ⟨w2, _ | e⟩ := p
      · exact h2
      · exact handleException_preserves hop c w2 e h2
    · exact handleException_preserves hop c w1 e h1

end Preserves

/-- **C17 `emitted_trace_legal`**: for every configuration, responder script (with per-op catch flags and observed
    disconnect flags), inbox, fault position and kind: the events the server accepted form a word of
    `connecting —accept→ open —send*→ open —close→ done` (`connecting —close→ done` is the 403 denial). -/
theorem emitted_trace_legal (c : Cfg) (w : W) (script : Option (List Step))
    (h1 : w.st = .handshake) (h2 : w.sent = []) :
    (M.run .connecting (okEvents (handle c w script).w.sent)).isSome := by
  obtain ⟨m, hm, _⟩ := (handle_preserves (fun w d o hi => hi.of_eff (op_eff w d o)) c w script (Inv.init w h1 h2)).legal
  rw [hm]; rfl

/-- the same with `process_request_ws` / `process_resource_ws` middleware and every routing outcome -/
theorem emitted_trace_legal_mw (c : Cfg) (w : W) (mwReq mwRes : List Step) (r : Route)
    (h1 : w.st = .handshake) (h2 : w.sent = []) :
    (M.run .connecting (okEvents (handleMw c w mwReq mwRes r).w.sent)).isSome := by
  obtain ⟨sc, hw, _⟩ := handleMw_w_esc c w mwReq mwRes r
  rw [hw]
  exact emitted_trace_legal c w (some sc) h1 h2

theorem close_closed (w : W) (d : Option Int) (a : CodeArg) (r : Bool) (h : (w.close d a r).2 = none) :
    (w.close d a r).1.st = .closed := by
  refine close_cases (P := fun x => x.2 = none → x.1.st = .closed) w d a r nofun (fun code h => ?_) h
  rcases (closeGo_effect w.stopPump d r code _ rfl).2 with ⟨_, ht, _⟩ | ⟨ev, ok, _, _, _, hok, hno⟩
  · exact ht
  · cases ok with
    | false => rw [(hno rfl).2] at h; cases h
    | true => exact (hok rfl).1

theorem cleanup_closed (w : W) (fd : Option Int) (h : (cleanup w fd).2 = none) : (cleanup w fd).1.st = .closed := by
  revert h
  unfold cleanup
  have h1 := close_closed w fd (.int w.errCloseCode) false
  generalize w.close fd (.int w.errCloseCode) false = p at h1 ⊢
  obtain ⟨w1, _ | e⟩ := p
  · exact h1
  · dsimp only
    split
    · exact close_closed w1 fd (.int 3011) false
    · nofun

/-- with the default handlers: HTTPError / HTTPStatus end in one `close()` with the derived code, every other exception in
    `_ws_cleanup_on_error` -/
theorem handleException_cases (c : Cfg) (hcu : c.custom = none) (w : W) (e : Exc) :
    (∃ s, (e = .httpError s ∨ e = .httpStatus s) ∧
      handleException c w e = ((w.close c.fd (.int (s + 3000)) false).1, [], (w.close c.fd (.int (s + 3000)) false).2)) ∨
    ((∀ s, e ≠ .httpError s) ∧ (∀ s, e ≠ .httpStatus s) ∧
      handleException c w e = ((cleanup w c.fd).1, [], (cleanup w c.fd).2)) := by
  unfold handleException
  split
  · exact Or.inl ⟨_, Or.inl rfl, rfl⟩
  · exact Or.inl ⟨_, Or.inr rfl, rfl⟩
  · rw [hcu]; exact Or.inr ⟨nofun, nofun, rfl⟩
  · rename_i h1 h2 _
    exact Or.inr ⟨fun s hs => h1 s hs, fun s hs => h2 s hs, rfl⟩

theorem handleException_default (c : Cfg) (hcu : c.custom = none) (w : W) (e : Exc)
    (he : (∀ s, e ≠ .httpError s) ∧ (∀ s, e ≠ .httpStatus s)) :
    handleException c w e = ((cleanup w c.fd).1, [], (cleanup w c.fd).2) := by
  rcases handleException_cases c hcu w e with ⟨s, hs | hs, _⟩ | ⟨_, _, heq⟩
  · exact absurd hs (he.1 s)
  · exact absurd hs (he.2 s)
  · exact heq

theorem handleException_closed (c : Cfg) (hcu : c.custom = none) (w : W) (e : Exc) (h : (handleException c w e).2.2 = none) :
    (handleException c w e).1.st = .closed := by
  rcases handleException_cases c hcu w e with ⟨s, _, heq⟩ | ⟨_, _, heq⟩ <;> rw [heq] at h ⊢
  · exact close_closed w c.fd _ false h
  · exact cleanup_closed w _ h

/-- **C17 `closed_unless_escaped`**: with the default error handlers, whatever the responder, the client, the pump and the
    server's `send` do, when `_handle_websocket` returns normally the socket is CLOSED: a close (or denial) was accepted by
    the server, or the client's disconnect was received or observed, or a failing `send` was translated into a disconnect. -/
theorem closed_unless_escaped (c : Cfg) (hcu : c.custom = none) (w : W) (script : Option (List Step))
    (h : (handle c w script).esc = none) :
    (handle c w script).w.st = .closed := by
  revert h
  unfold handle
  cases script with
  | none => exact handleException_closed c hcu w (.httpError 404)
  | some sc =>
    dsimp only
    generalize runScript w sc [] = p
    obtain ⟨w1, log, _ | e⟩ := p
    · dsimp only
      have h2 := close_closed w1 c.fd .none false
      generalize w1.close c.fd .none false = p at h2 ⊢
      obtain ⟨w2, _ | e⟩ := p
      · exact h2
      · exact handleException_closed c hcu w2 e
    · exact handleException_closed c hcu w1 e

theorem closed_unless_escaped_mw (c : Cfg) (hcu : c.custom = none) (w : W) (mwReq mwRes : List Step) (r : Route)
    (h : (handleMw c w mwReq mwRes r).esc = none) :
    (handleMw c w mwReq mwRes r).w.st = .closed := by
  obtain ⟨sc, hw, he⟩ := handleMw_w_esc c w mwReq mwRes r
  rw [hw]
  exact closed_unless_escaped c hcu w _ (he ▸ h)

theorem wrong_state_send (w : W) (d : Option Int) (k : Kind) :
    (w.st = .handshake → w.sendMsg d k = (w, some .notAllowed)) ∧
    (w.st = .closed → w.sendMsg d k = (w, some (wsd w.closeCode))) := by
  constructor <;> intro h <;> simp [W.sendMsg, W.requireAccepted, h]

theorem wrong_state_recv (w : W) (k : RecvKind) :
    (w.st = .handshake → w.recv k = (w, some .notAllowed)) ∧
    (w.st = .closed → w.recv k = (w, some (wsd w.closeCode))) := by
  constructor <;> intro h <;> simp [W.recv, W.requireAccepted, h]

theorem wrong_state_accept (w : W) (d : Option Int) (hd s b : Bool) (he : Option Exc) (h : w.st ≠ .handshake ∨ d.isSome = true) :
    w.accept d hd s b he = (w, some .notAllowed) := by
  unfold W.accept W.isClosed
  rcases h with h | h
  · cases hst : w.st <;> simp_all
  · simp [h]

/-- a send by an accepted socket whose pump has seen the disconnect raises `WebSocketDisconnected` with the client's code
    and nothing is handed to the server -/
theorem send_after_disconnect (w : W) (c : Int) (k : Kind) (h : w.st = .accepted) :
    (w.sendMsg (some c) k).2 = some (wsd (some c)) ∧ (w.sendMsg (some c) k).1.sent = w.sent := by
  simp [W.sendMsg, W.requireAccepted, W.send_, h]

theorem close_after_closed_silent (w : W) (d : Option Int) (a : CodeArg) (r : Bool) (h : w.st = .closed ∨ d.isSome = true) :
    (w.close d a r).1.sent = w.sent := by
  refine close_cases (P := fun x => x.1.sent = w.sent) w d a r (fun _ => stopPump_sent w) (fun code => ?_)
  have hic : w.stopPump.isClosed d = true := by
    unfold W.isClosed
    rw [stopPump_st]
    rcases h with h | h
    · simp [h]
    · simp [h]
  unfold W.close.go
  rw [if_pos hic]
  split <;> exact stopPump_sent w

/-- `close()` on a socket whose pump has seen the client's disconnect sends nothing and records the disconnect: the state is
    CLOSED with the client's code, so every later `send_*`/`receive_*` raises `WebSocketDisconnected(code)`
    (`wrong_state_send`, `wrong_state_recv`) -/
theorem close_records_disconnect (w : W) (c : Int) (r : Bool) (h : w.st ≠ .closed) :
    (w.close (some c) .none r).1.st = .closed ∧ (w.close (some c) .none r).1.closeCode = some c
    ∧ (w.close (some c) .none r).2 = none ∧ (w.close (some c) .none r).1.sent = w.sent := by
  have : (w.st == S.closed) = false := by simpa using h
  obtain ⟨b, hb⟩ := stopPump_eq w
  rw [close_none, hb]
  simp [W.close.go, W.isClosed, this]

theorem closeGo_not_invalid (w : W) (d : Option Int) (r : Bool) (c : Int) (hsrv : w.fault = .value → w.faultIcc = false) :
    (W.close.go d r w c).2 ≠ some .invalidCloseCode := by
  rcases (closeGo_effect w d r c _ rfl).2 with ⟨_, _, he⟩ | ⟨ev, ok, _, _, _, hok, hno⟩
  · rw [he]; nofun
  · cases ok with
    | true => rw [(hok rfl).2]; nofun
    | false =>
      rw [(hno rfl).2]
      cases hfa : w.fault with
      | value => rw [hsrv hfa]; nofun
      | _ => nofun

/-- the close-code validation table: exactly the codes < 1000, 1004-1006 and 1015-1999 are rejected (`hsrv`: the ValueError is falcon's
    own - the SERVER does not answer a close event with a ValueError that says 'invalid close code' itself) -/
theorem close_code_validation_exact (w : W) (d : Option Int) (c : Int) (r : Bool) (hsrv : w.fault = .value → w.faultIcc = false) :
    (w.close d (.int c) r).2 = some .invalidCloseCode ↔ (c < 1000 ∨ (1004 ≤ c ∧ c ≤ 1006) ∨ (1015 ≤ c ∧ c ≤ 1999)) := by
  have hv : validCode c = false ↔ (c < 1000 ∨ (1004 ≤ c ∧ c ≤ 1006) ∨ (1015 ≤ c ∧ c ≤ 1999)) := by
    simp only [validCode, Bool.not_eq_false', Bool.or_eq_true, Bool.and_eq_true, decide_eq_true_eq]
    omega
  rw [close_int, ← hv]
  cases validCode c with
  | false => exact ⟨fun _ => rfl, fun _ => rfl⟩
  | true =>
    rw [if_pos rfl]
    exact ⟨fun h => absurd h (closeGo_not_invalid w.stopPump d r c (by obtain ⟨b, hb⟩ := stopPump_eq w; rw [hb]; exact hsrv)), nofun⟩

theorem close_arg (w : W) (d : Option Int) (a : CodeArg) (r : Bool) (code : Int)
    (ha : (a = .none ∧ code = 1000) ∨ (a = .int code ∧ validCode code = true)) :
    w.close d a r = W.close.go d r w.stopPump code := by
  rcases ha with ⟨rfl, rfl⟩ | ⟨rfl, hv⟩
  · rfl
  · rw [close_int, if_pos hv]

/-- `close(code)` with a valid code on a socket that is neither closed nor known to be lost, and a working `send`: exactly
    one close event with that code is handed to the server (the reason only when the server supports it) -/
theorem close_accepted (w : W) (a : CodeArg) (r : Bool) (code : Int)
    (ha : (a = .none ∧ code = 1000) ∨ (a = .int code ∧ validCode code = true))
    (hnc : w.st ≠ .closed) (hf : w.failAt = none) (hr : code ∉ w.refused) :
    w.close none a r =
      ({ w.stopPump with sent := w.sent ++ [(.close code ((r || w.reasonCodes.contains code) && w.supReason), true)], st := .closed,
                         closeCode := some code }, none) := by
  obtain ⟨b, hb⟩ := stopPump_eq w
  have : (w.st == S.closed) = false := by simpa using hnc
  rw [close_arg w none a r code ha, hb]
  simp [W.close.go, W.isClosed, W.asgiSend, W.refuses, this, hf, hr]

theorem close_sends (w : W) (a : CodeArg) (r : Bool) (code : Int)
    (ha : (a = .none ∧ code = 1000) ∨ (a = .int code ∧ validCode code = true))
    (hnc : w.st ≠ .closed) (hf : w.failAt = none) (hr : code ∉ w.refused) :
    (w.close none a r).1.sent = w.sent ++ [(.close code ((r || w.reasonCodes.contains code) && w.supReason), true)]
    ∧ (w.close none a r).2 = none ∧ (w.close none a r).1.st = .closed ∧ (w.close none a r).1.closeCode = some code := by
  rw [close_accepted w a r code ha hnc hf hr]
  exact ⟨rfl, rfl, rfl, rfl⟩

theorem validCode_http (s : Int) (h : 0 ≤ s ∧ s ≤ 999) : validCode (s + 3000) = true := by
  simp only [validCode, Bool.not_eq_true', Bool.or_eq_false_iff, Bool.and_eq_false_iff, decide_eq_false_iff_not]
  omega

theorem close_invalid (w : W) (d : Option Int) (c : Int) (r : Bool) (h : validCode c = false) :
    w.close d (.int c) r = (w.stopPump, some .invalidCloseCode) := by
  rw [close_int, h]
  rfl

/-- **error → close code (1)**: with a working `send`, a socket not yet closed and no observed disconnect, `HTTPError(s)` and
    `HTTPStatus(s)` (0 ≤ s ≤ 999; an unrouted path is `HTTPError 404`, a missing responder `HTTPError 405`) close the
    socket with exactly one close event, code `3000 + s` -/
theorem http_error_close_code (c : Cfg) (w : W) (s : Int) (hs : 0 ≤ s ∧ s ≤ 999) (hfd : c.fd = none)
    (hnc : w.st ≠ .closed) (hf : w.failAt = none) (hr : s + 3000 ∉ w.refused) :
    ∀ e, e = Exc.httpError s ∨ e = Exc.httpStatus s →
      (handleException c w e).1.sent = w.sent ++ [(.close (s + 3000) (w.reasonCodes.contains (s + 3000) && w.supReason), true)]
      ∧ (handleException c w e).2.2 = none := by
  have key := close_sends w (.int (s + 3000)) false (s + 3000) (Or.inr ⟨rfl, validCode_http s hs⟩) hnc hf hr
  simp only [Bool.false_or] at key
  intro e he
  rcases he with rfl | rfl <;> (unfold handleException; rw [hfd]; exact ⟨key.1, key.2.1⟩)

/-- **error → close code (2)**: every other exception (no custom handler) closes with `error_close_code`, or with 3011 when
    the configured code is not a valid close code -/
theorem unexpected_error_close_code (c : Cfg) (w : W) (e : Exc) (hfd : c.fd = none) (hcu : c.custom = none)
    (he : (∀ s, e ≠ .httpError s) ∧ (∀ s, e ≠ .httpStatus s))
    (hnc : w.st ≠ .closed) (hf : w.failAt = none)
    (hr : (if validCode w.errCloseCode then w.errCloseCode else 3011) ∉ w.refused) :
    let code := if validCode w.errCloseCode then w.errCloseCode else 3011
    (handleException c w e).1.sent = w.sent ++ [(.close code (w.reasonCodes.contains code && w.supReason), true)]
    ∧ (handleException c w e).2.2 = none := by
  rw [handleException_default c hcu w e he, hfd]
  unfold cleanup
  cases hv : validCode w.errCloseCode with
  | true =>
    rw [hv, if_pos rfl] at hr
    rw [close_accepted w _ false _ (Or.inr ⟨rfl, hv⟩) hnc hf hr]
    exact ⟨rfl, rfl⟩
  | false =>
    rw [hv, if_neg Bool.false_ne_true] at hr
    rw [close_invalid w none w.errCloseCode false hv]
    have hsay : closeSaysInvalidCode w w.stopPump .invalidCloseCode = true := rfl
    dsimp only
    obtain ⟨b, hb⟩ := stopPump_eq w
    rw [hsay, if_pos rfl, hb, close_accepted { w with pumpStopped := b } _ false 3011 (Or.inr ⟨rfl, by decide⟩) hnc hf hr]
    exact ⟨rfl, rfl⟩


/-- `b` is the (constant) `supReason`; when it is `false` no close event handed to `send` carries a reason -/
def SaneB (b : Bool) (w : W) : Prop :=
  w.supReason = b ∧ (b = false → ∀ x ∈ w.sent, ∀ c, x.1 ≠ Ev.close c true)

theorem SaneB.of_eff {b : Bool} {w w' : W} (h : SaneB b w) (he : Eff w w') : SaneB b w' := by
  refine ⟨he.1 ▸ h.1, fun hb x hx c hc => ?_⟩
  have hold := h.2 hb
  rcases he.2 with ⟨hs | ⟨e, hr, hs⟩, _⟩ | ⟨e, hr, hs, _⟩ <;> rw [hs] at hx
  · exact hold x hx c hc
  all_goals
    rcases List.mem_append.mp hx with hx | hx
    · exact hold x hx c hc
    · rw [List.mem_singleton.mp hx] at hc
      rw [h.1, hb] at hr
      cases hr c hc

theorem stopPump_frame (w : W) : w.stopPump.supReason = w.supReason ∧ w.stopPump.sent = w.sent :=
  ⟨stopPump_supReason w, stopPump_sent w⟩

/-- **C17 `reason_only_if_supported`**: when the server's spec version has no close reasons (`supReason = false`, spec < 2.3),
    no close event of the session — issued by the responder, a middleware, an error handler or the framework — carries a
    reason, for every script, inbox, fault and routing outcome -/
theorem reason_only_if_supported (c : Cfg) (w : W) (mwReq mwRes : List Step) (r : Route)
    (h0 : w.sent = []) (hs : w.supReason = false) :
    ∀ x ∈ (handleMw c w mwReq mwRes r).w.sent, ∀ code, x.1 ≠ Ev.close code true := by
  have hi : SaneB false w := ⟨hs, fun _ x hx => by rw [h0] at hx; cases hx⟩
  obtain ⟨sc, hw, _⟩ := handleMw_w_esc c w mwReq mwRes r
  rw [hw]
  exact (handle_preserves (fun w d o h => h.of_eff (op_eff w d o)) c w (some sc) hi).2 rfl

/-- the rejection of a first event that is not `websocket.connect` attaches the reason iff the server supports it -/
theorem rejectFirst_reason (w : W) (h0 : w.sent = []) (hf : w.failAt = none) (hr : 1011 ∉ w.refused) :
    (rejectFirst w).sent = [(.close 1011 w.supReason, true)] := by
  simp [rejectFirst, W.asgiSend, W.refuses, h0, hf, hr]

/-- **the class of an exception says nothing about the handled connection**: a script step that raises ANY exception which is not an
    HTTPError/HTTPStatus - in particular `WebSocketDisconnected(code)` raised by hand or by an operation on another connection's socket,
    `OperationNotAllowed`, `PayloadTypeError`, `ValueError`, `OSError` - and does not catch it, on a socket that is not closed, with no
    observed disconnect, the default handlers and a working server send: the framework sends exactly one close event with
    `error_close_code` (3011 if that is not a valid code) and nothing escapes. In the handshake state that close is the 403 denial. -/
theorem raised_error_closes_open_socket (c : Cfg) (w : W) (e : Exc) (d : Option Int) (hfd : c.fd = none) (hcu : c.custom = none)
    (he : (∀ s, e ≠ .httpError s) ∧ (∀ s, e ≠ .httpStatus s)) (hnc : w.st ≠ .closed) (hf : w.failAt = none)
    (hr : (if validCode w.errCloseCode then w.errCloseCode else 3011) ∉ w.refused) :
    let code := if validCode w.errCloseCode then w.errCloseCode else 3011
    (handle c w (some [(.raiseOf e, .none, d)])).w.sent = w.sent ++ [(.close code (w.reasonCodes.contains code && w.supReason), true)]
    ∧ (handle c w (some [(.raiseOf e, .none, d)])).esc = none := by
  have key := unexpected_error_close_code c w e hfd hcu he hnc hf hr
  simp only [handle, runScript, W.op, Catch.catches, Bool.false_eq_true, if_false]
  exact key

/-- the hypotheses are satisfiable by the relay scenario: connection A is accepted and connected, its responder forwards to connection B,
    whose client has left with code 1001 -/
example :
    let w : W := { st := .accepted, supHeaders := true, supReason := true, reasonCodes := [1011], errCloseCode := 1011,
                   binMediaOk := false, sent := [(.accept false false, true)], failAt := none, inbox := [] }
    (handle {} w (some [(.raiseOf (.disconnected 1001), .none, none)])).w.sent = [(.accept false false, true), (.close 1011 true, true)] := by decide +kernel

/-- and before accept the same exception yields the denial -/
example :
    let w : W := { supHeaders := true, supReason := false, reasonCodes := [], errCloseCode := 4444,
                   binMediaOk := false, failAt := none, inbox := [] }
    (handle {} w (some [(.raiseOf (.disconnected 1000), .none, none)])).w.sent = [(.close 4444 false, true)] := by decide +kernel

/-- `close(code)` on a socket that is neither closed nor known lost, when the server's policy refuses `code`: the event is handed to the
    server once, the server's exception reaches the caller as it is (`close()` does not translate), and the socket is NOT marked closed -
    only the pump has been stopped -, so a later `close()` with another code is sent -/
theorem close_refused (w : W) (a : CodeArg) (r : Bool) (code : Int)
    (ha : (a = .none ∧ code = 1000) ∨ (a = .int code ∧ validCode code = true))
    (hnc : w.st ≠ .closed) (href : code ∈ w.refused) :
    w.close none a r =
      ({ w.stopPump with sent := w.sent ++ [(.close code ((r || w.reasonCodes.contains code) && w.supReason), false)] },
        some (w.fault.raw w.faultIcc)) := by
  obtain ⟨b, hb⟩ := stopPump_eq w
  have : (w.st == S.closed) = false := by simpa using hnc
  rw [close_arg w none a r code ha, hb]
  simp [W.close.go, W.isClosed, W.asgiSend, W.refuses, this, href]

/-- **a close is always sent when the responder fails while the client is connected - also when the server refuses the configured code**:
    any exception other than HTTPError/HTTPStatus (default handlers) on a socket that is not closed and has no observed disconnect; the
    configured `error_close_code` is a code falcon accepts but the SERVER's policy refuses, reporting it with an exception of ANY class
    (`w.fault` is arbitrary: OSError, ValueError, a plain Exception, TypeError, the server's own class) whose message says
    'invalid close code'; the fallback 3011 is not refused: the framework hands the refused close to the server once, then the close
    3011, which is delivered; nothing escapes and the socket is CLOSED with 3011 -/
theorem refused_error_close_falls_back (c : Cfg) (w : W) (e : Exc) (hfd : c.fd = none) (hcu : c.custom = none)
    (he : (∀ s, e ≠ .httpError s) ∧ (∀ s, e ≠ .httpStatus s)) (hnc : w.st ≠ .closed) (hf : w.failAt = none)
    (hv : validCode w.errCloseCode = true) (href : w.errCloseCode ∈ w.refused) (hicc : w.faultIcc = true) (h3011 : 3011 ∉ w.refused) :
    (handleException c w e).1.sent = w.sent ++ [(.close w.errCloseCode (w.reasonCodes.contains w.errCloseCode && w.supReason), false),
                                               (.close 3011 (w.reasonCodes.contains 3011 && w.supReason), true)]
    ∧ (handleException c w e).2.2 = none ∧ (handleException c w e).1.st = .closed ∧ (handleException c w e).1.closeCode = some 3011 := by
  rw [handleException_default c hcu w e he, hfd]
  unfold cleanup
  obtain ⟨b, hb⟩ := stopPump_eq w
  rw [close_refused w (.int w.errCloseCode) false w.errCloseCode (Or.inr ⟨rfl, hv⟩) hnc href, hb]
  dsimp only
  have hsay : ∀ (w1 : W) x, w1.sent = w.sent ++ [x] → closeSaysInvalidCode w w1 (w.fault.raw w.faultIcc) = true := by
    intro w1 x h1; simp [closeSaysInvalidCode, h1, hicc]
  rw [hsay _ _ rfl, if_pos rfl]
  have key := close_sends { w with pumpStopped := b, sent := w.sent ++ [(.close w.errCloseCode ((false || w.reasonCodes.contains w.errCloseCode) && w.supReason), false)] }
    (.int 3011) false 3011 (Or.inr ⟨rfl, by decide⟩) hnc hf h3011
  simp only [Bool.false_or, List.append_assoc, List.cons_append, List.nil_append] at key ⊢
  exact key

/-- ... and when the server's exception does not name the close code as the reason (`faultIcc = false`), the refused close is the only
    event, no fallback is tried and the server's own exception (whatever its class) is what escapes to the server -/
theorem refused_error_close_without_hint_escapes (c : Cfg) (w : W) (e : Exc) (hfd : c.fd = none) (hcu : c.custom = none)
    (he : (∀ s, e ≠ .httpError s) ∧ (∀ s, e ≠ .httpStatus s)) (hnc : w.st ≠ .closed)
    (hv : validCode w.errCloseCode = true) (href : w.errCloseCode ∈ w.refused) (hicc : w.faultIcc = false) :
    (handleException c w e).1.sent = w.sent ++ [(.close w.errCloseCode (w.reasonCodes.contains w.errCloseCode && w.supReason), false)]
    ∧ (handleException c w e).2.2 = some (w.fault.raw false) := by
  rw [handleException_default c hcu w e he, hfd]
  unfold cleanup
  rw [close_refused w (.int w.errCloseCode) false w.errCloseCode (Or.inr ⟨rfl, hv⟩) hnc href, hicc]
  dsimp only
  have hsay : ∀ w1 : W, closeSaysInvalidCode w w1 (w.fault.raw false) = false := by
    intro w1; cases w.fault <;> simp [closeSaysInvalidCode, Fault.raw, hicc]
  rw [hsay, if_neg Bool.false_ne_true]
  exact ⟨by simp, rfl⟩

/-- the hypotheses are satisfiable - the Autobahn/Daphne scenario: default error_close_code 1011, the server accepts only 1000 and 3000-4999
    and says so with a plain `Exception('invalid close code 1011 …')`; the responder raised after accept -/
example :
    let w : W := { st := .accepted, supHeaders := true, supReason := false, reasonCodes := [1011], errCloseCode := 1011, binMediaOk := false,
                   sent := [(.accept false false, true)], failAt := none, fault := .other, faultIcc := true, refused := [1001, 1011, 1012],
                   inbox := [] }
    (handle {} w (some [(.raiseExc, .none, none)])).w.sent = [(.accept false false, true), (.close 1011 false, false), (.close 3011 false, true)]
    ∧ (handle {} w (some [(.raiseExc, .none, none)])).esc = none := by decide +kernel
end Ws
