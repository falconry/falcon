import FalconModel.Basic
/-! Prototype for C10: the token-splitting implementation of `falcon.uri.decode` equals the left-to-right reference. -/
namespace Probe

/-- `bytes.split(b'%')` -/
def splitPct : List UInt8 → List (List UInt8)
  | [] => [[]]
  | c :: rest =>
    if c == 37 then [] :: splitPct rest
    else match splitPct rest with
      | t :: ts => (c :: t) :: ts
      | [] => [[c]]

/-- one token after a '%': `_HEX_TO_BYTE[token[:2]] + token[2:]`, or `b'%' + token` on KeyError -/
def decTok : List UInt8 → List UInt8
  | a :: b :: r =>
    match hexVal? a, hexVal? b with
    | some x, some y => (x * 16 + y).toUInt8 :: r
    | _, _ => 37 :: a :: b :: r
  | t => 37 :: t

/-- both joiners (`reencoded_uri += …` for < 8 tokens, `_join_tokens_bytearray` otherwise) -/
def joinTokens : List (List UInt8) → List UInt8
  | [] => []
  | t0 :: ts => t0 ++ ts.flatMap decTok

def joinTokensBA : List (List UInt8) → List UInt8      -- second transcription (bytearray path)
  | [] => []
  | t0 :: ts => ts.foldl (fun acc t => acc ++ decTok t) t0

/-- the implementation: fast path without '%', then one of two joiners chosen by token count -/
def decodeImpl (bs : List UInt8) : List UInt8 :=
  if !bs.contains 37 then bs
  else
    let tokens := splitPct bs
    if tokens.length < 8 then joinTokens tokens else joinTokensBA tokens

theorem joinTokensBA_eq (ts : List (List UInt8)) : joinTokensBA ts = joinTokens ts := by
  cases ts with
  | nil => rfl
  | cons t0 ts =>
    simp only [joinTokensBA, joinTokens]
    induction ts generalizing t0 with
    | nil => simp
    | cons t ts ih => simp only [List.foldl_cons, List.flatMap_cons, ih, List.append_assoc]

theorem splitPct_ne_nil (bs : List UInt8) : splitPct bs ≠ [] := by
  cases bs with
  | nil => simp [splitPct]
  | cons c rest =>
    simp only [splitPct]
    split
    · simp
    · split <;> simp

theorem hexVal_pct : hexVal? 37 = none := by decide

/-- head token of the split contains no '%' and decoding ignores it -/
theorem decode_noPct_prefix : ∀ (t : List UInt8) (rest : List UInt8), (∀ c ∈ t, c ≠ 37) →
    decode (t ++ rest) = t ++ decode rest := by
  intro t
  induction t with
  | nil => intro rest _; rfl
  | cons c cs ih =>
    intro rest h
    have hc : c ≠ 37 := h c (by simp)
    rw [List.cons_append, decode_cons_unres _ _ hc, ih rest (fun x hx => h x (by simp [hx]))]
    rfl

/-- structure of the split: no token contains a '%', and joining the tokens with '%' gives the string back -/
theorem splitPct_spec (bs : List UInt8) :
    ∃ t0 ts, splitPct bs = t0 :: ts ∧ (∀ t ∈ t0 :: ts, ∀ c ∈ t, c ≠ 37) ∧ bs = t0 ++ ts.flatMap (37 :: ·) := by
  induction bs with
  | nil =>
    refine ⟨[], [], rfl, fun t ht c hc => ?_, rfl⟩
    rw [List.mem_singleton.mp ht] at hc
    cases hc
  | cons c rest ih =>
    obtain ⟨t0, ts, hs, hno, hbs⟩ := ih
    by_cases hc : c = 37
    · subst hc
      refine ⟨[], t0 :: ts, by rw [splitPct, if_pos (by rfl), hs], fun t ht => ?_, congrArg (37 :: ·) hbs⟩
      rcases List.mem_cons.mp ht with rfl | ht
      · exact fun c hc => nomatch hc
      · exact hno t ht
    · refine ⟨c :: t0, ts, by rw [splitPct, if_neg (by simpa using hc), hs], fun t ht => ?_, congrArg (c :: ·) hbs⟩
      rcases List.mem_cons.mp ht with rfl | ht
      · intro x hx
        rcases List.mem_cons.mp hx with rfl | hx
        · exact hc
        · exact hno t0 List.mem_cons_self x hx
      · exact hno t (List.mem_cons_of_mem _ ht)

/-- one malformed-or-wellformed escape followed by a '%'-free token, then either the end or the next '%' -/
theorem decode_pct_tok (t0 tail : List UInt8) (hno : ∀ c ∈ t0, c ≠ 37)
    (htail : tail = [] ∨ ∃ r, tail = 37 :: r) :
    decode (37 :: (t0 ++ tail)) = decTok t0 ++ decode tail := by
  match t0, hno with
  | [], _ =>
    rcases htail with rfl | ⟨r, rfl⟩
    · rfl
    · cases r with
      | nil => rfl
      | cons x r' => rw [List.nil_append, decode, hexVal_pct]; rfl
  | [a], hno =>
    have ha : a ≠ 37 := hno a List.mem_cons_self
    simp only [List.cons_append, List.nil_append, decTok]
    rcases htail with rfl | ⟨r, rfl⟩
    · rw [decode]
      · simp [decode_cons_unres _ _ ha, decode]
    · rw [decode]
      simp only [hexVal_pct]
      rw [← decode_cons_unres a (37 :: r) ha]
      cases hexVal? a <;> rfl
  | a :: b :: t', hno =>
    have ht' : ∀ c ∈ t', c ≠ 37 := fun c hc => hno c (List.mem_cons_of_mem _ (List.mem_cons_of_mem _ hc))
    have ha : a ≠ 37 := hno a List.mem_cons_self
    have hb : b ≠ 37 := hno b (List.mem_cons_of_mem _ List.mem_cons_self)
    rw [List.cons_append, List.cons_append, decode, decTok]
    cases hexVal? a with
    | none =>
      rw [decode_cons_unres _ _ ha, decode_cons_unres _ _ hb, decode_noPct_prefix t' tail ht']
      cases hexVal? b <;> rfl
    | some x =>
      cases hexVal? b with
      | none => rw [decode_cons_unres _ _ ha, decode_cons_unres _ _ hb, decode_noPct_prefix t' tail ht']; rfl
      | some y => rw [decode_noPct_prefix t' tail ht']; rfl

/-- key lemma: decoding '%'-free tokens joined by '%' = the first token followed by the decoded tokens -/
theorem decode_join (ts : List (List UInt8)) : ∀ t0 : List UInt8, (∀ t ∈ t0 :: ts, ∀ c ∈ t, c ≠ 37) →
    decode (t0 ++ ts.flatMap (37 :: ·)) = t0 ++ ts.flatMap decTok := by
  induction ts with
  | nil => intro t0 h; exact decode_noPct_prefix t0 [] (h t0 List.mem_cons_self)
  | cons t ts ih =>
    intro t0 h
    have ht : ∀ t' ∈ t :: ts, ∀ c ∈ t', c ≠ 37 := fun t' ht' => h t' (List.mem_cons_of_mem _ ht')
    have htail : ts.flatMap (37 :: ·) = [] ∨ ∃ r, ts.flatMap (37 :: ·) = 37 :: r := by
      cases ts with
      | nil => exact Or.inl rfl
      | cons u us => exact Or.inr ⟨_, rfl⟩
    rw [List.flatMap_cons, List.flatMap_cons, decode_noPct_prefix t0 _ (h t0 List.mem_cons_self), List.cons_append,
      decode_pct_tok t _ (ht t List.mem_cons_self) htail]
    have := ih [] (fun t' ht' => (List.mem_cons.mp ht').elim (fun e => e ▸ fun c hc => nomatch hc) (fun h' => ht t' (List.mem_cons_of_mem _ h')))
    rw [List.nil_append, List.nil_append] at this
    rw [this]

/-- decoding what follows a '%' = decoding its tokens -/
theorem decode_pct_tokens (rest : List UInt8) : decode (37 :: rest) = (splitPct rest).flatMap decTok := by
  obtain ⟨t0, ts, hs, hno, hbs⟩ := splitPct_spec rest
  have h := decode_join (t0 :: ts) [] (fun t ht => (List.mem_cons.mp ht).elim (fun e => e ▸ fun c hc => nomatch hc) (hno t))
  rw [List.nil_append, List.nil_append, List.flatMap_cons, List.cons_append, ← hbs] at h
  rw [hs]; exact h

/-- **`decode_eq_ref`**: every code path of the implementation computes the reference decoder -/
theorem decodeImpl_eq_ref (bs : List UInt8) : decodeImpl bs = decode bs := by
  unfold decodeImpl
  split
  · rename_i hnp
    have hno : ∀ c ∈ bs, c ≠ 37 := fun c hc h => by
      rw [Bool.not_eq_true', ← Bool.not_eq_true, List.contains_iff_mem] at hnp
      exact hnp (h ▸ hc)
    have := decode_noPct_prefix bs [] hno
    rwa [List.append_nil, decode, List.append_nil, eq_comm] at this
  · obtain ⟨t0, ts, hs, hno, hbs⟩ := splitPct_spec bs
    show (if (splitPct bs).length < 8 then joinTokens (splitPct bs) else joinTokensBA (splitPct bs)) = _
    rw [joinTokensBA_eq, ite_self, hs, joinTokens]
    conv => rhs; rw [hbs]
    exact (decode_join ts t0 hno).symm

#print axioms decodeImpl_eq_ref
end Probe
