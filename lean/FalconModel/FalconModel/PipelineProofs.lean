import FalconModel.Pipeline
/-! C03, `Pl.run`: what it does once the request phase is over (`afterReq`); response methods bottom-up, exactly once each, in
    both middleware modes; request and resource methods top-down up to the first completion or raise. -/
namespace Pl

def respIdx : Call → Option Nat
  | .resp i _ _ => some i
  | _ => none

theorem respLoop_idx (cs : List (Nat × Comp)) (hasRes : Bool) : ∀ (order : List Nat) (succ : Bool),
    (respLoop cs order hasRes succ).filterMap respIdx
      = order.filter (fun i => ((cs.find? (·.1 == i)).bind (·.2.resp)).isSome) := by
  intro order
  induction order with
  | nil => intro succ; simp [respLoop]
  | cons i rest ih =>
    intro succ
    rw [respLoop]
    cases h : (cs.find? (·.1 == i)).bind (·.2.resp) with
    | none => simp [h, ih]
    | some a => simp [h, ih, respIdx]

theorem reqIndep_noResp (cs : List (Nat × Comp)) : (reqIndep cs).1.filterMap respIdx = [] := by
  induction cs with
  | nil => rfl
  | cons x xs ih =>
    obtain ⟨i, c⟩ := x
    rw [reqIndep]
    rcases c.req with _ | _ | _ | _
    · exact ih
    · exact ih
    · rfl
    · rfl

theorem rsrcLoop_noResp (cs : List (Nat × Comp)) : (rsrcLoop cs).1.filterMap respIdx = [] := by
  induction cs with
  | nil => rfl
  | cons x xs ih =>
    obtain ⟨i, c⟩ := x
    rw [rsrcLoop]
    rcases c.rsrc with _ | _ | _ | _
    · exact ih
    · exact ih
    · rfl
    · rfl

/-- in a list of pairs with distinct first components, looking an index up returns its own entry -/
theorem find_self (cs : List (Nat × Comp)) (hnd : (cs.map (·.1)).Nodup) :
    ∀ x ∈ cs, cs.find? (·.1 == x.1) = some x := by
  induction cs with
  | nil => intro x hx; cases hx
  | cons y ys ih =>
    intro x hx
    simp only [List.map_cons, List.nodup_cons] at hnd
    rcases List.mem_cons.mp hx with rfl | hx'
    · simp
    · have hne : y.1 ≠ x.1 := by
        intro h; apply hnd.1; rw [h]; exact List.mem_map.mpr ⟨x, hx', rfl⟩
      simp only [List.find?_cons]
      have : (y.1 == x.1) = false := by simpa using hne
      rw [this]; exact ih hnd.2 x hx'

theorem enum_nodup (cs : List Comp) : ((enum cs).map (·.1)).Nodup := by
  unfold enum
  rw [List.map_fst_zip (by simp)]
  exact List.nodup_range

/-- `run` from the routing step on, given the calls of the request phase, whether it completed the response or raised, and
    the response stack -/
def afterReq (cfg : Cfg) (t1 : List Call) (complete1 raised1 : Bool) (order : List Nat) : List Call :=
  let cs := enum cfg.comps
  let clean1 := !raised1 && !complete1
  let hasRes := clean1 && (cfg.target == .route || cfg.target == .noMethod)
  let (t2, complete2, raised2) := if hasRes then rsrcLoop cs else ([], false, false)
  let reach := clean1 && !complete2 && !raised2
  let (t3, raised3) :=
    if reach && (cfg.target == .route || cfg.target == .sink) then
      ([Call.responder], cfg.responder == .raise_)
    else ([], false)
  let raisedDefault := reach && (cfg.target == .noMethod || cfg.target == .nothing)
  let succeeded := !(raised1 || raised2 || raised3 || raisedDefault)
  t1 ++ t2 ++ t3 ++ respLoop cs order hasRes succeeded

theorem run_eq_afterReq (cfg : Cfg) :
    run cfg =
      if cfg.independent then
        afterReq cfg (reqIndep (enum cfg.comps)).1 (reqIndep (enum cfg.comps)).2.1 (reqIndep (enum cfg.comps)).2.2
          (((enum cfg.comps).filter (·.2.resp.isSome)).map (·.1)).reverse
      else
        afterReq cfg (reqDep (enum cfg.comps) false).1 (reqDep (enum cfg.comps) false).2.1 (reqDep (enum cfg.comps) false).2.2.1
          (reqDep (enum cfg.comps) false).2.2.2 := by
  unfold run afterReq
  cases cfg.independent <;> rfl

theorem afterReq_raised (cfg : Cfg) (t1 : List Call) (c1 : Bool) (order : List Nat) :
    afterReq cfg t1 c1 true order = t1 ++ respLoop (enum cfg.comps) order false false := by
  simp only [afterReq, Bool.not_true, Bool.false_and, Bool.false_eq_true, if_false, List.append_nil, Bool.true_or]

theorem afterReq_complete (cfg : Cfg) (t1 : List Call) (order : List Nat) :
    afterReq cfg t1 true false order = t1 ++ respLoop (enum cfg.comps) order false true := by
  simp only [afterReq, Bool.not_true, Bool.not_false, Bool.and_false, Bool.false_and, Bool.false_eq_true, if_false,
    List.append_nil, Bool.or_self]

/-- however the earlier phases went, the `process_response` calls are those of the response stack handed over, provided
    it lists components that define the method -/
theorem afterReq_respIdx (cfg : Cfg) (t1 : List Call) (c1 r1 : Bool) (order : List Nat) (h1 : t1.filterMap respIdx = [])
    (ho : ∀ i ∈ order, ∃ x ∈ enum cfg.comps, x.1 = i ∧ x.2.resp.isSome = true) :
    (afterReq cfg t1 c1 r1 order).filterMap respIdx = order := by
  have h2 : ∀ (b : Bool), (if b = true then rsrcLoop (enum cfg.comps) else ([], false, false)).1.filterMap respIdx = [] := by
    intro b; cases b
    · rfl
    · exact rsrcLoop_noResp _
  have h3 : ∀ (b : Bool), (if b = true then ([Call.responder], cfg.responder == Act.raise_) else ([], false)).1.filterMap respIdx = [] := by
    intro b; cases b <;> rfl
  simp only [afterReq, List.filterMap_append, h1, h2, h3, List.nil_append, respLoop_idx]
  apply List.filter_eq_self.mpr
  intro i hi
  obtain ⟨x, hx, rfl, hxr⟩ := ho i hi
  rw [find_self _ (enum_nodup cfg.comps) x hx]
  exact hxr

/-- **independent mode**: every component that defines `process_response` has it called exactly once,
    in reverse registration order, whatever any method does (return, complete, raise) -/
theorem independent_resp_once (cfg : Cfg) (hi : cfg.independent = true) :
    (run cfg).filterMap respIdx = (((enum cfg.comps).filter (·.2.resp.isSome)).map (·.1)).reverse := by
  rw [run_eq_afterReq, hi, if_pos rfl]
  apply afterReq_respIdx _ _ _ _ _ (reqIndep_noResp _)
  intro i hi'
  simp only [List.mem_reverse, List.mem_map, List.mem_filter] at hi'
  obtain ⟨x, ⟨hx, hxr⟩, rfl⟩ := hi'
  exact ⟨x, hx, rfl, hxr⟩

#print axioms independent_resp_once

/-- the components the dependent request loop gets to: all of them up to (not including) the first one whose
    `process_request` actually runs and raises -/
def reached : List (Nat × Comp) → Bool → List (Nat × Comp)
  | [], _ => []
  | (i, c) :: rest, cp =>
    let runIt := c.req.isSome && !cp
    if runIt && c.req == some .raise_ then []
    else (i, c) :: reached rest (cp || (runIt && c.req == some .complete))

/-- the stack the dependent request loop builds is what `reached` says: the reached components that define
    `process_response`, last registered first -/
theorem reqDep_stack : ∀ (cs : List (Nat × Comp)) (cp : Bool),
    (reqDep cs cp).2.2.2 = (((reached cs cp).filter (·.2.resp.isSome)).map (·.1)).reverse := by
  intro cs
  induction cs with
  | nil => intro cp; simp [reqDep, reached]
  | cons x xs ih =>
    intro cp
    obtain ⟨i, c⟩ := x
    simp only [reqDep, reached]
    split
    · simp
    · simp only
      rw [ih]
      cases hr : c.resp.isSome <;> simp [hr]

theorem reqDep_noResp (cs : List (Nat × Comp)) : ∀ cp : Bool, (reqDep cs cp).1.filterMap respIdx = [] := by
  induction cs with
  | nil => intro cp; rfl
  | cons x xs ih =>
    obtain ⟨i, c⟩ := x
    intro cp
    rw [reqDep]
    cases cp with
    | true => rcases c.req with _ | _ | _ | _ <;> exact ih true
    | false =>
      rcases c.req with _ | _ | _ | _
      · exact ih false
      · exact ih false
      · exact ih true
      · rfl

theorem reached_sub : ∀ (cs : List (Nat × Comp)) (cp : Bool) (x : Nat × Comp), x ∈ reached cs cp → x ∈ cs := by
  intro cs
  induction cs with
  | nil => intro cp x h; simp [reached] at h
  | cons y ys ih =>
    intro cp x h
    obtain ⟨i, c⟩ := y
    simp only [reached] at h
    split at h
    · cases h
    · rcases List.mem_cons.mp h with rfl | h'
      · exact List.mem_cons_self
      · exact List.mem_cons_of_mem _ (ih _ x h')

/-- **dependent mode**: `process_response` runs exactly for the components the request phase reached (every component
    before the first `process_request` that raised — including those whose `process_request` was skipped because an
    earlier one completed the response), once each, in reverse order, whatever any later stage does -/
theorem dependent_resp_stack (cfg : Cfg) (hd : cfg.independent = false) :
    (run cfg).filterMap respIdx
      = (((reached (enum cfg.comps) false).filter (·.2.resp.isSome)).map (·.1)).reverse := by
  rw [run_eq_afterReq, hd, if_neg Bool.false_ne_true, reqDep_stack]
  apply afterReq_respIdx _ _ _ _ _ (reqDep_noResp _ _)
  intro i hi'
  simp only [List.mem_reverse, List.mem_map, List.mem_filter] at hi'
  obtain ⟨x, ⟨hx, hxr⟩, rfl⟩ := hi'
  exact ⟨x, reached_sub _ _ x hx, rfl, hxr⟩

#print axioms dependent_resp_stack

/-- indices called when methods run in list order up to and including the first one that does not simply return -/
def uptoStop : List (Nat × Act) → List Nat
  | [] => []
  | (i, a) :: rest => match a with
    | .ret => i :: uptoStop rest
    | _ => [i]

def reqs (cs : List (Nat × Comp)) : List (Nat × Act) := cs.filterMap fun p => p.2.req.map (p.1, ·)
def rsrcs (cs : List (Nat × Comp)) : List (Nat × Act) := cs.filterMap fun p => p.2.rsrc.map (p.1, ·)

/-- the independent request loop calls `process_request` in registration order and stops right after the first
    one that completes or raises -/
theorem reqIndep_topdown : ∀ (cs : List (Nat × Comp)), (reqIndep cs).1 = (uptoStop (reqs cs)).map Call.req := by
  intro cs
  induction cs with
  | nil => simp [reqIndep, reqs, uptoStop]
  | cons x xs ih =>
    obtain ⟨i, c⟩ := x
    simp only [reqs] at ih ⊢
    cases hr : c.req with
    | none => simp [reqIndep, hr, ih]
    | some a => cases a <;> simp [reqIndep, hr, ih, uptoStop]

/-- the resource loop calls `process_resource` in registration order and stops right after the first one that
    completes or raises -/
theorem rsrcLoop_topdown : ∀ (cs : List (Nat × Comp)), (rsrcLoop cs).1 = (uptoStop (rsrcs cs)).map Call.rsrc := by
  intro cs
  induction cs with
  | nil => simp [rsrcLoop, rsrcs, uptoStop]
  | cons x xs ih =>
    obtain ⟨i, c⟩ := x
    simp only [rsrcs] at ih ⊢
    cases hr : c.rsrc with
    | none => simp [rsrcLoop, hr, ih]
    | some a => cases a <;> simp [rsrcLoop, hr, ih, uptoStop]

/-- the first `process_response` call of the response loop carries the flags the loop was started with
    (`resource is not None`, and `req_succeeded` = nothing raised before the loop) -/
theorem first_resp_flag (cs : List (Nat × Comp)) (hasRes : Bool) : ∀ (order : List Nat) (succ : Bool),
    match (respLoop cs order hasRes succ).head? with
    | some (.resp _ h s) => h = hasRes ∧ s = succ
    | some _ => False
    | none => True := by
  intro order
  induction order with
  | nil => intro succ; simp [respLoop]
  | cons i rest ih =>
    intro succ
    rw [respLoop]
    cases h : (cs.find? (·.1 == i)).bind (·.2.resp) with
    | none => simpa [h] using ih succ
    | some a => simp

end Pl
