import FalconModel.RequestMedia
/-! C11: proofs about `Rq` (RequestMedia.lean) — refinement of the memoising implementation to the memo-free specification. -/
namespace Rq
open Mh (Coherent resolveRule mkKey)

theorem step_data (b : Bool) (f : Mh.Data → String → Option Nat) (s : Mh.St) (op : Mh.Op) :
    (Mh.step b f s op).1.data = baseData s.data op := by
  cases op with
  | resolve k => simp only [Mh.step, baseData]; split <;> rfl
  | _ => rfl

theorem runOps_data (f : Mh.Data → String → Option Nat) : ∀ (ops : List Mh.Op) (s : Mh.St),
    (Mh.runOps f s ops).data = ops.foldl baseData s.data := by
  intro ops
  induction ops with
  | nil => intro s; rfl
  | cons op rest ih =>
    intro s
    simp only [Mh.runOps, List.foldl_cons] at ih ⊢
    rw [ih, step_data]

theorem foldl_set_map (kvs : Mh.Data) : ∀ d : Mh.Data,
    (kvs.map (fun kv => Mh.Op.set kv.1 kv.2)).foldl baseData d = kvs.foldl (fun d kv => Mh.dset d kv.1 kv.2) d := by
  induction kvs with
  | nil => intro d; rfl
  | cons kv rest ih => intro d; simp only [List.map_cons, List.foldl_cons, baseData]; exact ih _

theorem xstep_data (f : Mh.Data → String → Option Nat) (s : Mh.St) (x : Mh.XOp) :
    (Mh.xstep f s x).data = xData s.data x := by
  simp only [Mh.xstep, runOps_data]
  cases x with
  | base op => simp [Mh.lower, xData]
  | update kvs => simp only [Mh.lower, xData]; exact foldl_set_map kvs _
  | pop k => simp only [Mh.lower, xData]; split <;> simp [baseData]
  | setdefault k v => simp only [Mh.lower, xData]; split <;> simp [baseData]
  | popitem => simp only [Mh.lower, xData]; split <;> simp [baseData, *]
  | copy => simp [Mh.lower, xData, baseData]

theorem xrun_data (f : Mh.Data → String → Option Nat) : ∀ (xs : List Mh.XOp) (s : Mh.St),
    (Mh.xrun f s xs).data = xs.foldl xData s.data := by
  intro xs
  induction xs with
  | nil => intro s; rfl
  | cons x rest ih =>
    intro s
    simp only [Mh.xrun, List.foldl_cons] at ih ⊢
    rw [ih, xstep_data]

/-- the invariant: the resolver memo of the request's current Handlers object is coherent -/
def Inv (w : World) : Prop := Coherent resolveRule w.h

theorem newHandlers_coherent (d0 : Mh.Data) (xs : List Mh.XOp) : Coherent resolveRule (newHandlers d0 xs) :=
  Mh.xrun_coherent resolveRule _ _ (by intro e he; simp at he)

theorem getMedia_inv (beh : Nat → Beh) (w : World) (dwe : Bool) (h : Inv w) : Inv (getMedia beh w dwe).1 := by
  have hc := Mh.step_coherent resolveRule w.h (.resolve (mkKey w.req.ct w.dflt true)) h
  unfold getMedia
  split
  · exact h
  · split
    · exact h
    · simp only
      split
      · unfold deserialize; split <;> exact hc
      · exact hc

theorem step_inv (beh : Nat → Beh) (w : World) (op : Op) (h : Inv w) : Inv (step beh w op).1 := by
  cases op with
  | mutate x => exact Mh.history_coherent resolveRule _ _ h
  | replace d0 xs => exact newHandlers_coherent d0 xs
  | setDefault s => exact h
  | setCt s => exact h
  | getMedia dwe => exact getMedia_inv beh w dwe h

theorem run_inv (beh : Nat → Beh) : ∀ (ops : List Op) (w0 : World), Inv w0 → Inv (run beh w0 ops) := by
  intro ops
  induction ops with
  | nil => intro w0 h; exact h
  | cons op rest ih => intro w0 h; exact ih _ (step_inv beh w0 op h)

/-- what the resolver answers on a coherent memo, in the shape `getMedia` matches on -/
theorem resolve_eq (w : World) (h : Inv w) :
    (Mh.step true resolveRule w.h (.resolve (mkKey w.req.ct w.dflt true))).2 =
      some (resolveRule w.h.data (mkKey w.req.ct w.dflt true)) :=
  Mh.resolve_on_coherent resolveRule w.h h _

/-- one `get_media` call of the implementation = one call of the memo-free specification -/
theorem getMedia_sim (beh : Nat → Beh) (w : World) (dwe : Bool) (h : Inv w) :
    (getMedia beh w dwe).2 = (specGet beh (abs w) dwe).2 ∧ abs (getMedia beh w dwe).1 = (specGet beh (abs w) dwe).1 := by
  have hr := resolve_eq w h
  have hd := step_data true resolveRule w.h (.resolve (mkKey w.req.ct w.dflt true))
  unfold getMedia specGet
  simp only [abs]
  split
  · exact ⟨rfl, rfl⟩
  · split
    · exact ⟨rfl, rfl⟩
    · simp only [hr]
      cases hw : resolveRule w.h.data (mkKey w.req.ct w.dflt true) with
      | none => simp [freshOut, freshReq, hd, baseData]
      | some hid =>
        simp only [deserialize, freshOut, freshReq]
        cases beh hid <;> simp [hd, baseData]

theorem step_sim (beh : Nat → Beh) (w : World) (op : Op) (h : Inv w) :
    (step beh w op).2 = (specStep beh (abs w) op).2 ∧ abs (step beh w op).1 = (specStep beh (abs w) op).1 := by
  cases op with
  | mutate x => simp [step, specStep, abs, xstep_data]
  | replace d0 xs => simp [step, specStep, abs, newHandlers, xrun_data]
  | setDefault s => simp [step, specStep, abs]
  | setCt s => simp [step, specStep, abs]
  | getMedia dwe => simp only [step, specStep]; exact ⟨congrArg some (getMedia_sim beh w dwe h).1, (getMedia_sim beh w dwe h).2⟩

/-- **refinement**: for every history of mapping mutations / replacements of the Handlers object / changes of the default
    type and of the content type / `get_media` calls on ONE request, the implementation (resolver memo + per-request cache)
    shows exactly what the memo-free specification shows, in which every `get_media` that has nothing deserialized to
    return evaluates the rule on the mapping, default type and content type of that moment -/
theorem trace_refines_spec (beh : Nat → Beh) : ∀ (ops : List Op) (w0 : World), Inv w0 →
    trace beh w0 ops = specTrace beh (abs w0) ops := by
  intro ops
  induction ops with
  | nil => intro w0 _; rfl
  | cons op rest ih =>
    intro w0 h0
    simp only [trace, specTrace]
    rw [(step_sim beh w0 op h0).1, ih _ (step_inv beh w0 op h0), (step_sim beh w0 op h0).2]

/-- **never a stale resolution through the request**: after any history, a `get_media` on a request that holds no
    deserialized media and no deserialization error answers by the CURRENT mapping / default type / content type -/
theorem getMedia_fresh (beh : Nat → Beh) (ops : List Op) (w0 : World) (h0 : Inv w0) (dwe : Bool) :
    let w := run beh w0 ops
    w.req.media = none → w.req.err = none →
      (getMedia beh w dwe).2 = freshOut beh dwe (resolveRule w.h.data (mkKey w.req.ct w.dflt true)) := by
  intro w hm he
  have hs := (getMedia_sim beh w dwe (run_inv beh ops w0 h0)).1
  rw [hs]
  simp [specGet, abs, hm, he]

/-- a 415 is not remembered: the request is exactly as before (so the next call resolves again), and so are the mapping and the default type -/
theorem e415_not_cached (beh : Nat → Beh) (w : World) (dwe : Bool) (h415 : (getMedia beh w dwe).2 = .e415) :
    (getMedia beh w dwe).1.req = w.req ∧ (getMedia beh w dwe).1.h.data = w.h.data ∧ (getMedia beh w dwe).1.dflt = w.dflt := by
  have hd := step_data true resolveRule w.h (.resolve (mkKey w.req.ct w.dflt true))
  unfold getMedia at h415 ⊢
  split at h415
  · simp at h415
  · split at h415
    · split at h415 <;> simp at h415
    · simp only at h415 ⊢
      split at h415
      · unfold deserialize at h415
        split at h415
        · simp at h415
        · split at h415 <;> simp at h415
        · simp at h415
      · exact ⟨rfl, by simpa [baseData] using hd, rfl⟩

/-- the documented caching: once a handler has produced the media, every later `get_media` returns that object and touches nothing -/
theorem getMedia_cached (beh : Nat → Beh) (w : World) (dwe : Bool) (v : Nat) (hv : w.req.media = some v) :
    getMedia beh w dwe = (w, .value v) := by
  simp [getMedia, hv]

/-- `get_media` never changes the mapping or the default type -/
theorem getMedia_frame (beh : Nat → Beh) (w : World) (dwe : Bool) :
    (getMedia beh w dwe).1.h.data = w.h.data ∧ (getMedia beh w dwe).1.dflt = w.dflt ∧ (getMedia beh w dwe).1.req.ct = w.req.ct := by
  have hd := step_data true resolveRule w.h (.resolve (mkKey w.req.ct w.dflt true))
  simp only [baseData] at hd
  unfold getMedia
  split
  · exact ⟨rfl, rfl, rfl⟩
  · split
    · exact ⟨rfl, rfl, rfl⟩
    · simp only
      split
      · unfold deserialize; split <;> exact ⟨hd, rfl, rfl⟩
      · exact ⟨hd, rfl, rfl⟩

/-- the hypothesis of the theorems holds for every request whose Handlers object was built by `Handlers(d0)` and any history -/
example (d0 : Mh.Data) (xs : List Mh.XOp) (dflt : String) (r : Req) : Inv { h := newHandlers d0 xs, dflt := dflt, req := r } :=
  newHandlers_coherent d0 xs

/-! concrete histories (evaluated at build time): a 415, then the mapping / the Handlers object / the default type / the content
    type changes so that a handler is designated, then the SAME request resolves it; a deserialized media object stays -/
private def w0 : World := { h := newHandlers [("application/json", 1)] [], dflt := "application/json",
                            req := { ct := "text/x-new", media := none, err := none } }
private def allOk : Nat → Beh := fun _ => .ok
#guard trace allOk w0 [.getMedia false, .mutate (.base (.set "text/x-new" 7)), .getMedia false, .mutate (.base .clear), .getMedia false] =
  [some .e415, none, some (.value 7), none, some (.value 7)]
#guard trace allOk w0 [.getMedia false, .mutate (.update [("text/*", 8)]), .getMedia true] = [some .e415, none, some (.value 8)]
#guard trace allOk w0 [.getMedia false, .mutate (.base (.ior [("*/*", 9)])), .getMedia false] = [some .e415, none, some (.value 9)]
#guard trace allOk w0 [.getMedia false, .replace [("text/x-new", 5)] [], .getMedia false] = [some .e415, none, some (.value 5)]
#guard trace allOk w0 [.getMedia false, .setCt "", .getMedia false] = [some .e415, none, some (.value 1)]
#guard trace allOk w0 [.setCt "", .setDefault "text/x-new", .getMedia false, .setDefault "application/json", .getMedia false] =
  [none, none, some .e415, none, some (.value 1)]
#guard trace (fun h => if h == 7 then .notFound else .ok) w0
    [.getMedia false, .mutate (.base (.set "text/x-new" 7)), .getMedia true, .mutate (.base (.set "text/x-new" 8)), .getMedia false, .getMedia true] =
  [some .e415, none, some .dflt, none, some (.raised 7), some .dflt]

#print axioms trace_refines_spec
#print axioms getMedia_fresh
#print axioms e415_not_cached
end Rq
