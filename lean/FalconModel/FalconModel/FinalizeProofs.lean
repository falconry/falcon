import FalconModel.Finalize
/-! C05/C06: theorems about the response finalization model. -/
namespace Fz

def getKey (m : List (String × String)) (k : String) : Option String := (m.find? (·.1 == k)).map (·.2)

theorem getKey_append_left (m e : List (String × String)) (k v : String) (h : getKey m k = some v) :
    getKey (m ++ e) k = some v := by
  unfold getKey at h ⊢
  rw [List.find?_append]
  cases hf : m.find? (·.1 == k) with
  | none => rw [hf] at h; simp at h
  | some x => rw [hf] at h; simpa using h

/-- overwriting in place keeps every entry's key -/
theorem replace_fst (k v : String) (e : String × String) : (if e.1 == k then (k, v) else e).1 = e.1 := by
  split
  · rename_i h; exact (eq_of_beq h).symm
  · rfl

theorem any_replace (m : List (String × String)) (k v k' : String) :
    (m.map fun e => if e.1 == k then (k, v) else e).any (·.1 == k') = m.any (·.1 == k') := by
  rw [List.any_map]
  exact congrArg (List.any m) (funext fun e => congrArg (· == k') (replace_fst k v e))

theorem getKey_setKey (m : List (String × String)) (k v : String) : getKey (setKey m k v) k = some v := by
  unfold setKey getKey
  split
  · rename_i hany
    obtain ⟨x, hx, hp⟩ := List.any_eq_true.mp hany
    rw [List.find?_map]
    have hc : ((fun e : String × String => e.1 == k) ∘ fun e => if e.1 == k then (k, v) else e) = fun e => e.1 == k :=
      funext fun e => congrArg (· == k) (replace_fst k v e)
    rw [hc]
    cases hf : m.find? (·.1 == k) with
    | none => exact absurd hp (by simpa using List.find?_eq_none.mp hf x hx)
    | some y =>
      have hy : (y.1 == k) = true := @List.find?_some _ (fun e : String × String => e.1 == k) y m hf
      simp only [Option.map_some, hy, if_true]
  · rename_i hany
    rw [List.find?_append, List.find?_eq_none.mpr fun x hx hk => hany (List.any_eq_true.mpr ⟨x, hx, hk⟩)]
    simp only [Option.none_or, List.find?_cons, beq_self_eq_true, Option.map_some]
/-- bytes the client receives -/
def Out.payload (o : Out) : Bytes := o.body.flatten

/-- **C06 core: both stacks finalize a response identically** — same status, same header list (order included), same
    payload bytes, same propagation of a failing stream — for every response state and configuration. -/
theorem wsgi_asgi_agree (r : Resp) (c : Cfg) :
    (wsgi r c).status = (asgi r c).status ∧ (wsgi r c).headers = (asgi r c).headers ∧
    (wsgi r c).payload = (asgi r c).payload ∧ (wsgi r c).iterErr = (asgi r c).iterErr := by
  have h0 : Nat.repr 0 = "0" := by decide
  unfold wsgi asgi Out.payload
  rcases hrb : renderBody r c with ⟨data, r1⟩
  simp only
  by_cases hb : (c.head || bodiless r1.status) = true
  · simp only [hb, if_true]
    cases data with
    | some d =>
      simp only [Option.isSome_some, Bool.true_or, Bool.and_true]
      by_cases hd : d.isEmpty
      · have : d.length = 0 := by simpa using hd
        simp [hd, this, h0]
      · simp [hd]
    | none =>
      cases hs : r1.stream with
      | none => simp [h0]
      | some s =>
        obtain ⟨k, chunks⟩ := s
        cases k <;> simp
  · simp only [hb, Bool.false_eq_true, if_false]
    cases data with
    | some d => simp
    | none =>
      cases hs : r1.stream with
      | none => simp [h0]
      | some s =>
        obtain ⟨k, chunks⟩ := s
        cases k
        · simp only
          rcases drainFile (chunks.length + 1) chunks r1.streamFail 0 with ⟨o, e⟩
          cases e <;> simp
        · simp only
          rcases drainIter chunks r1.streamFail 0 with ⟨o, e⟩
          cases e <;> simp

#print axioms wsgi_asgi_agree

/-- what `render_body()` returns: text, else data, else the rendered media -/
def rendered (r : Resp) : Option Bytes :=
  match r.text with
  | some t => some t
  | none => match r.data with
    | some d => some d
    | none => r.media

theorem renderBody_fst (r : Resp) (c : Cfg) : (renderBody r c).1 = rendered r := by
  unfold renderBody rendered
  cases r.text with
  | some t => rfl
  | none =>
    cases r.data with
    | some d => rfl
    | none =>
      cases r.media with
      | some m => rfl
      | none => rfl

theorem rendered_none {r : Resp} (h : rendered r = none) : r.text = none ∧ r.data = none ∧ r.media = none := by
  unfold rendered at h
  cases ht : r.text with
  | some t => rw [ht] at h; cases h
  | none =>
    cases hd : r.data with
    | some d => rw [ht, hd] at h; cases h
    | none => rw [ht, hd] at h; exact ⟨rfl, rfl, h⟩

/-- rendering never touches status, stream, failing call or cookies -/
theorem renderBody_frame (r : Resp) (c : Cfg) :
    (renderBody r c).2.status = r.status ∧ (renderBody r c).2.stream = r.stream ∧
    (renderBody r c).2.streamFail = r.streamFail ∧ (renderBody r c).2.cookies = r.cookies := by
  unfold renderBody
  cases r.text with
  | some t => exact ⟨rfl, rfl, rfl, rfl⟩
  | none =>
    cases r.data with
    | some d => exact ⟨rfl, rfl, rfl, rfl⟩
    | none =>
      cases r.media with
      | none => exact ⟨rfl, rfl, rfl, rfl⟩
      | some m =>
        simp only
        split
        · exact ⟨rfl, rfl, rfl, rfl⟩
        · split <;> exact ⟨rfl, rfl, rfl, rfl⟩

/-- chunks and failure flag of the body a non-HEAD, body-bearing response hands to the server, by source -/
def bodyOf (r : Resp) : List Bytes × Bool :=
  match rendered r with
  | some d => ([d], false)
  | none =>
    match r.stream with
    | some (.fileLike, chunks) => drainFile (chunks.length + 1) chunks r.streamFail 0
    | some (.iter, chunks) => drainIter chunks r.streamFail 0
    | none => ([], false)

theorem wsgi_body (r : Resp) (c : Cfg) :
    ((wsgi r c).body, (wsgi r c).iterErr) = if c.head || bodiless r.status then ([], false) else bodyOf r := by
  obtain ⟨f1, f2, f3, _⟩ := renderBody_frame r c
  unfold bodyOf
  rw [← renderBody_fst r c, ← f1, ← f2, ← f3]
  unfold wsgi
  rcases renderBody r c with ⟨data, r1⟩
  dsimp only
  split
  · rfl
  · cases data with
    | some d => rfl
    | none =>
      cases r1.stream with
      | none => rfl
      | some s =>
        obtain ⟨kind, chunks⟩ := s
        cases kind <;> rfl

/-- a response whose body source yields no bytes and cannot fail sends no payload, HEAD or not -/
theorem wsgi_no_payload (r : Resp) (c : Cfg) (h1 : (bodyOf r).1.flatten = []) (h2 : (bodyOf r).2 = false) :
    (wsgi r c).payload = [] ∧ (wsgi r c).iterErr = false := by
  have h := wsgi_body r c
  have hb : (wsgi r c).body = (if c.head || bodiless r.status then ([], false) else bodyOf r).1 := congrArg Prod.fst h
  have he : (wsgi r c).iterErr = (if c.head || bodiless r.status then ([], false) else bodyOf r).2 := congrArg Prod.snd h
  unfold Out.payload
  rw [hb, he]
  split
  · exact ⟨rfl, rfl⟩
  · exact ⟨h1, h2⟩

/-- HEAD requests and 1xx/204/304 responses never carry payload bytes -/
theorem bodiless_no_payload (r : Resp) (c : Cfg) (h : c.head = true ∨ bodiless r.status = true) :
    (wsgi r c).payload = [] := by
  have hb : (c.head || bodiless r.status) = true := by
    rcases h with h | h
    · rw [h]; rfl
    · rw [h]; exact Bool.or_true _
  have hw := congrArg Prod.fst (wsgi_body r c)
  rw [if_pos hb] at hw
  exact congrArg List.flatten hw

/-- whenever the body does not come from a stream, the Content-Length the server sees is the exact payload length,
    whatever the application had put there -/
theorem content_length_exact (r : Resp) (c : Cfg) (hh : c.head = false) (hb : bodiless r.status = false)
    (hs : r.stream = none ∨ r.text.isSome ∨ r.data.isSome ∨ r.media.isSome) :
    getKey (wsgi r c).headers "content-length" = some (toString (wsgi r c).payload.length) := by
  obtain ⟨f1, f2, _, _⟩ := renderBody_frame r c
  have fd := renderBody_fst r c
  unfold wsgi Out.payload
  rcases hrb : renderBody r c with ⟨data, r1⟩
  rw [hrb] at f1 f2 fd
  dsimp only at f1 f2 fd ⊢
  have hbb : (c.head || bodiless r1.status) = false := by rw [f1, hh, hb]; rfl
  simp only [hbb, Bool.false_eq_true, if_false]
  have emit : ∀ (r2 : Resp) (n : Nat) (t : Option String),
      getKey (emitHeaders { r2 with headers := setKey r2.headers "content-length" (toString n) } t) "content-length"
        = some (toString n) := by
    intro r2 n t
    unfold emitHeaders
    apply getKey_append_left
    cases t with
    | none => exact getKey_setKey _ _ _
    | some t =>
      simp only
      split
      · exact getKey_setKey _ _ _
      · exact getKey_append_left _ _ _ _ (getKey_setKey _ _ _)
  cases data with
  | some d =>
    simp only [List.flatten_cons, List.flatten_nil, List.append_nil]
    exact emit r1 d.length _
  | none =>
    obtain ⟨g1, g2, g3⟩ := rendered_none fd.symm
    have hsn : r1.stream = none := by
      rw [f2]
      rcases hs with h | h | h | h
      · exact h
      · rw [g1] at h; cases h
      · rw [g2] at h; cases h
      · rw [g3] at h; cases h
    simp only [hsn, List.flatten_nil, List.length_nil]
    exact emit r1 0 _

#print axioms content_length_exact

/-- F16 as a theorem about the pinned code: a 204 whose body was given as `media` carries a Content-Type that the
    application never set -/
theorem f16_witness :
    hasKey (wsgi { status := 204, text := none, data := none, media := some [123, 125], stream := none,
                   streamFail := none, headers := [], cookies := [] }
                 { head := false, appDefaultType := some "application/json",
                   respDefaultType := some "application/json", fileWrapper := false }).headers
      "content-type" = true := by decide

end Fz
#print axioms Fz.bodiless_no_payload
#print axioms Fz.f16_witness
