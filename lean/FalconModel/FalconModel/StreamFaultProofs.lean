import FalconModel.StreamFault
import FalconModel.WsgiStreamProofs
namespace Wf
open Ws7 (Bytes Raw S)
open Ws7F

theorem runOps_append (ops1 ops2 : List Op) : ∀ s : S, (runOps s (ops1 ++ ops2)).2 = (runOps (runOps s ops1).2 ops2).2 := by
  induction ops1 with
  | nil => intro s; rfl
  | cons o rest ih => intro s; simp only [List.cons_append, runOps]; exact ih _

/-- the state after a faulted `readlines` is the state after a fault-free history of k' ≤ k plain `readline()` calls -/
theorem readlinesFaultLoop_reachable : ∀ (k : Nat) (s : S) (hint total : Int),
    ∃ n, n ≤ k ∧ readlinesFaultLoop k s hint total = (runOps s (List.replicate n (Op.readline none))).2 := by
  intro k
  induction k with
  | zero => intro s hint total; exact ⟨0, Nat.le_refl _, rfl⟩
  | succ k ih =>
    intro s hint total
    unfold readlinesFaultLoop
    by_cases h : total < hint
    · simp only [h, if_true]
      rcases hr : readline s none with ⟨line, s1⟩
      simp only
      by_cases he : line.isEmpty = true
      · simp only [he, if_true]
        refine ⟨1, Nat.succ_le_succ (Nat.zero_le k), ?_⟩
        simp [List.replicate, runOps, runOp, hr]
      · simp only [he, Bool.false_eq_true, if_false]
        obtain ⟨n, hn, e⟩ := ih s1 hint (total + line.length)
        refine ⟨n + 1, Nat.succ_le_succ hn, ?_⟩
        rw [e]; simp [List.replicate, runOps, runOp, hr]
    · simp only [h, if_false]; exact ⟨0, Nat.zero_le _, rfl⟩
end Wf

namespace Wf
open Ws7 (Bytes Raw S)
open Ws7F

theorem exhaustFaultLoop_reachable (chunk : Int) : ∀ (k : Nat) (s : S),
    ∃ n, n ≤ k ∧ exhaustFaultLoop k s chunk = (runOps s (List.replicate n (Op.read (some chunk)))).2 := by
  intro k
  induction k with
  | zero => intro s; exact ⟨0, Nat.le_refl _, rfl⟩
  | succ k ih =>
    intro s
    unfold exhaustFaultLoop
    rcases hr : read s (some chunk) with ⟨d, s1⟩
    simp only
    by_cases he : d.isEmpty = true
    · simp only [he, if_true]
      refine ⟨1, Nat.succ_le_succ (Nat.zero_le k), ?_⟩
      simp [List.replicate, runOps, runOp, hr]
    · simp only [he, Bool.false_eq_true, if_false]
      obtain ⟨n, hn, e⟩ := ih s1
      refine ⟨n + 1, Nat.succ_le_succ hn, ?_⟩
      rw [e]; simp [List.replicate, runOps, runOp, hr]

/-- after a `readlines` abandoned at its (k+1)-th `readline()` the stream is still a cursor over the declared body: it stands behind the bytes `X` of the
    lines read before the fault (X = [] for k = 0), the raw stream advanced by exactly |X|, the budget is ≥ 0 -/
theorem readlinesFault_step (s : S) (hint : Option Int) (k : Nat) (h0 : 0 ≤ s.remaining) : ∃ X, Step s X (readlinesFault s hint k) := by
  unfold readlinesFault
  obtain ⟨n, _, e⟩ := readlinesFaultLoop_reachable k s (hintOf s hint) 0
  rw [e]; exact ⟨_, history_refines_cursor _ s h0⟩

theorem exhaustFault_step (s : S) (chunk : Int) (k : Nat) (h0 : 0 ≤ s.remaining) : ∃ X, Step s X (exhaustFault s chunk k) := by
  unfold exhaustFault
  obtain ⟨n, _, e⟩ := exhaustFaultLoop_reachable chunk k s
  rw [e]; exact ⟨_, history_refines_cursor _ s h0⟩

/-- an operation, or the same operation abandoned because its FIRST call into `wsgi.input` raised -/
inductive FOp where
  | ok (o : Op) | fault1 (o : Op)

def faultState (s : S) : Op → S
  | .read n => readFault s n
  | .readline n => readlineFault s n
  | .readlines h => readlinesFault s h 0
  | .next => nextFault s

def runFOps : S → List FOp → Bytes × S
  | s, [] => ([], s)
  | s, .ok o :: rest => let (d, s1) := runOp s o; let (d2, s2) := runFOps s1 rest; (d ++ d2, s2)
  | s, .fault1 o :: rest => runFOps (faultState s o) rest

def strip : List FOp → List Op
  | [] => []
  | .ok o :: rest => o :: strip rest
  | .fault1 _ :: rest => strip rest

theorem faultState_eq (s : S) (o : Op) : faultState s o = s := by
  cases o <;> rfl

/-- **first-call faults are invisible**: a history in which any number of operations were abandoned because their first call into `wsgi.input`
    raised hands out the same bytes and ends in the same state as the history without those operations -/
theorem first_call_faults_invisible (fops : List FOp) : ∀ s : S, runFOps s fops = runOps s (strip fops) := by
  induction fops with
  | nil => intro s; rfl
  | cons f rest ih =>
    intro s
    cases f with
    | ok o => simp only [runFOps, strip, runOps, ih]
    | fault1 o => simp only [runFOps, strip, faultState_eq, ih]

/-- hence the cursor refinement survives them: outputs = the next bytes of body[:Content-Length], exactly the rest remains, the raw stream advanced
    by exactly the bytes handed out, budget ≥ 0 -/
theorem fault_history_refines_cursor (fops : List FOp) (s : S) (h0 : 0 ≤ s.remaining) : Step s (runFOps s fops).1 (runFOps s fops).2 := by
  rw [first_call_faults_invisible]; exact history_refines_cursor _ s h0

example :
    let s : S := { remaining := 4, raw := { data := [97, 10, 98, 10, 69, 88] } }
    (runFOps s [.fault1 (.read none), .ok .next, .fault1 (.readlines none), .ok (.read none)]).1 = [97, 10, 98, 10] ∧
    eof (runFOps s [.fault1 (.read none)]).2 = false ∧ (readlinesFault s none 1).remaining = 2 := by decide
end Wf

namespace Af
open AsF
/-- sized read abandoned at its first `await receive()`: the stream is exactly as before (the buffered residue included), only receive() was awaited once more -/
theorem read_fault_first_receive (s : S) (n : Int) (hn : 0 < n) (hc : s.closed = false) (hr : 0 < s.remaining) (hb : s.buffer.length < n.toNat) :
    withFault (fun s => read s (some n)) s 1 = (.blocked, { s with awaited := s.awaited + 1, blocked := false }) := by
  have h1 : ¬ n = -1 := fun h => by rw [h] at hn; exact absurd hn (by decide)
  have h2 : ¬ n ≤ 0 := Int.not_le.mpr hn
  have h3 : ¬ s.remaining = 0 := Nat.ne_of_gt hr
  simp [withFault, AsF.read, AsF.eof, hc, h1, h2, h3, AsF.readLoop, AsF.recv, hr, hb]

/-- `readall()` abandoned at its first `await receive()`: as before EXCEPT that the buffered residue is gone (`self._buffer = b''` precedes the loop) - with an empty
    buffer nothing is lost; with a residue this is the documented loss class (a), outside the property's quantifier -/
theorem readall_fault_first_receive (s : S) (hc : s.closed = false) (hr : 0 < s.remaining) :
    withFault readall s 1 = (.blocked, { s with buffer := [], awaited := s.awaited + 1, blocked := false }) := by
  have h3 : ¬ s.remaining = 0 := Nat.ne_of_gt hr
  simp [withFault, AsF.readall, AsF.eof, hc, h3, AsF.readallLoop, AsF.recv, hr]

/-- `exhaust()` abandoned at its first `await receive()`: the residue was discarded and counted in tell() before the loop -/
theorem exhaust_fault_first_receive (s : S) (hc : s.closed = false) (hr : 0 < s.remaining) :
    withFault exhaust s 1 = (.blocked, { s with buffer := [], pos := s.pos + s.buffer.length, awaited := s.awaited + 1, blocked := false }) := by
  simp [withFault, AsF.exhaust, hc, AsF.exhaustLoop, AsF.recv, hr]

example :
    let s : S := init (some (.request (some [48, 49, 50, 51]) (some true))) (some 10) [.request (some [52, 53, 54, 55]) (some true), .request (some [56, 57]) none]
    (read s (some 2)).1 matches .data [48, 49] ∧
    (withFault (fun s => read s (some 5)) (read s (some 2)).2 1).2.buffer = [50, 51] ∧
    (withFault (fun s => read s (some 9)) (read s (some 2)).2 2).2.remaining = 2 := by decide
end Af
