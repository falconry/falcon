import FalconModel.MediaType
/-! C11 (first half), theorems about the transcription of `falcon.util.mediatypes`:
    `quality` is the q of a lexicographically maximal match, `best_match` is the first candidate of maximal quality and
    never one of quality 0, malformed input only produces the two value errors. -/
namespace Mt

theorem Score.lt_irrefl (a : Score) : a.lt a = false := by
  simp [Score.lt]

/-- one level of a lexicographic comparison: `<` is transitive when the comparison of the rest is -/
theorem lex_trans {x y z : Nat} {p q r : Bool} (h : p = true → q = true → r = true)
    (h1 : (decide (x < y) || (x == y && p)) = true) (h2 : (decide (y < z) || (y == z && q)) = true) :
    (decide (x < z) || (x == z && r)) = true := by
  simp only [Bool.or_eq_true, Bool.and_eq_true, decide_eq_true_eq, beq_iff_eq] at *
  rcases h1 with h1 | ⟨rfl, hp⟩
  · exact .inl (h2.elim (Nat.lt_trans h1) fun ⟨e, _⟩ => e ▸ h1)
  · exact h2.imp_right fun ⟨e, hq⟩ => ⟨e, h hp hq⟩

/-- ... and so is `¬ <` -/
theorem lex_ntrans {x y z : Nat} {p q r : Bool} (h : p = false → q = false → r = false)
    (h1 : (decide (x < y) || (x == y && p)) = false) (h2 : (decide (y < z) || (y == z && q)) = false) :
    (decide (x < z) || (x == z && r)) = false := by
  simp only [Bool.or_eq_false_iff, Bool.and_eq_false_imp, decide_eq_false_iff_not, beq_iff_eq] at *
  have hyx := Nat.not_lt.mp h1.1
  have hzy := Nat.not_lt.mp h2.1
  refine ⟨Nat.not_lt.mpr (Nat.le_trans hzy hyx), fun e => ?_⟩
  have hxy : x = y := Nat.le_antisymm (e ▸ hzy) hyx
  exact h (h1.2 hxy) (h2.2 (hxy ▸ e))

theorem Score.lt_trans {a b c : Score} (h1 : a.lt b = true) (h2 : b.lt c = true) : a.lt c = true :=
  lex_trans (lex_trans (lex_trans (lex_trans fun h1 h2 =>
    decide_eq_true (Nat.lt_trans (of_decide_eq_true h1) (of_decide_eq_true h2))))) h1 h2

/-- `¬ <` is transitive (the order is total) -/
theorem Score.nlt_trans {a b c : Score} (h1 : a.lt b = false) (h2 : b.lt c = false) : a.lt c = false :=
  lex_ntrans (lex_ntrans (lex_ntrans (lex_ntrans fun h1 h2 =>
    decide_eq_false (Nat.not_lt.mpr (Nat.le_trans (Nat.not_lt.mp (of_decide_eq_false h2)) (Nat.not_lt.mp (of_decide_eq_false h1))))))) h1 h2

theorem optLt_irrefl (a : Option Score) : optLt a a = false := by
  cases a with
  | none => rfl
  | some s => simp [optLt, Score.lt_irrefl]

theorem optLt_trans {a b c : Option Score} (h1 : optLt a b = true) (h2 : optLt b c = true) : optLt a c = true := by
  cases a <;> cases b <;> cases c <;> simp [optLt] at * <;> exact Score.lt_trans h1 h2

theorem optNlt_trans {a b c : Option Score} (h1 : optLt a b = false) (h2 : optLt b c = false) : optLt a c = false := by
  cases a <;> cases b <;> cases c <;> simp [optLt] at * <;> exact Score.nlt_trans h1 h2

def foldMax (best : Option Score) (l : List (Option Score)) : Option Score :=
  l.foldl (fun best y => if optLt best y then y else best) best

/-- the running maximum is the start value or an element, and below neither the start value nor any element -/
theorem foldMax_spec : ∀ (l : List (Option Score)) (b : Option Score),
    (foldMax b l = b ∨ foldMax b l ∈ l) ∧ optLt (foldMax b l) b = false ∧ ∀ x ∈ l, optLt (foldMax b l) x = false := by
  intro l
  induction l with
  | nil => exact fun b => ⟨.inl rfl, optLt_irrefl b, fun _ h => nomatch h⟩
  | cons y rest ih =>
    intro b
    rw [foldMax, List.foldl_cons]
    by_cases h : optLt b y = true
    · obtain ⟨hm, hi, ha⟩ := ih y
      rw [if_pos h]
      refine ⟨.inr (List.mem_cons.mpr hm), ?_, List.forall_mem_cons.mpr ⟨hi, ha⟩⟩
      -- not below `b`: else it would be below `y` as well
      cases hc : optLt (foldMax y rest) b
      · exact hc
      · rw [optLt_trans hc h] at hi; cases hi
    · obtain ⟨hm, hi, ha⟩ := ih b
      rw [if_neg h]
      exact ⟨hm.imp_right (List.mem_cons_of_mem _), hi,
        List.forall_mem_cons.mpr ⟨optNlt_trans hi (Bool.eq_false_iff.mpr h), ha⟩⟩

/-- `max(scores)` is not below any element -/
theorem maxScore_ge (l : List (Option Score)) (x : Option Score) (hx : x ∈ l) : optLt (maxScore l) x = false := by
  cases l with
  | nil => cases hx
  | cons y rest =>
    rcases List.mem_cons.mp hx with rfl | hx
    · exact (foldMax_spec rest x).2.1
    · exact (foldMax_spec rest y).2.2 x hx

/-- `max(scores)` is one of the elements -/
theorem maxScore_mem (l : List (Option Score)) (hne : l ≠ []) : maxScore l ∈ l := by
  cases l with
  | nil => exact absurd rfl hne
  | cons y rest => exact List.mem_cons.mpr (foldMax_spec rest y).1

/-- a maximum that is a match is the score of one of the ranges -/
theorem maxScore_some {rs : List MediaRange} {t : MediaType} {sc : Score}
    (h : maxScore (rs.map (matchScore · t)) = some sc) : ∃ r ∈ rs, matchScore r t = some sc := by
  have hne : rs.map (matchScore · t) ≠ [] := by
    intro he; rw [he] at h; cases h
  exact List.mem_map.mp (h ▸ maxScore_mem _ hne)

theorem matchScore_q {r : MediaRange} {t : MediaType} {sc : Score} (h : matchScore r t = some sc) : sc.q = r.q := by
  unfold matchScore at h
  split at h
  · cases h; rfl
  · cases h

theorem quality_ok_iff {mt hdr : Str} {q : Nat} (h : quality mt hdr = .ok q) :
    ∃ t rs, parseMediaTypeHeader mt = .ok t ∧ parseMediaRanges hdr = .ok rs ∧
      q = scoreQ (maxScore (rs.map (matchScore · t))) := by
  unfold quality at h
  split at h
  · cases h
  · rename_i t ht
    split at h
    · cases h
    · rename_i rs hrs
      cases h
      exact ⟨t, rs, ht, hrs, rfl⟩

/-- **the documented order**: when `quality` returns `q`, either no media range of the header matches and `q = 0`, or `q`
    is the q of a matching range whose `(type, subtype, exact-params, #matching-params, q)` tuple no other range's
    tuple exceeds lexicographically -/
theorem quality_is_q_of_most_specific (mt hdr : Str) (q : Nat) (h : quality mt hdr = .ok q) :
    ∃ t rs, parseMediaTypeHeader mt = .ok t ∧ parseMediaRanges hdr = .ok rs ∧
      (((∀ r ∈ rs, matchScore r t = none) ∧ q = 0) ∨
       (∃ r ∈ rs, ∃ sc, matchScore r t = some sc ∧ r.q = q ∧
          ∀ r' ∈ rs, ∀ sc', matchScore r' t = some sc' → sc.lt sc' = false)) := by
  obtain ⟨t, rs, ht, hrs, hq⟩ := quality_ok_iff h
  refine ⟨t, rs, ht, hrs, ?_⟩
  cases hm : maxScore (rs.map (matchScore · t)) with
  | none =>
    left
    refine ⟨fun r hr => ?_, by rw [hq, hm]; rfl⟩
    have hge := maxScore_ge (rs.map (matchScore · t)) (matchScore r t) (List.mem_map_of_mem hr)
    rw [hm] at hge
    cases hs : matchScore r t with
    | none => rfl
    | some s => rw [hs] at hge; simp [optLt] at hge
  | some sc =>
    right
    obtain ⟨r, hr, hrs'⟩ := maxScore_some hm
    refine ⟨r, hr, sc, hrs', ?_, fun r' hr' sc' hs' => ?_⟩
    · rw [hq, hm]; simp only [scoreQ]; exact (matchScore_q hrs').symm
    · have hge := maxScore_ge (rs.map (matchScore · t)) (matchScore r' t) (List.mem_map_of_mem hr')
      rw [hm, hs'] at hge
      simpa [optLt] using hge

/-- no matching range: quality 0 -/
theorem no_matching_range_quality_zero (mt hdr : Str) (t : MediaType) (rs : List MediaRange)
    (ht : parseMediaTypeHeader mt = .ok t) (hrs : parseMediaRanges hdr = .ok rs)
    (hno : ∀ r ∈ rs, matchScore r t = none) : quality mt hdr = .ok 0 := by
  unfold quality
  rw [ht, hrs]
  simp only
  cases hm : maxScore (rs.map (matchScore · t)) with
  | none => rfl
  | some sc =>
    obtain ⟨r, hr, hrs'⟩ := maxScore_some hm
    rw [hno r hr] at hrs'; cases hrs'

/-- what the accumulator of the `max(key=quality)` loop means for the candidates seen so far -/
def AccOk (hdr : Str) (seen : List Str) : Option (Str × Nat) → Prop
  | none => seen = []
  | some (b, bq) =>
    ∃ pre post, seen = pre ++ b :: post ∧ quality b hdr = .ok bq ∧
      (∀ c ∈ pre, ∃ qc, quality c hdr = .ok qc ∧ qc < bq) ∧ (∀ c ∈ post, ∃ qc, quality c hdr = .ok qc ∧ qc ≤ bq)

theorem bestLoop_spec (hdr : Str) : ∀ (cs seen : List Str) (acc res : Option (Str × Nat)),
    AccOk hdr seen acc → bestLoop hdr cs acc = .ok res → AccOk hdr (seen ++ cs) res := by
  intro cs
  induction cs with
  | nil =>
    intro seen acc res hacc h
    simp only [bestLoop] at h; cases h
    simpa using hacc
  | cons c rest ih =>
    intro seen acc res hacc h
    simp only [bestLoop] at h
    split at h
    · cases h
    · rename_i q hq
      have hassoc : seen ++ c :: rest = (seen ++ [c]) ++ rest := by simp
      rw [hassoc]
      split at h
      · -- first candidate
        rename_i hnone
        refine ih (seen ++ [c]) _ res ?_ h
        simp only [AccOk] at hacc
        subst hacc
        exact ⟨[], [], by simp, hq, by simp, by simp⟩
      · rename_i bc bq
        obtain ⟨pre, post, hseen, hb, hpre, hpost⟩ := hacc
        refine ih (seen ++ [c]) _ res ?_ h
        by_cases hlt : bq < q
        · simp only [hlt, if_true]
          refine ⟨seen, [], by simp, hq, ?_, by simp⟩
          intro x hx
          rw [hseen] at hx
          rcases List.mem_append.mp hx with hx | hx
          · obtain ⟨qc, h1, h2⟩ := hpre x hx; exact ⟨qc, h1, by omega⟩
          · rcases List.mem_cons.mp hx with rfl | hx
            · exact ⟨bq, hb, hlt⟩
            · obtain ⟨qc, h1, h2⟩ := hpost x hx; exact ⟨qc, h1, by omega⟩
        · simp only [hlt, if_false]
          refine ⟨pre, post ++ [c], by simp [hseen], hb, hpre, ?_⟩
          intro x hx
          rcases List.mem_append.mp hx with hx | hx
          · exact hpost x hx
          · have : x = c := by simpa using hx
            subst this; exact ⟨q, hq, by omega⟩

/-- what `best_match` returns, in terms of the accumulator the loop ends with -/
theorem bestMatch_spec {cands : List Str} {hdr m : Str} (h : bestMatch cands hdr = .ok m) :
    (cands = [] ∧ m = []) ∨ ∃ c q, AccOk hdr cands (some (c, q)) ∧ m = if q > 0 then c else [] := by
  unfold bestMatch at h
  split at h
  · cases h
  · next hloop => cases h; exact .inl ⟨bestLoop_spec hdr cands [] none none rfl hloop, rfl⟩
  · next c q hloop => cases h; exact .inr ⟨c, q, bestLoop_spec hdr cands [] none _ rfl hloop, rfl⟩

/-- a chosen candidate is one of the candidates and its quality is > 0 (never q=0, never unmatched) -/
theorem bestMatch_never_q0_or_unmatched (cands : List Str) (hdr m : Str)
    (h : bestMatch cands hdr = .ok m) (hne : m ≠ []) : m ∈ cands ∧ ∃ q, quality m hdr = .ok q ∧ q > 0 := by
  rcases bestMatch_spec h with ⟨_, rfl⟩ | ⟨c, q, ⟨pre, post, hc, hq, _, _⟩, rfl⟩
  · exact absurd rfl hne
  · by_cases hpos : q > 0
    · rw [if_pos hpos]
      exact ⟨hc ▸ List.mem_append_right _ List.mem_cons_self, q, hq, hpos⟩
    · rw [if_neg hpos] at hne; exact absurd rfl hne

/-- the chosen candidate is the FIRST one of maximal quality; an empty answer means every candidate has quality 0 -/
theorem bestMatch_is_first_max (cands : List Str) (hdr m : Str) (h : bestMatch cands hdr = .ok m) :
    (m ≠ [] → ∃ pre post q, cands = pre ++ m :: post ∧ quality m hdr = .ok q ∧
        (∀ c ∈ pre, ∃ qc, quality c hdr = .ok qc ∧ qc < q) ∧ (∀ c ∈ post, ∃ qc, quality c hdr = .ok qc ∧ qc ≤ q)) ∧
    (m = [] → ∀ c ∈ cands, quality c hdr = .ok 0) := by
  rcases bestMatch_spec h with ⟨rfl, rfl⟩ | ⟨c, q, ⟨pre, post, hc, hq, hpre, hpost⟩, rfl⟩
  · exact ⟨fun hne => absurd rfl hne, fun _ c hc => nomatch hc⟩
  · by_cases hpos : q > 0
    · rw [if_pos hpos]
      refine ⟨fun _ => ⟨pre, post, q, hc, hq, hpre, hpost⟩, fun he => ?_⟩
      -- the chosen candidate is the empty string: impossible, its quality would be an error
      rw [he] at hq; cases hq
    · rw [if_neg hpos]
      refine ⟨fun hne => absurd rfl hne, fun _ x hx => ?_⟩
      -- the maximal quality is 0: so is every other
      obtain rfl : q = 0 := by omega
      rw [hc] at hx
      rcases List.mem_append.mp hx with hx | hx
      · obtain ⟨qc, _, h2⟩ := hpre x hx; omega
      · rcases List.mem_cons.mp hx with rfl | hx
        · exact hq
        · obtain ⟨qc, h1, h2⟩ := hpost x hx
          obtain rfl : qc = 0 := by omega
          exact h1

theorem mapM'_error {α β} (f : α → Except Err β) : ∀ (l : List α) (e : Err), mapM' f l = .error e → ∃ a ∈ l, f a = .error e := by
  intro l
  induction l with
  | nil => intro e h; cases h
  | cons a rest ih =>
    intro e h
    simp only [mapM'] at h
    split at h
    · rename_i e' he; cases h; exact ⟨a, List.mem_cons_self, he⟩
    · split at h
      · rename_i e' he
        cases h
        obtain ⟨x, hx, hfx⟩ := ih e he
        exact ⟨x, List.mem_cons_of_mem _ hx, hfx⟩
      · cases h

/-- the model is total by construction (`Except Err Nat`): a value, InvalidMediaType, InvalidMediaRange, or "outside the
    fragment".  Moreover InvalidMediaType is raised only when the media type itself does not parse, and InvalidMediaRange
    only when some member of the comma-separated header does not parse as a media range. -/
theorem malformed_only_value_errors (mt hdr : Str) (e : Err) (h : quality mt hdr = .error e) :
    parseMediaTypeHeader mt = .error e ∨
    ∃ member ∈ splitOn ',' hdr, parseMediaRange member = .error e := by
  unfold quality at h
  split at h
  · rename_i e' he; cases h; left; exact he
  · split at h
    · rename_i e' he
      cases h
      right
      exact mapM'_error parseMediaRange _ e he
    · cases h

theorem lowerC_idem (c : Char) : lowerC (lowerC c) = lowerC c := by
  unfold lowerC
  by_cases h : 65 ≤ c.toNat ∧ c.toNat ≤ 90
  · have hv : (c.toNat + 32).isValidChar := by
      simp only [Nat.isValidChar]; omega
    have hn : (Char.ofNat (c.toNat + 32)).toNat = c.toNat + 32 := by
      unfold Char.ofNat; rw [dif_pos hv]; rfl
    simp only [if_pos h, hn]
    have : ¬ (65 ≤ c.toNat + 32 ∧ c.toNat + 32 ≤ 90) := by omega
    rw [if_neg this]
  · simp only [if_neg h]

theorem lower_idem (s : Str) : lower (lower s) = lower s := by
  unfold lower
  rw [List.map_map]
  apply List.map_congr_left
  intro c _
  exact lowerC_idem c

/-- Fix a19fe30: the type and subtype of every parsed media type are in lower case - two spellings that differ only in the
    case of ASCII letters of the type / subtype parse to the same type and subtype, so matching cannot tell them apart. -/
theorem parsed_type_is_lower (s : Str) (m : MediaType) (h : parseMediaTypeHeader s = .ok m) :
    lower m.main = m.main ∧ lower m.sub = m.sub := by
  unfold parseMediaTypeHeader at h
  split at h
  · cases h
  · generalize parseHeader s = ph at h
    obtain ⟨full, params⟩ := ph
    simp only at h
    generalize partition '/' (if (full == ['*']) = true then ['*', '/', '*'] else full) = pt at h
    obtain ⟨mm, sep, sub⟩ := pt
    simp only at h
    split at h
    · cases h
    · injection h with h; subst h; exact ⟨lower_idem _, lower_idem _⟩

#print axioms quality_is_q_of_most_specific
#print axioms bestMatch_is_first_max
end Mt
