import FalconModel.AsgiStreamProofs
/-! C07 (ASGI): whole histories.  The per-operation refinement theorems of `AsgiStreamProofs` chain: every history of
    `read(n)` / `read()` / `readall()` / `exhaust()` / `async for … break` on the repaired stream hands out, in order, a prefix of
    the declared body; `tell()` counts exactly what was consumed; no operation blocks. -/
namespace AsF

/-- the state every operation expects and re-establishes: open, never blocked, and the end of the body is within reach -/
def Good (s : S) : Prop := s.closed = false ∧ s.blocked = false ∧ (s.remaining = 0 ∨ complete s.events = true)

inductive Op where
  | read (n : Int) | readAll | exhaust | iterate (k : Nat)
  deriving Repr

def runOp (s : S) : Op → Out × S
  | .read n => read s (some n)
  | .readAll => readall s
  | .exhaust => exhaust s
  | .iterate k => iterate s k

def outBytes : Out → Bytes
  | .data b => b
  | _ => []

def isExhaust : Op → Bool
  | .exhaust => true
  | _ => false

/-- one operation, in a good state: it hands out (or, for `exhaust`, discards) exactly the next `c` bytes of what was
    declared, `tell()` advances by `|c|`, and the state is good again -/
structure OpStep (s : S) (o : Op) (r : Out × S) : Prop where
  good : Good r.2
  cut : ∃ c, c ++ absS r.2 = absS s ∧ r.2.pos = s.pos + c.length ∧
        (isExhaust o = false → outBytes r.1 = c) ∧ (isExhaust o = true → outBytes r.1 = [] ∧ absS r.2 = [])

/-- an operation that reads everything (`readall()`, `read()`, `read(-1)`) -/
theorem readall_step {s : S} (hg : Good s) {o : Op} (ho : isExhaust o = false) : OpStep s o (readall s) := by
  obtain ⟨h0, h1, h2, h3, h4, h5⟩ := readall_spec s hg.1 hg.2.1 hg.2.2
  exact ⟨⟨h0, h4, Or.inl h5⟩, absS s, by rw [h2, List.append_nil], h3, fun _ => by rw [h1]; rfl,
    fun h => by rw [ho] at h; cases h⟩

/-- an operation that does nothing -/
theorem noop_step {s : S} (hg : Good s) {o : Op} (ho : isExhaust o = false) (out : Out) (hout : outBytes out = []) :
    OpStep s o (out, s) :=
  ⟨hg, [], rfl, rfl, fun _ => hout, fun h => by rw [ho] at h; cases h⟩

theorem runOp_step (s : S) (o : Op) (hg : Good s) : OpStep s o (runOp s o) := by
  obtain ⟨hc, hb, hcomp⟩ := hg
  have hc' : ¬ s.closed = true := by simp [hc]
  cases o with
  | readAll => exact readall_step ⟨hc, hb, hcomp⟩ rfl
  | exhaust =>
    rw [runOp]
    obtain ⟨⟨h0, h5⟩, h1, h2, h3, h4⟩ := exhaust_spec s hc hb hcomp
    exact ⟨⟨h0, h4, Or.inl h5⟩, absS s, by rw [h2, List.append_nil], h3, (fun h => by cases h),
      fun _ => ⟨by rw [h1]; rfl, h2⟩⟩
  | iterate k =>
    by_cases hi : s.iterStarted = true
    · rw [runOp, iterate, if_neg hc', if_pos hi]
      exact noop_step ⟨hc, hb, hcomp⟩ rfl _ rfl
    · rw [runOp]
      obtain ⟨h0, acc, h1, h2, h3, h4, h5⟩ := iterate_spec s k hc (by simpa using hi) hb hcomp
      exact ⟨⟨h0, h4, h5⟩, acc, h2, h3, fun _ => by rw [h1]; rfl, fun h => by cases h⟩
  | read n =>
    rw [runOp]
    by_cases hn : 0 < n
    · obtain ⟨h0, h1, h2, h3, h4, h5⟩ := read_sized_spec s n hn hc hb hcomp
      exact ⟨⟨h0, h4, h5⟩, (absS s).take n.toNat, by rw [h2]; exact List.take_append_drop _ _, h3,
        fun _ => by rw [h1]; rfl, fun h => by cases h⟩
    · rw [read, if_neg hc']
      by_cases hm : n = -1
      · have : (if eof s = true then (Out.data [], s) else readall s) = readall s := by
          split
          · rename_i he; rw [readall, if_neg hc', if_pos he]
          · rfl
        simp only [hm, beq_self_eq_true, if_true, this]
        exact readall_step ⟨hc, hb, hcomp⟩ rfl
      · have h1 : (n == -1) = false := by simpa using hm
        simp only [h1, Bool.false_eq_true, if_false, if_pos (Int.not_lt.mp hn), ite_self]
        exact noop_step ⟨hc, hb, hcomp⟩ rfl _ rfl


/-- run a history; returns the concatenation of everything handed to the application -/
def runOps : S → List Op → Bytes × S
  | s, [] => ([], s)
  | s, o :: os =>
    let r := runOp s o
    let (rest, s') := runOps r.2 os
    (outBytes r.1 ++ rest, s')

/-- **whole histories on the ASGI request stream.** From any good state (in particular a freshly constructed stream
    whose event list contains the end of the body), after ANY sequence of `read(n)` (any integer `n`), `read()`,
    `readall()`, `exhaust()` and `async for` loops abandoned after any number of chunks:
    * what was consumed (`c`) and what is still to come make up exactly what was declared (no loss, no duplication,
      nothing beyond Content-Length);
    * `tell()` advanced by exactly `|c|`;
    * the bytes handed to the application, in call order, are a prefix of `c` — all of `c` if nothing was discarded by `exhaust()`;
    * the state is good again: not blocked (no operation ever waited for `receive()` beyond the end of the body). -/
theorem history_refines (ops : List Op) : ∀ (s : S), Good s →
    Good (runOps s ops).2 ∧
    ∃ c, c ++ absS (runOps s ops).2 = absS s ∧ (runOps s ops).2.pos = s.pos + c.length ∧
      (∃ t, (runOps s ops).1 ++ t = c) ∧ ((∀ o ∈ ops, isExhaust o = false) → (runOps s ops).1 = c) := by
  induction ops with
  | nil => intro s hg; exact ⟨hg, [], by simp [runOps], by simp [runOps], ⟨[], by simp [runOps]⟩, fun _ => by simp [runOps]⟩
  | cons o os ih =>
    intro s hg
    have st := runOp_step s o hg
    obtain ⟨c1, hc1, hp1, hne, hex⟩ := st.cut
    obtain ⟨hg2, c2, hc2, hp2, ⟨t2, ht2⟩, hall2⟩ := ih (runOp s o).2 st.good
    have hrun : runOps s (o :: os) = (outBytes (runOp s o).1 ++ (runOps (runOp s o).2 os).1, (runOps (runOp s o).2 os).2) := by
      simp [runOps]
    rw [hrun]; simp only
    refine ⟨hg2, c1 ++ c2, ?_, ?_, ?_, ?_⟩
    · rw [List.append_assoc, hc2, hc1]
    · rw [hp2, hp1, List.length_append, Nat.add_assoc]
    · cases hx : isExhaust o with
      | false => exact ⟨t2, by rw [hne hx, List.append_assoc, ht2]⟩
      | true =>
        obtain ⟨ho, habs⟩ := hex hx
        rw [habs] at hc2
        have hc2nil : c2 = [] := (List.append_eq_nil_iff.mp hc2).1
        rw [hc2nil] at ht2
        have hrest : (runOps (runOp s o).2 os).1 = [] := (List.append_eq_nil_iff.mp ht2).1
        exact ⟨c1 ++ c2, by rw [ho, hrest]; simp⟩
    · intro hall
      have ho : isExhaust o = false := hall o (by simp)
      rw [hne ho, hall2 (fun x hx => hall x (by simp [hx]))]


/-- a freshly constructed stream is in a good state as soon as the events still to come contain the end of the body -/
theorem good_init (first : Option Event) (cl : Option Nat) (events : List Event) (h : complete events = true) :
    Good (init first cl events) := by
  refine ⟨?_, ?_, Or.inr ?_⟩ <;> (unfold init; simp only) <;> first | rfl | exact h

/-- a stream built on a first event and a declared length has spent that event like any other -/
theorem init_some (ev : Event) (n : Nat) (events : List Event) :
    init (some ev) (some n) events = { buffer := taken ev n, remaining := left ev n, pos := 0, events := events } := by
  cases ev with
  | disconnect => simp [init, taken, left, moreOf]
  | request body more =>
    simp only [init, left, taken, moreOf_request]
    cases body with
    | none => cases more == some true <;> simp
    | some b => cases more == some true <;> simp

/-- the application never receives more than what was declared, and what it receives is a prefix of it -/
theorem history_prefix_of_declared (ops : List Op) (s : S) (hg : Good s) :
    ∃ t, (runOps s ops).1 ++ t = absS s := by
  obtain ⟨_, c, hc, _, ⟨t, ht⟩, _⟩ := history_refines ops s hg
  exact ⟨t ++ absS (runOps s ops).2, by rw [← List.append_assoc, ht, hc]⟩

/-- without `exhaust()`, once nothing is left (`eof`) the application has received the whole declared body -/
theorem history_whole_at_eof (ops : List Op) (s : S) (hg : Good s) (hne : ∀ o ∈ ops, isExhaust o = false)
    (heof : absS (runOps s ops).2 = []) : (runOps s ops).1 = absS s := by
  obtain ⟨_, c, hc, _, _, hall⟩ := history_refines ops s hg
  rw [hall hne, ← hc, heof, List.append_nil]

-- non-vacuity: Content-Length 5, the server sends "abc" (more) then "defgh" (final, oversized): read(2); iterate 1 chunk; readall
example :
    let s := init (some (.request (some [97, 98, 99]) (some true))) (some 5) [.request (some [100, 101, 102, 103, 104]) none]
    (s.closed = false ∧ s.blocked = false ∧ (s.remaining = 0 ∨ complete s.events = true)) ∧ (runOps s [.read 2, .iterate 1, .readAll]).1 = [97, 98, 99, 100, 101] ∧ (runOps s [.read 2, .iterate 1, .readAll]).2.pos = 5 := by
  decide

end AsF
