/-! Prototype for C11 (second half): media `Handlers` — a memoising resolver over a mutable mapping.
    `f` is the uncached resolution rule (exact key, else best match, else 415), an arbitrary function of the data. -/
namespace Mh

abbrev Data := List (String × Nat)          -- media type ↦ handler id
abbrev Cache := List (String × Option Nat)  -- memo: arbitrary sub-memo of `f data` (LRU eviction = dropping entries)

structure St where
  data : Data
  cache : Cache

inductive Op where
  | set (k : String) (v : Nat) | del (k : String) | clear
  | ior (kvs : Data)                       -- `handlers |= {...}`
  | evict (n : Nat)                        -- the LRU dropping its n oldest entries
  | resolve (k : String)
deriving Repr

/-- `self.data[k] = v` on a Python dict: an existing key keeps its position (the order of the keys decides ties in
    `best_match`), a new key is appended -/
def dset (d : Data) (k : String) (v : Nat) : Data :=
  if d.any (·.1 == k) then d.map (fun kv => if kv.1 == k then (k, v) else kv) else d ++ [(k, v)]

/-- `iorClears = false` is the pinned code (UserDict.__ior__ bypasses __setitem__), `true` the repaired one -/
def step (iorClears : Bool) (f : Data → String → Option Nat) (s : St) : Op → St × Option (Option Nat)
  | .set k v => ({ data := dset s.data k v, cache := [] }, none)
  | .del k => ({ data := s.data.filter (·.1 != k), cache := [] }, none)
  | .clear => ({ data := [], cache := [] }, none)
  | .ior kvs => ({ data := kvs.foldl (fun d kv => dset d kv.1 kv.2) s.data,
                   cache := if iorClears then [] else s.cache }, none)
  | .evict n => ({ s with cache := s.cache.drop n }, none)
  | .resolve k =>
    match s.cache.find? (·.1 == k) with
    | some e => (s, some e.2)
    | none => let r := f s.data k; ({ s with cache := s.cache ++ [(k, r)] }, some r)

/-- cache coherence: every memo entry is what the uncached rule gives on the *current* mapping -/
def Coherent (f : Data → String → Option Nat) (s : St) : Prop :=
  ∀ e ∈ s.cache, e.2 = f s.data e.1

theorem step_coherent (f : Data → String → Option Nat) (s : St) (op : Op) (h : Coherent f s) :
    Coherent f (step true f s op).1 := by
  cases op with
  | set k v => intro e he; cases he
  | del k => intro e he; cases he
  | clear => intro e he; cases he
  | ior kvs => intro e he; cases he
  | evict n => exact fun e he => h e (List.mem_of_mem_drop he)
  | resolve k =>
    simp only [step]
    split
    · exact h
    · intro e he
      simp only [List.mem_append, List.mem_singleton] at he
      rcases he with he | rfl
      · exact h e he
      · rfl

theorem resolve_on_coherent (f : Data → String → Option Nat) (s : St) (h : Coherent f s) (k : String) :
    (step true f s (.resolve k)).2 = some (f s.data k) := by
  simp only [step]
  split
  · rename_i e he
    have hm := List.mem_of_find?_eq_some he
    have hk : e.1 = k := by simpa using List.find?_some he
    rw [h e hm, hk]
  · rfl

def runOps (f : Data → String → Option Nat) (s0 : St) (ops : List Op) : St :=
  ops.foldl (fun s op => (step true f s op).1) s0

theorem history_coherent (f : Data → String → Option Nat) : ∀ (ops : List Op) (s0 : St),
    Coherent f s0 → Coherent f (runOps f s0 ops) := by
  intro ops
  induction ops with
  | nil => intro s0 h0; exact h0
  | cons op rest ih => intro s0 h0; exact ih _ (step_coherent f s0 op h0)

/-- **never a stale handler**: after any history of set / delete / clear / |= / LRU evictions / resolutions,
    a resolution returns what the current mapping designates -/
theorem resolve_fresh (f : Data → String → Option Nat) (ops : List Op) (s0 : St) (h0 : Coherent f s0) (k : String) :
    (step true f (runOps f s0 ops) (.resolve k)).2 = some (f (runOps f s0 ops).data k) :=
  resolve_on_coherent f _ (history_coherent f ops s0 h0) k

/-- the pinned code is not coherent: F08 -/
theorem ior_stale_witness :
    let f : Data → String → Option Nat := fun d k => (d.find? (·.1 == k)).map (·.2)
    let s0 : St := { data := [], cache := [] }
    let s1 := (step false f s0 (.resolve "application/x")).1
    let s2 := (step false f s1 (.ior [("application/x", 7)])).1
    (step false f s2 (.resolve "application/x")).2 = some none ∧ f s2.data "application/x" = some 7 := by
  decide +kernel

/-! ### the other mutators of the mapping, as histories of the basic operations

`update` calls `__setitem__` per item, `pop`/`popitem`/`clear` go through `__delitem__`, `setdefault` through
`__setitem__` when the key is missing, and `copy()` builds a fresh object (same items in the same order, empty memo)
— which on the state is exactly an eviction of the whole memo. -/
inductive XOp where
  | base (op : Op)
  | update (kvs : Data)
  | pop (k : String)
  | setdefault (k : String) (v : Nat)
  | popitem
  | copy
deriving Repr

def hasKey (d : Data) (k : String) : Bool := d.any (·.1 == k)

def lower (s : St) : XOp → List Op
  | .base op => [op]
  | .update kvs => kvs.map (fun kv => .set kv.1 kv.2)
  | .pop k => if hasKey s.data k then [.del k] else []
  | .setdefault k v => if hasKey s.data k then [] else [.set k v]
  | .popitem => match s.data.head? with      -- MutableMapping.popitem: the FIRST key
    | some kv => [.del kv.1]
    | none => []
  | .copy => [.evict s.cache.length]

def xstep (f : Data → String → Option Nat) (s : St) (x : XOp) : St := runOps f s (lower s x)

def xrun (f : Data → String → Option Nat) (s0 : St) (xs : List XOp) : St := xs.foldl (xstep f) s0

theorem xrun_coherent (f : Data → String → Option Nat) : ∀ (xs : List XOp) (s0 : St),
    Coherent f s0 → Coherent f (xrun f s0 xs) := by
  intro xs
  induction xs with
  | nil => intro s0 h0; exact h0
  | cons x rest ih => intro s0 h0; exact ih _ (history_coherent f (lower s0 x) s0 h0)

/-- **never a stale handler**, for histories over all mutators (set / delete / update / pop / popitem / clear /
    setdefault / `|=` / copy / LRU evictions) interleaved with resolutions -/
theorem resolve_fresh_x (f : Data → String → Option Nat) (xs : List XOp) (s0 : St) (h0 : Coherent f s0) (k : String) :
    (step true f (xrun f s0 xs) (.resolve k)).2 = some (f (xrun f s0 xs).data k) :=
  resolve_on_coherent f _ (xrun_coherent f xs s0 h0) k

/-- `copy()` preserves the mapping, also the empty one (F09 was `Handlers(self.data or defaults)`), and starts with an
    empty memo -/
theorem copy_preserves_mapping (f : Data → String → Option Nat) (s : St) :
    (xstep f s .copy).data = s.data ∧ (xstep f s .copy).cache = [] :=
  ⟨rfl, List.drop_length⟩

#print axioms resolve_fresh
#print axioms ior_stale_witness
end Mh
