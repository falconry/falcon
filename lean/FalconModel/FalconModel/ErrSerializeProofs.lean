import FalconModel.ErrSerialize
import FalconModel.MediaTypeProofs
/-! C04 (default rendering), theorems about the transcription of `default_serialize_error`, `HTTPError.to_dict`,
    `_compose_error_response` and `_compose_status_response` (`ErrSerialize.lean`), on top of the theorems about
    `falcon.util.mediatypes` (`Mt.bestMatch_is_first_max`, `Mt.bestMatch_never_q0_or_unmatched`). -/
namespace Es

theorem offered_head (o : Opts) : ∃ tl, offered o = JSON :: tl := by
  unfold offered predefined
  cases o.xml <;> simp

theorem mem_predefined {xml : Bool} {c : Str} (h : c ∈ predefined xml) : c = JSON ∨ (xml = true ∧ (c = XMLT ∨ c = XMLA)) := by
  unfold predefined at h
  cases xml <;> simp at h ⊢ <;> grind

theorem mem_mediaHandlers {o : Opts} {c : Str} (h : c ∈ mediaHandlers o) :
    c ∈ o.handlers.map (·.1) ∧ c ∉ predefined o.xml ∧ c ∉ unsuitable := by
  unfold mediaHandlers at h
  have h2 := List.mem_filter.mp h
  refine ⟨h2.1, ?_, ?_⟩
  · intro hc
    have := h2.2
    simp [hc] at this
  · intro hc
    have := h2.2
    simp [hc] at this

/-- every offered type is JSON, one of the two XML types (only when XML is enabled) or a key of `media_handlers` that is not a form type -/
theorem mem_offered {o : Opts} {c : Str} (h : c ∈ offered o) :
    c = JSON ∨ (o.xml = true ∧ (c = XMLT ∨ c = XMLA)) ∨
    (c ∈ o.handlers.map (·.1) ∧ c ∉ predefined o.xml ∧ c ∉ unsuitable) := by
  unfold offered at h
  rcases List.mem_append.mp h with h | h
  · rcases mem_predefined h with h | h
    · exact Or.inl h
    · exact Or.inr (Or.inl h)
  · exact Or.inr (Or.inr (mem_mediaHandlers h))

theorem offered_not_form {o : Opts} {c : Str} (h : c ∈ offered o) : c ≠ MULTI ∧ c ≠ URLENC := by
  rcases mem_offered h with rfl | ⟨_, rfl | rfl⟩ | ⟨_, _, h⟩
  · decide
  · decide
  · decide
  · exact ⟨fun hc => h (hc ▸ List.mem_cons_self), fun hc => h (hc ▸ List.mem_cons_of_mem _ List.mem_cons_self)⟩

theorem clientPrefers_some {cands : List Str} {a m : Str} (h : clientPrefers cands a = .some m) :
    Mt.bestMatch cands a = .ok m ∧ m ≠ [] := by
  unfold clientPrefers at h
  split at h
  · cases h
  · rename_i m' hne hm
    cases h
    exact ⟨hm, hne⟩
  · cases h
  · cases h

theorem clientPrefers_none_iff (cands : List Str) (a : Str) : clientPrefers cands a = .none ↔
    (Mt.bestMatch cands a = .ok [] ∨ Mt.bestMatch cands a = .error .type ∨ Mt.bestMatch cands a = .error .range) := by
  unfold clientPrefers
  constructor
  · intro h
    split at h
    · rename_i hm; exact Or.inl hm
    · cases h
    · cases h
    · rename_i e hne he
      cases e with
      | type => exact Or.inr (Or.inl he)
      | range => exact Or.inr (Or.inr he)
      | unsupported => exact absurd rfl hne
  · intro h
    rcases h with h | h | h <;> rw [h]

theorem heuristic_some {a m : Str} (h : heuristic a = some m) :
    (hasSub plusJson (Mt.lower a) = true ∧ m = JSON) ∨
    (hasSub plusJson (Mt.lower a) = false ∧ hasSub plusXml (Mt.lower a) = true ∧ m = XMLA) := by
  unfold heuristic at h
  simp only at h
  split at h
  · rename_i hj; cases h; exact Or.inl ⟨hj, rfl⟩
  · rename_i hj
    split at h
    · rename_i hx; cases h; exact Or.inr ⟨by simpa using hj, hx, rfl⟩
    · cases h

theorem heuristic_none_iff (a : Str) : heuristic a = none ↔
    (hasSub plusJson (Mt.lower a) = false ∧ hasSub plusXml (Mt.lower a) = false) := by
  unfold heuristic
  simp only
  cases hasSub plusJson (Mt.lower a) <;> cases hasSub plusXml (Mt.lower a) <;> simp

/-- how `preferred` comes about: the negotiated type, or (only when nothing is negotiated) the suffix heuristic -/
theorem preferredOf_some {o : Opts} {a m : Str} (h : preferredOf o a = .some m) :
    (Mt.bestMatch (offered o) a = .ok m ∧ m ≠ []) ∨
    (clientPrefers (offered o) a = .none ∧ heuristic a = some m) := by
  unfold preferredOf at h
  split at h
  · cases h
  · rename_i m' hm; cases h; exact Or.inl (clientPrefers_some hm)
  · rename_i hn
    split at h
    · rename_i m' hm; cases h; exact Or.inr ⟨hn, hm⟩
    · cases h

theorem preferredOf_none_iff (o : Opts) (a : Str) : preferredOf o a = .none ↔
    (clientPrefers (offered o) a = .none ∧ heuristic a = none) := by
  unfold preferredOf
  split
  · simp [*]
  · simp [*]
  · split <;> simp [*]

/-- the rendering block by cases: JSON, else what resolving the preferred type against the handlers gives -/
theorem render_cases (o : Opts) (m : Str) :
    (m = JSON ∧ render o m = .json) ∨
    (m ≠ JSON ∧
      ((resolve o.handlers m JSON = .unsupported ∧ render o m = .unsupported) ∨
       (resolve o.handlers m JSON = .handler ∧ render o m = .media m) ∨
       (resolve o.handlers m JSON = .nothing ∧ o.xml = true ∧ render o m = .xml m) ∨
       (resolve o.handlers m JSON = .nothing ∧ o.xml = false ∧ render o m = .typeOnly m))) := by
  unfold render
  by_cases hj : m = JSON
  · exact Or.inl ⟨hj, if_pos (beq_iff_eq.mpr hj)⟩
  · refine Or.inr ⟨hj, ?_⟩
    rw [if_neg fun h => hj (eq_of_beq h)]
    cases resolve o.handlers m JSON with
    | unsupported => exact Or.inl ⟨rfl, rfl⟩
    | handler => exact Or.inr (Or.inl ⟨rfl, rfl⟩)
    | nothing =>
      cases o.xml with
      | true => exact Or.inr (Or.inr (Or.inl ⟨rfl, rfl, rfl⟩))
      | false => exact Or.inr (Or.inr (Or.inr ⟨rfl, rfl, rfl⟩))

theorem render_ne_none (o : Opts) (m : Str) : render o m ≠ .none := by
  rcases render_cases o m with ⟨_, e⟩ | ⟨_, ⟨_, e⟩ | ⟨_, e⟩ | ⟨_, _, e⟩ | ⟨_, _, e⟩⟩ <;> rw [e] <;> exact fun h => by cases h

/-- a choice other than `none` / `unsupported` is `render` of the preferred type -/
theorem serialize_is_render {o : Opts} {hdr : Option Str} {c : Choice} (h : serializeChoice o hdr = c)
    (h1 : c ≠ .none) (h2 : c ≠ .unsupported) :
    Mt.isAscii (reqAccept hdr) = true ∧ ∃ m, preferredOf o (reqAccept hdr) = .some m ∧ render o m = c := by
  unfold serializeChoice at h
  simp only at h
  split at h
  · exact absurd h.symm h2
  · rename_i hasc
    refine ⟨by simpa using hasc, ?_⟩
    split at h
    · exact absurd h.symm h2
    · exact absurd h.symm h1
    · rename_i m hm; exact ⟨m, hm, h⟩

theorem render_ctype {o : Opts} {m ct : Str} (h : (render o m).ctype = some ct) : ct = m := by
  rcases render_cases o m with ⟨hj, e⟩ | ⟨_, ⟨_, e⟩ | ⟨_, e⟩ | ⟨_, _, e⟩ | ⟨_, _, e⟩⟩ <;> rw [e] at h <;> cases h
  · exact hj.symm
  all_goals rfl

/-- the Content-Type the serializer sets is the preferred type -/
theorem serialize_ctype_preferred {o : Opts} {hdr : Option Str} {ct : Str} (h : (serializeChoice o hdr).ctype = some ct) :
    preferredOf o (reqAccept hdr) = .some ct := by
  have h1 : serializeChoice o hdr ≠ .none := fun he => by rw [he] at h; cases h
  have h2 : serializeChoice o hdr ≠ .unsupported := fun he => by rw [he] at h; cases h
  obtain ⟨_, m, hm, hr⟩ := serialize_is_render rfl h1 h2
  rw [← hr] at h
  rw [render_ctype h]; exact hm

theorem bestLoop_total (hdr : Str) : ∀ (cs : List Str) (acc : Option (Str × Nat)),
    (∀ c ∈ cs, ∃ qc, Mt.quality c hdr = .ok qc) → ∃ res, Mt.bestLoop hdr cs acc = .ok res := by
  intro cs
  induction cs with
  | nil => intro acc _; exact ⟨acc, rfl⟩
  | cons c rest ih =>
    intro acc hall
    obtain ⟨qc, hq⟩ := hall c List.mem_cons_self
    have hrest : ∀ c ∈ rest, ∃ qc, Mt.quality c hdr = .ok qc := fun x hx => hall x (List.mem_cons_of_mem _ hx)
    simp only [Mt.bestLoop, hq]
    cases acc with
    | none => exact ih _ hrest
    | some p => exact ih _ hrest

theorem bestMatch_total (cands : List Str) (hdr : Str) (hall : ∀ c ∈ cands, ∃ qc, Mt.quality c hdr = .ok qc) :
    ∃ m, Mt.bestMatch cands hdr = .ok m := by
  obtain ⟨res, hres⟩ := bestLoop_total hdr cands none hall
  unfold Mt.bestMatch
  rw [hres]
  cases res with
  | none => exact ⟨_, rfl⟩
  | some p => exact ⟨_, rfl⟩

/-- JSON is offered first and `best_match` takes the first maximum: a negotiated type other than JSON has a strictly
    better quality than JSON -/
theorem negotiated_beats_json (o : Opts) (a m : Str) (hm : Mt.bestMatch (offered o) a = .ok m) (hne : m ≠ [])
    (hnj : m ≠ JSON) : ∃ q qj, Mt.quality m a = .ok q ∧ Mt.quality JSON a = .ok qj ∧ qj < q := by
  obtain ⟨pre, post, q, hc, hq, hpre, _⟩ := (Mt.bestMatch_is_first_max _ _ _ hm).1 hne
  obtain ⟨tl, htl⟩ := offered_head o
  rw [htl] at hc
  cases pre with
  | nil => exact absurd (List.cons.inj hc).1.symm hnj
  | cons p ps =>
    obtain ⟨qj, h1, h2⟩ := hpre p List.mem_cons_self
    rw [← (List.cons.inj hc).1] at h1
    exact ⟨q, qj, hq, h1, h2⟩

/-- a negotiated type whose quality equals that of JSON *is* JSON (JSON is first in the offered list and `best_match` takes the
    first maximum) -/
theorem negotiated_tie_is_json (o : Opts) (a m : Str) (q : Nat) (hm : Mt.bestMatch (offered o) a = .ok m) (hne : m ≠ [])
    (hq : Mt.quality m a = .ok q) (hj : Mt.quality JSON a = .ok q) : m = JSON := by
  apply Decidable.byContradiction
  intro hnj
  obtain ⟨q', qj, h1, h2, hlt⟩ := negotiated_beats_json o a m hm hne hnj
  rw [hq] at h1
  rw [hj] at h2
  cases h1; cases h2
  exact Nat.lt_irrefl _ hlt

/-- **JSON wins every tie**: when the Accept header gives JSON a positive quality that no offered type exceeds, the error is
    rendered as JSON — whatever else is configured or enabled -/
theorem serialize_json_on_tie (o : Opts) (hdr : Option Str) (q : Nat)
    (hasc : Mt.isAscii (reqAccept hdr) = true)
    (hj : Mt.quality JSON (reqAccept hdr) = .ok q) (hpos : q > 0)
    (hmax : ∀ c ∈ offered o, ∃ qc, Mt.quality c (reqAccept hdr) = .ok qc ∧ qc ≤ q) :
    serializeChoice o hdr = .json := by
  obtain ⟨m, hm⟩ := bestMatch_total (offered o) (reqAccept hdr) (fun c hc => by obtain ⟨qc, h, _⟩ := hmax c hc; exact ⟨qc, h⟩)
  obtain ⟨tl, htl⟩ := offered_head o
  have hjmem : JSON ∈ offered o := by rw [htl]; exact List.mem_cons_self
  have hne : m ≠ [] := by
    intro he
    have := (Mt.bestMatch_is_first_max _ _ _ hm).2 he JSON hjmem
    rw [hj] at this; cases this; omega
  have hmj : m = JSON := by
    apply Decidable.byContradiction
    intro hnj
    obtain ⟨q', qj, h1, h2, hlt⟩ := negotiated_beats_json o _ m hm hne hnj
    obtain ⟨qm, h3, h4⟩ := hmax m (Mt.bestMatch_never_q0_or_unmatched _ _ _ hm hne).1
    rw [h1] at h3
    rw [hj] at h2
    cases h3; cases h2
    exact Nat.lt_irrefl _ (Nat.lt_of_lt_of_le hlt h4)
  subst hmj
  have hcp : clientPrefers (offered o) (reqAccept hdr) = .some JSON := by
    unfold clientPrefers; rw [hm]; rfl
  unfold serializeChoice
  simp only [hasc, Bool.not_true, Bool.false_eq_true, if_false]
  unfold preferredOf
  rw [hcp]
  simp [render]

theorem ok_of_toOption {ε α : Type} {e : Except ε α} {a : α} (h : e.toOption = some a) : e = .ok a := by
  cases e with
  | error _ => cases h
  | ok b => exact congrArg Except.ok (Option.some.inj h)

example : serializeChoice { xml := true, handlers := [(JSON, true), (MULTI, true), (URLENC, true)] }
    (some "application/xml;q=0.9, */*;q=0.9".toList) = .json := by decide +kernel
/-- the hypotheses hold on that input: JSON and both XML types tie at 0.9 -/
example : Mt.quality JSON "application/xml;q=0.9, */*;q=0.9".toList = .ok 9000 ∧
    Mt.quality XMLA "application/xml;q=0.9, */*;q=0.9".toList = .ok 9000 ∧
    Mt.quality XMLT "application/xml;q=0.9, */*;q=0.9".toList = .ok 9000 :=
  ⟨ok_of_toOption (by decide +kernel), ok_of_toOption (by decide +kernel), ok_of_toOption (by decide +kernel)⟩

/-- **XML only if preferred and enabled**: the built-in XML rendering is used only when `xml_error_serialization` is on, no
    configured handler resolves the type, and either the client's negotiated type (strictly better than JSON, quality > 0) or —
    when nothing at all is negotiated and there is no `+json` in the header — the `+xml` heuristic asks for it -/
theorem serialize_xml_only_if_preferred_and_enabled (o : Opts) (hdr : Option Str) (ct : Str)
    (h : serializeChoice o hdr = .xml ct) :
    o.xml = true ∧ ct ≠ JSON ∧ resolve o.handlers ct JSON = .nothing ∧
    ((Mt.bestMatch (offered o) (reqAccept hdr) = .ok ct ∧ ct ≠ [] ∧
        ∃ q qj, Mt.quality ct (reqAccept hdr) = .ok q ∧ Mt.quality JSON (reqAccept hdr) = .ok qj ∧ qj < q) ∨
     (clientPrefers (offered o) (reqAccept hdr) = .none ∧ hasSub plusJson (Mt.lower (reqAccept hdr)) = false ∧
        hasSub plusXml (Mt.lower (reqAccept hdr)) = true ∧ ct = XMLA)) := by
  obtain ⟨_, m, hm, hr⟩ := serialize_is_render h (by simp) (by simp)
  rcases render_cases o m with ⟨_, e⟩ | ⟨hnj', ⟨_, e⟩ | ⟨_, e⟩ | ⟨hres, hx, e⟩ | ⟨_, _, e⟩⟩ <;> rw [e] at hr <;> cases hr
  refine ⟨hx, hnj', hres, ?_⟩
  rcases preferredOf_some hm with ⟨hb, hne⟩ | ⟨hn, hh⟩
  · exact Or.inl ⟨hb, hne, negotiated_beats_json o _ _ hb hne hnj'⟩
  · right
    rcases heuristic_some hh with ⟨_, hj⟩ | ⟨h1, h2, h3⟩
    · exact absurd hj hnj'
    · exact ⟨hn, h1, h2, h3⟩

example : serializeChoice { xml := true, handlers := [(JSON, true)] } (some "text/xml, application/json;q=0.9".toList) = .xml XMLT := by decide +kernel
example : serializeChoice { xml := true, handlers := [(JSON, true)] } (some "application/vnd.acme+xml".toList) = .xml XMLA := by decide +kernel

theorem hget_of_mem_truthy {hs : List (Str × Bool)} (htr : ∀ kv ∈ hs, kv.2 = true) {k : Str} (hk : k ∈ hs.map (·.1)) :
    hget hs k = some true := by
  unfold hget
  cases hf : hs.find? (·.1 == k) with
  | none =>
    obtain ⟨kv, hkv, hk1⟩ := List.mem_map.mp hk
    have := List.find?_eq_none.mp hf kv hkv
    simp [hk1] at this
  | some kv =>
    have := List.mem_of_find?_eq_some hf
    simp [htr kv this]

/-- a registered (truthy) handler other than `*/*` is resolved by its exact key -/
theorem resolve_of_key {hs : List (Str × Bool)} (htr : ∀ kv ∈ hs, kv.2 = true) {k d : Str} (hk : k ∈ hs.map (·.1))
    (hstar : k ≠ STAR) (hne : k ≠ []) : resolve hs k d = .handler := by
  unfold resolve
  have h1 : (k == STAR || k == []) = false := by simp [hstar, hne]
  simp only [h1, Bool.false_eq_true, if_false, hget_of_mem_truthy htr hk, beq_self_eq_true, if_true]

/-- with real (truthy) handlers, a negotiated type other than JSON that no handler resolves is one of the two built-in XML types -/
theorem negotiated_unresolved {o : Opts} {a m : Str} (htr : ∀ kv ∈ o.handlers, kv.2 = true)
    (hstar : STAR ∉ o.handlers.map (·.1)) (hb : Mt.bestMatch (offered o) a = .ok m) (hne : m ≠ []) (hnj : m ≠ JSON)
    (hres : resolve o.handlers m JSON = .nothing) : o.xml = true ∧ (m = XMLT ∨ m = XMLA) := by
  rcases mem_offered (Mt.bestMatch_never_q0_or_unmatched _ _ _ hb hne).1 with hj | hx | ⟨hk, _, _⟩
  · exact absurd hj hnj
  · exact hx
  · have hs : m ≠ STAR := fun he => hstar (he ▸ hk)
    rw [resolve_of_key htr hk hs hne] at hres; cases hres

/-- with real (truthy) handlers the built-in XML body is only ever labelled `text/xml` or `application/xml` -/
theorem serialize_xml_type (o : Opts) (hdr : Option Str) (ct : Str) (htr : ∀ kv ∈ o.handlers, kv.2 = true)
    (hstar : STAR ∉ o.handlers.map (·.1)) (h : serializeChoice o hdr = .xml ct) : ct = XMLT ∨ ct = XMLA := by
  obtain ⟨_, hnj, hres, hpref⟩ := serialize_xml_only_if_preferred_and_enabled o hdr ct h
  rcases hpref with ⟨hb, hne, _⟩ | ⟨_, _, _, hx⟩
  · exact (negotiated_unresolved htr hstar hb hne hnj hres).2
  · exact Or.inr hx

/-- **the form media types are never chosen** (F31, fix 571f254): whatever Content-Type the serializer sets, it is neither
    `multipart/form-data` nor `application/x-www-form-urlencoded` — even when the client asks exactly for them -/
theorem serialize_never_form_types (o : Opts) (hdr : Option Str) (ct : Str)
    (h : (serializeChoice o hdr).ctype = some ct) : ct ≠ MULTI ∧ ct ≠ URLENC := by
  rcases preferredOf_some (serialize_ctype_preferred h) with ⟨hb, hne⟩ | ⟨_, hh⟩
  · exact offered_not_form (Mt.bestMatch_never_q0_or_unmatched _ _ _ hb hne).1
  · rcases heuristic_some hh with ⟨_, hj⟩ | ⟨_, _, hx⟩
    · subst hj; decide
    · subst hx; decide

example : serializeChoice { xml := false, handlers := [(JSON, true), (MULTI, true), (URLENC, true)] }
    (some "multipart/form-data, application/x-www-form-urlencoded;q=0.9".toList) = .none := by decide +kernel

/-- the negotiated Content-Type is an offered type the client gives a positive quality, maximal among the offered ones; only
    when nothing is negotiated can the suffix heuristic choose (JSON or `application/xml`) -/
theorem serialize_ctype_negotiated (o : Opts) (hdr : Option Str) (ct : Str) (h : (serializeChoice o hdr).ctype = some ct) :
    (ct ∈ offered o ∧ ∃ q, Mt.quality ct (reqAccept hdr) = .ok q ∧ q > 0 ∧
        ∀ c ∈ offered o, ∃ qc, Mt.quality c (reqAccept hdr) = .ok qc ∧ qc ≤ q) ∨
    (clientPrefers (offered o) (reqAccept hdr) = .none ∧ heuristic (reqAccept hdr) = some ct) := by
  rcases preferredOf_some (serialize_ctype_preferred h) with ⟨hb, hne⟩ | hh
  · left
    obtain ⟨hmem, q0, hq0, hpos⟩ := Mt.bestMatch_never_q0_or_unmatched _ _ _ hb hne
    obtain ⟨pre, post, q, hc, hq, hpre, hpost⟩ := (Mt.bestMatch_is_first_max _ _ _ hb).1 hne
    rw [hq0] at hq; cases hq
    refine ⟨hmem, q0, hq0, hpos, fun c hc' => ?_⟩
    rw [hc] at hc'
    rcases List.mem_append.mp hc' with hx | hx
    · obtain ⟨qc, h1, h2⟩ := hpre c hx; exact ⟨qc, h1, by omega⟩
    · rcases List.mem_cons.mp hx with rfl | hx
      · exact ⟨q0, hq0, by omega⟩
      · exact hpost c hx
  · exact Or.inr hh

/-- **no rendering at all** iff the client accepts none of the offered types (every offered type has quality 0, or the header /
    a configured type is malformed: `ValueError` -> `None`) and neither `+json` nor `+xml` occurs in the lower-cased header -/
theorem serialize_none_iff (o : Opts) (hdr : Option Str) : serializeChoice o hdr = .none ↔
    (Mt.isAscii (reqAccept hdr) = true ∧
     (Mt.bestMatch (offered o) (reqAccept hdr) = .ok [] ∨ Mt.bestMatch (offered o) (reqAccept hdr) = .error .type ∨
        Mt.bestMatch (offered o) (reqAccept hdr) = .error .range) ∧
     hasSub plusJson (Mt.lower (reqAccept hdr)) = false ∧ hasSub plusXml (Mt.lower (reqAccept hdr)) = false) := by
  rw [← clientPrefers_none_iff, ← heuristic_none_iff, ← preferredOf_none_iff]
  unfold serializeChoice
  simp only
  split
  · simp_all
  · split <;> simp_all [render_ne_none]

/-- ... and when the header is well formed that means: every offered type has quality 0 for this client -/
theorem serialize_none_accepts_nothing (o : Opts) (hdr : Option Str) (m : Str) (h : serializeChoice o hdr = .none)
    (hwf : Mt.bestMatch (offered o) (reqAccept hdr) = .ok m) : ∀ c ∈ offered o, Mt.quality c (reqAccept hdr) = .ok 0 := by
  obtain ⟨_, hb, _, _⟩ := (serialize_none_iff o hdr).mp h
  rcases hb with hb | hb | hb
  · exact (Mt.bestMatch_is_first_max _ _ _ hb).2 rfl
  · rw [hwf] at hb; cases hb
  · rw [hwf] at hb; cases hb

/-- conversely, a positive quality for an offered type (all offered types being well formed) always produces a rendering -/
theorem serialize_some_if_accepted (o : Opts) (hdr : Option Str) (c : Str) (q : Nat) (hc : c ∈ offered o)
    (hq : Mt.quality c (reqAccept hdr) = .ok q) (hpos : q > 0)
    (hall : ∀ c ∈ offered o, ∃ qc, Mt.quality c (reqAccept hdr) = .ok qc) : serializeChoice o hdr ≠ .none := by
  intro h
  obtain ⟨m, hm⟩ := bestMatch_total _ _ hall
  have := serialize_none_accepts_nothing o hdr m h hm c hc
  rw [hq] at this; cases this; omega

/-- **a Content-Type without a body** happens only when XML is disabled and the preferred (non-JSON) type has no handler; with
    real handlers this is exactly the `+xml` heuristic firing while `xml_error_serialization` is off -/
theorem serialize_typeOnly_only (o : Opts) (hdr : Option Str) (ct : Str) (h : serializeChoice o hdr = .typeOnly ct) :
    o.xml = false ∧ ct ≠ JSON ∧ resolve o.handlers ct JSON = .nothing ∧
    ((∀ kv ∈ o.handlers, kv.2 = true) → STAR ∉ o.handlers.map (·.1) →
      clientPrefers (offered o) (reqAccept hdr) = .none ∧ hasSub plusJson (Mt.lower (reqAccept hdr)) = false ∧
        hasSub plusXml (Mt.lower (reqAccept hdr)) = true ∧ ct = XMLA) := by
  obtain ⟨_, m, hm, hr⟩ := serialize_is_render h (by simp) (by simp)
  rcases render_cases o m with ⟨_, e⟩ | ⟨hnj', ⟨_, e⟩ | ⟨_, e⟩ | ⟨_, _, e⟩ | ⟨hres, hx, e⟩⟩ <;> rw [e] at hr <;> cases hr
  refine ⟨hx, hnj', hres, fun htr hstar => ?_⟩
  rcases preferredOf_some hm with ⟨hb, hne⟩ | ⟨hn, hh⟩
  · have hx' := (negotiated_unresolved htr hstar hb hne hnj' hres).1
    rw [hx] at hx'; cases hx'
  · rcases heuristic_some hh with ⟨_, hj⟩ | ⟨h1, h2, h3⟩
    · exact absurd hj hnj'
    · exact ⟨hn, h1, h2, h3⟩

/-- a configured media type is used only if it is preferred, is not JSON, and a handler resolves it -/
theorem serialize_media_only_if_handler (o : Opts) (hdr : Option Str) (ct : Str) (h : serializeChoice o hdr = .media ct) :
    preferredOf o (reqAccept hdr) = .some ct ∧ ct ≠ JSON ∧ resolve o.handlers ct JSON = .handler := by
  refine ⟨serialize_ctype_preferred (by rw [h]; rfl), ?_⟩
  obtain ⟨_, m, _, hr⟩ := serialize_is_render h (by simp) (by simp)
  rcases render_cases o m with ⟨_, e⟩ | ⟨hnj, ⟨_, e⟩ | ⟨hres, e⟩ | ⟨_, _, e⟩ | ⟨_, _, e⟩⟩ <;> rw [e] at hr <;> cases hr
  exact ⟨hnj, hres⟩

/-- **the error document has exactly these fields, in this order**: `title` always; `description`, `code`, `link` iff the
    attribute is not `None` (an empty description and code 0 are kept), each with the attribute's value -/
theorem to_dict_fields_exact (e : HttpError) :
    toDict e = [(kTitle, Val.str e.title)] ++ (e.description.toList.map fun d => (kDescription, Val.str d)) ++
      (e.code.toList.map fun c => (kCode, Val.int c)) ++ (e.link.toList.map fun l => (kLink, Val.link l)) := by
  unfold toDict
  cases e.description <;> cases e.code <;> cases e.link <;> rfl

example : (toDict (mkError id 404 "404 Not Found".toList none (some []) none (some "http://x/".toList) none (some 0))).map (·.1) =
    [kTitle, kDescription, kCode, kLink] := by decide +kernel

theorem keys_opt {α : Type} (o : Option α) (k : Str) (f : α → Val) :
    ((o.toList.map fun x => (k, f x)).map (·.1)) = if o.isSome then [k] else [] := by
  cases o <;> rfl

theorem to_dict_keys (e : HttpError) :
    (toDict e).map (·.1) = [kTitle] ++ (if e.description.isSome then [kDescription] else []) ++
      (if e.code.isSome then [kCode] else []) ++ (if e.link.isSome then [kLink] else []) := by
  rw [to_dict_fields_exact, List.map_append, List.map_append, List.map_append, keys_opt, keys_opt, keys_opt]
  rfl

/-- what `__init__` stores: the title falls back to the status line exactly when it is missing or empty, the link exists exactly
    when `href` is non-empty and then carries the encoded href, `rel = help` and the given or default text -/
theorem mk_error_fields (enc : Str → Str) (status : Nat) (line : Str) (title desc : Option Str) (hs : Option (List (Str × Str)))
    (href hrefText : Option Str) (code : Option Int) :
    let e := mkError enc status line title desc hs href hrefText code
    e.status = status ∧ e.description = desc ∧ e.code = code ∧ e.headers = hs ∧
    e.title = (if title = none ∨ title = some [] then line else title.getD []) ∧
    (e.link.isSome ↔ (href ≠ none ∧ href ≠ some [])) ∧
    (∀ l, e.link = some l → l.href = enc (href.getD []) ∧ l.rel = relHelp ∧
        l.text = (if hrefText = none ∨ hrefText = some [] then defaultLinkText else hrefText.getD [])) := by
  intro e
  have pick : ∀ (o : Option Str) (d : Str),
      (match o with | some (c :: cs) => c :: cs | _ => d) = if o = none ∨ o = some [] then d else o.getD [] := by
    intro o d
    rcases o with _ | _ | ⟨c, cs⟩ <;> simp
  refine ⟨rfl, rfl, rfl, rfl, pick title line, ?_, ?_⟩
  · rcases href with _ | _ | ⟨c, cs⟩
    · exact ⟨fun h => (by cases h), fun h => absurd rfl h.1⟩
    · exact ⟨fun h => (by cases h), fun h => absurd rfl h.2⟩
    · exact ⟨fun _ => ⟨fun h => (by cases h), fun h => (by cases h)⟩, fun _ => rfl⟩
  · intro l hl
    rcases href with _ | _ | ⟨c, cs⟩
    · cases hl
    · cases hl
    · cases Option.some.inj hl
      exact ⟨rfl, rfl, pick hrefText defaultLinkText⟩

/-- overwriting in place keeps every entry's name -/
theorem replace_fst (k v : Str) (e : Str × Str) : (if e.1 == k then (k, v) else e).1 = e.1 := by
  split
  · rename_i h; exact (eq_of_beq h).symm
  · rfl

theorem find_replace (h : Headers) (k v k' : Str) :
    (h.map fun kv => if kv.1 == k then (k, v) else kv).find? (·.1 == k') =
      (h.find? (·.1 == k')).map fun kv => if kv.1 == k then (k, v) else kv := by
  rw [List.find?_map]
  exact congrArg (fun p => (List.find? p h).map _) (funext fun e => congrArg (· == k') (replace_fst k v e))

/-- `d[k] = v; d[k]` -/
theorem hfind_hset_same (h : Headers) (k v : Str) : hfind (hset h k v) k = some v := by
  unfold hset hfind
  split
  · rename_i hany
    obtain ⟨x, hx, hp⟩ := List.any_eq_true.mp hany
    rw [find_replace]
    cases hf : h.find? (·.1 == k) with
    | none => exact absurd hp (by simpa using List.find?_eq_none.mp hf x hx)
    | some y =>
      have hy : (y.1 == k) = true := @List.find?_some _ (fun e : Str × Str => e.1 == k) y h hf
      simp only [Option.map_some, hy, if_true]
  · rename_i hany
    rw [List.find?_append, List.find?_eq_none.mpr fun x hx hk => hany (List.any_eq_true.mpr ⟨x, hx, hk⟩)]
    simp only [Option.none_or, List.find?_cons, beq_self_eq_true, Option.map_some]

/-- `d[k] = v` does not change `d[k']` -/
theorem hfind_hset_other (h : Headers) (k v k' : Str) (hne : k' ≠ k) : hfind (hset h k v) k' = hfind h k' := by
  have hk : (k == k') = false := beq_false_of_ne fun e => hne e.symm
  unfold hset hfind
  split
  · rw [find_replace]
    cases hf : h.find? (·.1 == k') with
    | none => rfl
    | some y =>
      have hy : (y.1 == k') = true := @List.find?_some _ (fun e : Str × Str => e.1 == k') y h hf
      have hyk : (y.1 == k) = false := beq_false_of_ne fun e => hne ((eq_of_beq hy).symm.trans e)
      simp only [Option.map_some, hyk, Bool.false_eq_true, if_false]
  · rw [List.find?_append]
    simp only [List.find?_cons, hk, List.find?_nil, Option.or_none]
/-- names that do not occur (case-insensitively) in the argument of `set_headers` keep their value -/
theorem setHeaders_other : ∀ (hs : List (Str × Str)) (h h' : Headers) (k : Str), setHeaders h hs = some h' →
    (∀ kv ∈ hs, Mt.lower kv.1 ≠ k) → hfind h' k = hfind h k := by
  intro hs
  induction hs with
  | nil => intro h h' k he _; simp [setHeaders] at he; rw [he]
  | cons x rest ih =>
    intro h h' k he hno
    obtain ⟨name, value⟩ := x
    simp only [setHeaders] at he
    split at he
    · cases he
    · have h1 := ih _ _ k he (fun kv hkv => hno kv (List.mem_cons_of_mem _ hkv))
      rw [h1]
      exact hfind_hset_other _ _ _ _ (fun hk => hno (name, value) List.mem_cons_self hk.symm)

/-- `set_headers`: the last item for a (lower-cased) name decides its value -/
theorem setHeaders_last_wins : ∀ (pre : List (Str × Str)) (h h' : Headers) (name value : Str) (post : List (Str × Str)),
    setHeaders h (pre ++ (name, value) :: post) = some h' → (∀ kv ∈ post, Mt.lower kv.1 ≠ Mt.lower name) →
    hfind h' (Mt.lower name) = some value := by
  intro pre
  induction pre with
  | nil =>
    intro h h' name value post he hno
    simp only [List.nil_append, setHeaders] at he
    split at he
    · cases he
    · rw [setHeaders_other post _ _ _ he hno]
      exact hfind_hset_same _ _ _
  | cons x rest ih =>
    intro h h' name value post he hno
    obtain ⟨n0, v0⟩ := x
    simp only [List.cons_append, setHeaders] at he
    split at he
    · cases he
    · exact ih _ _ _ _ _ he hno

/-- `set_headers(x.headers)` where `x.headers` may be `None`: the last item per (lower-cased) name decides its value, names that
    do not occur keep theirs -/
theorem setHeaders_opt_spec {h h1 : Headers} {ohs : Option (List (Str × Str))}
    (hh1 : (match ohs with | some hs => setHeaders h hs | none => some h) = some h1) :
    (∀ hs pre name value post, ohs = some hs → hs = pre ++ (name, value) :: post →
      (∀ kv ∈ post, Mt.lower kv.1 ≠ Mt.lower name) → hfind h1 (Mt.lower name) = some value) ∧
    (∀ k, (∀ hs, ohs = some hs → ∀ kv ∈ hs, Mt.lower kv.1 ≠ k) → hfind h1 k = hfind h k) := by
  cases ohs with
  | none => cases hh1; exact ⟨fun _ _ _ _ _ he => (by cases he), fun _ _ => rfl⟩
  | some hs =>
    refine ⟨fun hs' pre name value post he hsplit hlast => ?_, fun k hno => setHeaders_other hs _ _ k hh1 (hno hs rfl)⟩
    cases he
    subst hsplit
    exact setHeaders_last_wins pre _ _ name value post hh1 hlast

/-- `set_headers` raises `HeaderNotSupported` iff some item is a Set-Cookie header -/
theorem setHeaders_none_iff : ∀ (hs : List (Str × Str)) (h : Headers),
    setHeaders h hs = none ↔ ∃ kv ∈ hs, Mt.lower kv.1 = kSetCookie := by
  intro hs
  induction hs with
  | nil => intro h; simp [setHeaders]
  | cons x rest ih =>
    intro h
    obtain ⟨name, value⟩ := x
    simp only [setHeaders]
    by_cases hc : Mt.lower name = kSetCookie
    · simp [hc]
    · have hb : (Mt.lower name == kSetCookie) = false := by simpa using hc
      simp only [hb, Bool.false_eq_true, if_false, ih, List.mem_cons, exists_eq_or_imp, hc, false_or]

theorem splitOn_ne_nil (sep : Char) (s : Str) : Mt.splitOn sep s ≠ [] := by
  induction s with
  | nil => simp [Mt.splitOn]
  | cons c cs ih =>
    simp only [Mt.splitOn]
    split
    · simp
    · split <;> simp

theorem splitOn_append_sep (sep : Char) (s : Str) : ∀ (p : Str),
    Mt.splitOn sep (p ++ sep :: s) = Mt.splitOn sep p ++ Mt.splitOn sep s := by
  intro p
  induction p with
  | nil => simp [Mt.splitOn]
  | cons c cs ih =>
    simp only [List.cons_append, Mt.splitOn]
    by_cases hc : (c == sep) = true
    · simp only [hc, if_true, ih, List.cons_append]
    · simp only [hc, Bool.false_eq_true, if_false, ih]
      cases hp : Mt.splitOn sep cs with
      | nil => exact absurd hp (splitOn_ne_nil sep cs)
      | cons a as => simp

theorem accept_token_listed (p : Str) :
    vAccept ∈ (Mt.splitOn ',' (p ++ [',', ' '] ++ vAccept)).map Mt.strip := by
  have h1 : p ++ [',', ' '] ++ vAccept = p ++ ',' :: (' ' :: vAccept) := by simp
  rw [h1, splitOn_append_sep]
  have h2 : Mt.splitOn ',' (' ' :: vAccept) = [' ' :: vAccept] := by decide
  rw [h2, List.map_append]
  apply List.mem_append_right
  have h3 : Mt.strip (' ' :: vAccept) = vAccept := by decide
  simp [h3]

/-- `append_header` is one assignment: the new value is the old one, a comma and the appended value -- or just the appended value -/
theorem appendHeader_eq (h : Headers) (name value : Str) :
    appendHeader h name value =
      hset h (Mt.lower name) (match hfind h (Mt.lower name) with | some old => old ++ [',', ' '] ++ value | none => value) := by
  unfold appendHeader
  simp only
  cases hfind h (Mt.lower name) <;> rfl

/-- `resp.content_type = ct`: only the Content-Type entry of the header dict changes -/
theorem setCtype_spec (r : Resp) (ct : Str) :
    hfind (hset r.headers kContentType ct) kVary = hfind r.headers kVary ∧
    (∀ k, k ≠ kContentType → hfind (hset r.headers kContentType ct) k = hfind r.headers k) ∧
    hfind (hset r.headers kContentType ct) kContentType = some ct :=
  ⟨hfind_hset_other _ _ _ _ (by decide), fun _ hk => hfind_hset_other _ _ _ _ hk, hfind_hset_same _ _ _⟩

theorem applyChoice_spec {r r' : Resp} {c : Choice} (h : applyChoice r c = some r') :
    r'.status = r.status ∧ hfind r'.headers kVary = hfind r.headers kVary ∧
    (∀ k, k ≠ kContentType → hfind r'.headers k = hfind r.headers k) ∧
    hfind r'.headers kContentType = (match c.ctype with | some ct => some ct | none => hfind r.headers kContentType) := by
  cases c with
  | json => cases Option.some.inj h; exact ⟨rfl, setCtype_spec r JSON⟩
  | xml ct => cases Option.some.inj h; exact ⟨rfl, setCtype_spec r ct⟩
  | media ct => cases Option.some.inj h; exact ⟨rfl, setCtype_spec r ct⟩
  | typeOnly ct => cases Option.some.inj h; exact ⟨rfl, setCtype_spec r ct⟩
  | none => cases Option.some.inj h; exact ⟨rfl, rfl, fun _ _ => rfl, rfl⟩
  | unsupported => cases h

/-- what `_compose_error_response` does, in one statement: `h1` is `resp._headers` after `set_headers(error.headers)` -/
theorem composeError_spec {o : Opts} {hdr : Option Str} {r r' : Resp} {e : HttpError} (h : composeError o hdr r e = .done r') :
    ∃ h1, (match e.headers with | some hs => setHeaders r.headers hs | none => some r.headers) = some h1 ∧
      r'.status = e.status ∧
      hfind r'.headers kVary = some (match hfind h1 kVary with | some old => old ++ [',', ' '] ++ vAccept | none => vAccept) ∧
      hfind r'.headers kContentType =
        (match (serializeChoice o hdr).ctype with | some ct => some ct | none => hfind h1 kContentType) ∧
      (∀ k, k ≠ kVary → k ≠ kContentType → hfind r'.headers k = hfind h1 k) := by
  unfold composeError at h
  simp only at h
  split at h
  · cases h
  · rename_i h1 hh1
    refine ⟨h1, hh1, ?_⟩
    split at h
    · cases h
    · rename_i r2 hr2
      cases h
      obtain ⟨hs, hv, ho, hc⟩ := applyChoice_spec hr2
      have hl : Mt.lower kVary = kVary := by decide
      simp only [appendHeader_eq, hl]
      refine ⟨hs, ?_, ?_, ?_⟩
      · rw [hfind_hset_same, hv]
      · rw [hfind_hset_other _ _ _ _ (by decide), hc]
      · intro k hk1 hk2
        rw [hfind_hset_other _ _ _ _ hk1, ho k hk2]

/-- **`Vary: Accept` is always appended**: after the default rendering of any HTTPError the `Vary` header exists, ends with the
    appended `Accept` (after whatever the response or the error's own headers put there), and `Accept` is one of its
    comma-separated members -/
theorem vary_accept_always_appended (o : Opts) (hdr : Option Str) (r r' : Resp) (e : HttpError)
    (h : composeError o hdr r e = .done r') :
    ∃ v, hfind r'.headers kVary = some v ∧ (v = vAccept ∨ ∃ p, v = p ++ [',', ' '] ++ vAccept) ∧
      vAccept ∈ (Mt.splitOn ',' v).map Mt.strip := by
  obtain ⟨h1, _, _, hv, _, _⟩ := composeError_spec h
  cases hold : hfind h1 kVary with
  | none =>
    rw [hold] at hv
    exact ⟨_, hv, Or.inl rfl, by decide⟩
  | some old =>
    rw [hold] at hv
    exact ⟨_, hv, Or.inr ⟨old, rfl⟩, accept_token_listed old⟩

/-- **an HTTPError keeps its status and headers**: the response status is the error's; every header of the error (the last item
    per case-insensitive name) is on the response, except that `Vary` gets `, Accept` appended and `Content-Type` is replaced
    when a rendering is chosen; headers the error does not mention keep the value the response already had -/
theorem httperror_status_headers_kept (o : Opts) (hdr : Option Str) (r r' : Resp) (e : HttpError)
    (h : composeError o hdr r e = .done r') :
    r'.status = e.status ∧
    (∀ hs pre name value post, e.headers = some hs → hs = pre ++ (name, value) :: post →
      (∀ kv ∈ post, Mt.lower kv.1 ≠ Mt.lower name) →
      (Mt.lower name ≠ kVary → Mt.lower name ≠ kContentType → hfind r'.headers (Mt.lower name) = some value) ∧
      (Mt.lower name = kVary → hfind r'.headers kVary = some (value ++ [',', ' '] ++ vAccept)) ∧
      (Mt.lower name = kContentType → (serializeChoice o hdr).ctype = none → hfind r'.headers kContentType = some value)) ∧
    (∀ k, k ≠ kVary → k ≠ kContentType → (∀ hs, e.headers = some hs → ∀ kv ∈ hs, Mt.lower kv.1 ≠ k) →
      hfind r'.headers k = hfind r.headers k) := by
  obtain ⟨h1, hh1, hst, hv, hct, hoth⟩ := composeError_spec h
  obtain ⟨hlw, hkeep⟩ := setHeaders_opt_spec hh1
  refine ⟨hst, ?_, ?_⟩
  · intro hs pre name value post hhs hsplit hlast
    have hval := hlw hs pre name value post hhs hsplit hlast
    refine ⟨fun n1 n2 => ?_, fun n1 => ?_, fun n1 n2 => ?_⟩
    · rw [hoth _ n1 n2]; exact hval
    · rw [n1] at hval; rw [hv, hval]
    · rw [n1] at hval; rw [hct, n2]; exact hval
  · intro k k1 k2 hno
    rw [hoth k k1 k2]
    exact hkeep k hno

/-- the only way `_compose_error_response` raises is a Set-Cookie item among the error's headers -/
theorem composeError_header_not_supported_iff (o : Opts) (hdr : Option Str) (r : Resp) (e : HttpError) :
    composeError o hdr r e = .headerNotSupported ↔ ∃ hs, e.headers = some hs ∧ ∃ kv ∈ hs, Mt.lower kv.1 = kSetCookie := by
  unfold composeError
  simp only
  cases e.headers with
  | none =>
    simp only [reduceCtorEq, false_and, exists_false, iff_false]
    split <;> simp
  | some hs =>
    simp only [Option.some.injEq, exists_eq_left', ← setHeaders_none_iff hs r.headers]
    cases setHeaders r.headers hs with
    | none => simp
    | some h1 =>
      simp only [reduceCtorEq, iff_false]
      split <;> simp

/-- **an HTTPStatus keeps its status, text and headers**: status and text are the raised object's, its headers (last item per
    name) are set, every other header keeps its value -- in particular no `Vary` is added and Content-Type is not touched -/
theorem httpstatus_text_headers_kept (r r' : Resp) (s : HttpStatus) (h : composeStatus r s = .done r') :
    r'.status = s.status ∧ r'.body = .text s.text ∧
    (∀ hs pre name value post, s.headers = some hs → hs = pre ++ (name, value) :: post →
      (∀ kv ∈ post, Mt.lower kv.1 ≠ Mt.lower name) → hfind r'.headers (Mt.lower name) = some value) ∧
    (∀ k, (∀ hs, s.headers = some hs → ∀ kv ∈ hs, Mt.lower kv.1 ≠ k) → hfind r'.headers k = hfind r.headers k) := by
  unfold composeStatus at h
  simp only at h
  split at h
  · cases h
  · rename_i h1 hh1
    cases h
    exact ⟨rfl, rfl, setHeaders_opt_spec hh1⟩

example : (match composeError { xml := true, handlers := [(JSON, true)] } (some "text/xml".toList)
      { status := 200, headers := [(kVary, "Origin".toList)], body := .untouched }
      { status := 429, title := [], description := none, headers := some [("Retry-After".toList, "5".toList)], link := none, code := none } with
    | .done r' => r'.status == 429 && hfind r'.headers kVary == some "Origin, Accept".toList &&
        hfind r'.headers "retry-after".toList == some "5".toList && hfind r'.headers kContentType == some XMLT && r'.body == .dataXml
    | _ => false) = true := by decide +kernel

example : (match composeStatus { status := 200, headers := [(kVary, "Origin".toList)], body := .untouched }
      { status := 299, headers := some [("X-A".toList, "1".toList), ("x-a".toList, "2".toList)], text := some "t".toList } with
    | .done r' => r'.status == 299 && hfind r'.headers kVary == some "Origin".toList && hfind r'.headers "x-a".toList == some "2".toList &&
        hfind r'.headers kContentType == none && r'.body == .text (some "t".toList)
    | _ => false) = true := by decide +kernel

#print axioms serialize_json_on_tie
#print axioms serialize_xml_only_if_preferred_and_enabled
#print axioms serialize_never_form_types
#print axioms serialize_none_iff
#print axioms vary_accept_always_appended
#print axioms to_dict_fields_exact
#print axioms httperror_status_headers_kept
#print axioms httpstatus_text_headers_kept
end Es
