import FalconModel.PipelineHooks
import FalconModel.PipelineErrProofs
/-! C03: the pipeline with the hook-wrapped responder and completing error handlers (`Ph.run`, FalconModel/PipelineHooks.lean).
    Part 1: the hook order (`hook_order`, `hook_called_iff`, …).  Part 2: `hooks_refine_pe` — `Ph.run` is `Pe.run` of the
    flattened configuration with the responder event replaced by the hook sub-trace.  Part 3: `resp.complete` set by an error
    handler is recorded and never consulted.  Part 4: the `Pe` / `Pl` theorems lifted to stacks with hooks. -/
namespace Ph

/-! ## Part 1: the hook order (`falcon/hooks.py`) -/

/-- the before hooks of a decorator stack, in decorator order (outermost first) -/
def befores : List Deco → List (Call × Pe.Act)
  | [] => []
  | .before k a :: rest => (.before k, a) :: befores rest
  | .after _ _ :: rest => befores rest

/-- the after hooks of a decorator stack, in decorator order (outermost first) -/
def afters : List Deco → List (Call × Pe.Act)
  | [] => []
  | .before _ _ :: rest => afters rest
  | .after k a :: rest => (.after k, a) :: afters rest

/-- **the documented order**: before hooks outermost → innermost, the responder, after hooks innermost → outermost -/
def seq (ds : List Deco) (r : Pe.Act) : List (Call × Pe.Act) := befores ds ++ (.responder, r) :: (afters ds).reverse

/-- make the calls of the list in order; an exception ends everything -/
def runSeq : List (Call × Pe.Act) → Responder
  | [], cp => ([], cp, none)
  | (c, a) :: rest, cp =>
    match callAct c a cp with
    | (t, cp1, some x) => (t, cp1, some x)
    | (t, cp1, none) => let (t2, cp2, x) := runSeq rest cp1; (t ++ t2, cp2, x)

/-- the list up to and including the first element that raises -/
def cut : List (Call × Pe.Act) → List (Call × Pe.Act)
  | [] => []
  | (c, a) :: rest => if a.raises then [(c, a)] else (c, a) :: cut rest

def evOf (p : Call × Pe.Act) : Ev := .call p.1 p.2

theorem runSeq_append (l1 l2 : List (Call × Pe.Act)) (cp : Bool) :
    runSeq (l1 ++ l2) cp =
      match runSeq l1 cp with
      | (t, cp1, some x) => (t, cp1, some x)
      | (t, cp1, none) => let (t2, cp2, x) := runSeq l2 cp1; (t ++ t2, cp2, x) := by
  induction l1 generalizing cp with
  | nil => rfl
  | cons p rest ih =>
    obtain ⟨c, _ | _ | e⟩ := p
    · simp only [List.cons_append, runSeq, callAct, ih]
      rcases runSeq rest cp with ⟨t, cp1, _ | x⟩ <;> rfl
    · simp only [List.cons_append, runSeq, callAct, ih]
      rcases runSeq rest true with ⟨t, cp1, _ | x⟩ <;> rfl
    · rfl

theorem runSeq_single (c : Call) (a : Pe.Act) : runSeq [(c, a)] = callAct c a := by
  funext cp
  cases a <;> simp [runSeq, callAct]

theorem wrapBefore_runSeq (k : Nat) (a : Pe.Act) (l : List (Call × Pe.Act)) :
    wrapBefore k a (runSeq l) = runSeq ((.before k, a) :: l) := by
  funext cp; cases a <;> simp [wrapBefore, runSeq, callAct]

theorem wrapAfter_runSeq (k : Nat) (a : Pe.Act) (l : List (Call × Pe.Act)) :
    wrapAfter k a (runSeq l) = runSeq (l ++ [(.after k, a)]) := by
  funext cp
  rw [runSeq_append, runSeq_single]
  simp only [wrapAfter]
  rcases runSeq l cp with ⟨t, cp1, _ | x⟩ <;> simp

/-- a decorator stack around any sequence of calls: its before hooks in decorator order in front, its after hooks in
    reverse decorator order behind -/
theorem decorateAll_runSeq (ds : List Deco) (mid : List (Call × Pe.Act)) :
    decorateAll ds (runSeq mid) = runSeq (befores ds ++ mid ++ (afters ds).reverse) := by
  induction ds with
  | nil => simp [decorateAll, befores, afters]
  | cons d rest ih =>
    unfold decorateAll at ih ⊢
    rw [List.foldr_cons, ih]
    cases d with
    | before k a => simp [decorate, wrapBefore_runSeq, befores, afters]
    | after k a => simp [decorate, wrapAfter_runSeq, befores, afters]

theorem befores_append (a b : List Deco) : befores (a ++ b) = befores a ++ befores b := by
  induction a with
  | nil => rfl
  | cons d rest ih => cases d <;> simp [befores, ih]

theorem afters_append (a b : List Deco) : afters (a ++ b) = afters a ++ afters b := by
  induction a with
  | nil => rfl
  | cons d rest ih => cases d <;> simp [afters, ih]

/-- **`hook_order`, part 1**: the routed responder — the method wrapped by its own decorators, wrapped again by the class-level
    ones, each wrapper being `_wrap_with_before` / `_wrap_with_after` of falcon/hooks.py — makes, whatever `resp.complete` is at
    entry and whatever any hook does to it, the calls of `seq`: before hooks outermost → innermost (class-level ones first),
    the responder, after hooks innermost → outermost (class-level ones last), up to the first one that raises -/
theorem hook_order (cfg : Cfg) : routed cfg = runSeq (seq (cfg.classHooks ++ cfg.methodHooks) cfg.responder) := by
  unfold routed seq
  rw [← runSeq_single, decorateAll_runSeq, decorateAll_runSeq, befores_append, afters_append]
  simp

theorem runSeq_trace (l : List (Call × Pe.Act)) : ∀ cp : Bool, (runSeq l cp).1 = (cut l).map evOf := by
  induction l with
  | nil => intro _; rfl
  | cons p rest ih =>
    obtain ⟨c, _ | _ | e⟩ := p <;> intro cp
    · exact congrArg (_ :: ·) (ih cp)
    · exact congrArg (_ :: ·) (ih true)
    · rfl

/-- the `j`-th element of the list is called iff none before it raises -/
theorem cut_getElem : ∀ (l : List (Call × Pe.Act)) (j : Nat),
    (cut l)[j]? = if (l.take j).all (fun p => !p.2.raises) then l[j]? else none
  | [], j => by cases j <;> rfl
  | (c, a) :: rest, 0 => by
    cases h : a.raises <;> simp only [cut, h] <;> rfl
  | (c, a) :: rest, j + 1 => by
    rw [List.take_succ_cons, List.all_cons, cut]
    cases h : a.raises
    · exact cut_getElem rest j
    · rfl

theorem cut_prefix : ∀ l : List (Call × Pe.Act), cut l <+: l
  | [] => List.prefix_refl _
  | (c, a) :: rest => by
    cases h : a.raises
    · simpa [cut, h] using (List.prefix_cons_inj (c, a)).mpr (cut_prefix rest)
    · simp [cut, h, List.prefix_cons_iff]

/-- the exception that leaves the sequence: what the first raising element raises, with that element as the site -/
def firstRaise : List (Call × Pe.Act) → Option (Site × Pe.Exc)
  | [] => none
  | (c, .raise_ e) :: _ => some (c.site, e)
  | (_, .ret) :: rest => firstRaise rest
  | (_, .complete) :: rest => firstRaise rest

theorem runSeq_exc (l : List (Call × Pe.Act)) : ∀ cp : Bool, (runSeq l cp).2.2 = firstRaise l := by
  induction l with
  | nil => intro _; rfl
  | cons p rest ih =>
    obtain ⟨c, _ | _ | e⟩ := p <;> intro cp
    · exact ih cp
    · exact ih true
    · rfl

/-- **`hook_order`, part 2**: in every run of the routed responder the `j`-th call of the documented order
    (`seq`: before hooks outermost → innermost, responder, after hooks innermost → outermost) is made — at position `j`, with
    nothing in between — iff every call before it in that order returned (completing the response counts as returning);
    the trace is that order cut right after the first raise -/
theorem hook_called_iff (cfg : Cfg) (cp : Bool) (j : Nat) :
    (routed cfg cp).1[j]? =
      if ((seq (cfg.classHooks ++ cfg.methodHooks) cfg.responder).take j).all (fun p => !p.2.raises)
      then ((seq (cfg.classHooks ++ cfg.methodHooks) cfg.responder)[j]?).map evOf else none := by
  rw [hook_order, runSeq_trace, List.getElem?_map, cut_getElem]
  split <;> simp

theorem hook_trace (cfg : Cfg) (cp : Bool) :
    (routed cfg cp).1 = (cut (seq (cfg.classHooks ++ cfg.methodHooks) cfg.responder)).map evOf := by
  rw [hook_order, runSeq_trace]

/-- the calls made are an initial part of the documented order -/
theorem hook_trace_prefix (cfg : Cfg) (cp : Bool) :
    (routed cfg cp).1 <+: (seq (cfg.classHooks ++ cfg.methodHooks) cfg.responder).map evOf := by
  rw [hook_trace]; exact List.IsPrefix.map _ (cut_prefix _)

/-- **the responder is called iff all before hooks returned** (class-level and method-level ones alike; one that marks the
    response complete has returned) -/
theorem responder_called_iff (cfg : Cfg) (cp : Bool) :
    (routed cfg cp).1[(befores (cfg.classHooks ++ cfg.methodHooks)).length]? =
      if (befores (cfg.classHooks ++ cfg.methodHooks)).all (fun p => !p.2.raises)
      then some (.call .responder cfg.responder) else none := by
  rw [hook_called_iff, seq, List.take_left, List.getElem?_append_right (Nat.le_refl _), Nat.sub_self]
  rfl

/-- **the `i`-th after hook (innermost first) is called iff all before hooks, the responder and the after hooks inside it
    returned** -/
theorem after_called_iff (cfg : Cfg) (cp : Bool) (i : Nat) (p : Call × Pe.Act)
    (hp : (afters (cfg.classHooks ++ cfg.methodHooks)).reverse[i]? = some p) :
    (routed cfg cp).1[(befores (cfg.classHooks ++ cfg.methodHooks)).length + 1 + i]? =
      if (befores (cfg.classHooks ++ cfg.methodHooks)).all (fun p => !p.2.raises) && !cfg.responder.raises &&
         ((afters (cfg.classHooks ++ cfg.methodHooks)).reverse.take i).all (fun p => !p.2.raises)
      then some (.call p.1 p.2) else none := by
  rw [hook_called_iff, seq, Nat.add_assoc, Nat.add_comm 1 i, List.take_length_add_append,
    List.getElem?_append_right (Nat.le_add_right _ _), Nat.add_sub_cancel_left, List.take_succ_cons, List.getElem?_cons_succ, hp,
    List.all_append, List.all_cons, Bool.and_assoc]
  rfl

/-! ## Part 2: refinement — `Pe.run` with the responder slot opened up -/

/-- the net effect of a sequence of calls, as one action of `Pe`: what its first raising element raises; else it marks the
    response complete if any element does; else it returns -/
def net : List (Call × Pe.Act) → Pe.Act
  | [] => .ret
  | (_, .raise_ e) :: _ => .raise_ e
  | (_, .ret) :: rest => net rest
  | (_, .complete) :: rest => match net rest with | .raise_ e => .raise_ e | _ => .complete

/-- the part of the sequence that raises first (the responder if none does) -/
def raiseSite : List (Call × Pe.Act) → Site
  | [] => .responder
  | (c, .raise_ _) :: _ => c.site
  | (_, .ret) :: rest => raiseSite rest
  | (_, .complete) :: rest => raiseSite rest

/-- the documented order of the parts of the routed responder -/
def hookSeq (cfg : Cfg) : List (Call × Pe.Act) := seq (cfg.classHooks ++ cfg.methodHooks) cfg.responder

/-- **flattening**: the configuration `Pe.run` sees — the hook-wrapped responder of a matched route is ONE responder action,
    its net effect; which handlers set `resp.complete` is forgotten -/
def flatten (cfg : Cfg) : Pe.Cfg :=
  { comps := cfg.comps, independent := cfg.independent, target := cfg.target,
    responder := match cfg.target with | .route => net (hookSeq cfg) | _ => cfg.responder }

/-- what the single `responder` event of `Pe.run` stands for: the hook/responder sub-trace in the documented order, cut at
    the first raise (a sink is a bare function: the one call) -/
def slotTrace (cfg : Cfg) (a : Pe.Act) : List Ev :=
  match cfg.target with
  | .route => (cut (hookSeq cfg)).map evOf
  | _ => [.call .responder a]

/-- the site `Pe.run` calls `responder`: the hook (or the responder proper) that raised -/
def slotSite (cfg : Cfg) : Site :=
  match cfg.target with
  | .route => raiseSite (hookSeq cfg)
  | _ => .responder

def expandSite (cfg : Cfg) : Pe.Site → Site
  | .req i => .req i | .rsrc i => .rsrc i | .responder => slotSite cfg | .defaultResponder => .defaultResponder | .resp i => .resp i

/-- an event of `Pe.run` as events of `Ph.run`: every event is itself, except that the composite `responder` call is replaced by
    the sub-trace it stands for and a handler invoked for "the responder's" error is invoked for the error of the part that raised -/
def expand (cfg : Cfg) : Pe.Ev → List Ev
  | .call (.req i) a => [.call (.req i) a]
  | .call (.rsrc i) a => [.call (.rsrc i) a]
  | .call .responder a => slotTrace cfg a
  | .call .defaultResponder a => [.call .defaultResponder a]
  | .call (.resp i h s) a => [.call (.resp i h s) a]
  | .handler s e => [.handler (expandSite cfg s) e]

def liftX (cfg : Cfg) (ce : Pe.Call × Pe.Exc) : Site × Pe.Exc := (expandSite cfg ce.1.site, ce.2)

theorem firstRaise_net (l : List (Call × Pe.Act)) :
    firstRaise l = match net l with | .raise_ e => some (raiseSite l, e) | _ => none := by
  induction l with
  | nil => rfl
  | cons p rest ih =>
    obtain ⟨c, _ | _ | e⟩ := p
    · exact ih
    · rw [firstRaise, net, raiseSite, ih]; cases net rest <;> rfl
    · rfl

theorem handle_flat (cfg : Cfg) (hc : Pe.Hb → Bool) (s : Pe.Site) (e : Pe.Exc) (cp : Bool) :
    (handle hc (expandSite cfg s) e cp).1 = (Pe.handle s e).1.flatMap (expand cfg) ∧
    (handle hc (expandSite cfg s) e cp).2.1 = (Pe.handle s e).2 := by
  rcases e with _ | _ | (_|_|_|_|_|_) <;> exact ⟨rfl, rfl⟩

theorem handle_flat_eq (cfg : Cfg) (hc : Pe.Hb → Bool) (s : Pe.Site) (e : Pe.Exc) (cp : Bool) :
    handle hc (expandSite cfg s) e cp =
      ((Pe.handle s e).1.flatMap (expand cfg), (Pe.handle s e).2, (handle hc (expandSite cfg s) e cp).2.2) :=
  Prod.ext (handle_flat cfg hc s e cp).1 (Prod.ext (handle_flat cfg hc s e cp).2 rfl)

theorem reqIndep_flat (cfg : Cfg) (l : List (Nat × Pe.Comp)) :
    reqIndep l false = ((Pe.reqIndep l).1.flatMap (expand cfg), (Pe.reqIndep l).2.1, (Pe.reqIndep l).2.2.map (liftX cfg)) := by
  induction l with
  | nil => rfl
  | cons x rest ih =>
    obtain ⟨i, c⟩ := x
    rw [reqIndep, Pe.reqIndep]
    rcases c.req with _ | _ | _ | e
    · exact ih
    · simp only [callAct, ih]; rfl
    · rfl
    · rfl

theorem rsrcLoop_flat (cfg : Cfg) (l : List (Nat × Pe.Comp)) :
    rsrcLoop l false = ((Pe.rsrcLoop l).1.flatMap (expand cfg), (Pe.rsrcLoop l).2.1, (Pe.rsrcLoop l).2.2.map (liftX cfg)) := by
  induction l with
  | nil => rfl
  | cons x rest ih =>
    obtain ⟨i, c⟩ := x
    rw [rsrcLoop, Pe.rsrcLoop]
    rcases c.rsrc with _ | _ | _ | e
    · exact ih
    · simp only [callAct, ih]; rfl
    · rfl
    · rfl

theorem reqDep_flat (cfg : Cfg) (l : List (Nat × Pe.Comp)) : ∀ cp : Bool,
    reqDep l cp = ((Pe.reqDep l cp).1.flatMap (expand cfg), (Pe.reqDep l cp).2.1, (Pe.reqDep l cp).2.2.1.map (liftX cfg),
                   (Pe.reqDep l cp).2.2.2) := by
  induction l with
  | nil => intro cp; rfl
  | cons x rest ih =>
    obtain ⟨i, c⟩ := x
    intro cp
    rw [reqDep, Pe.reqDep]
    cases cp with
    | true => simp only [if_true, ih]; rfl
    | false =>
      rcases c.req with _ | _ | _ | e
      · simp only [Bool.false_eq_true, if_false, ih]; rfl
      · simp only [Bool.false_eq_true, if_false, callAct, ih]; rfl
      · simp only [Bool.false_eq_true, if_false, callAct, ih]; rfl
      · rfl

theorem respLoop_flat_eq (cfg : Cfg) (hc : Pe.Hb → Bool) (cs : List (Nat × Pe.Comp)) (hasRes : Bool) :
    ∀ (order : List Nat) (succ : Bool) (st : Pe.Status) (cp : Bool),
    respLoop hc cs order hasRes succ st cp =
      ((Pe.respLoop cs order hasRes succ st).1.flatMap (expand cfg), (Pe.respLoop cs order hasRes succ st).2,
       (respLoop hc cs order hasRes succ st cp).2.2) := by
  intro order
  induction order with
  | nil => intro succ st cp; rfl
  | cons i rest ih =>
    intro succ st cp
    rw [respLoop, Pe.respLoop]
    generalize (cs.find? (·.1 == i)).bind (·.2.resp) = o
    rcases o with _ | _ | _ | e
    · exact ih succ st cp
    · simp only [callAct]; rw [ih]; rfl
    · simp only [callAct]; rw [ih]; rfl
    · simp only [callAct, Call.site]
      rw [show handle hc (.resp i) e cp = _ from handle_flat_eq cfg hc (.resp i) e cp]
      rcases Pe.handle (.resp i) e with ⟨t', _ | st'⟩
      · rfl
      · simp only [List.flatMap_append, List.flatMap_cons]; rw [ih]; rfl

theorem respLoop_flat (cfg : Cfg) (hc : Pe.Hb → Bool) (cs : List (Nat × Pe.Comp)) (hasRes : Bool) :
    ∀ (order : List Nat) (succ : Bool) (st : Pe.Status) (cp : Bool),
    (respLoop hc cs order hasRes succ st cp).1 = (Pe.respLoop cs order hasRes succ st).1.flatMap (expand cfg) ∧
    (respLoop hc cs order hasRes succ st cp).2.1 = (Pe.respLoop cs order hasRes succ st).2 := by
  intro order succ st cp
  rw [respLoop_flat_eq cfg]
  exact ⟨rfl, rfl⟩

/-- the responder slot: the events are the expansion of `Pe`'s one responder event, the exception is the composite's -/
theorem responderOf_flat (cfg : Cfg) (cp : Bool) :
    (responderOf cfg cp).1 = expand cfg (.call (Pe.responderOf (flatten cfg)).1 (Pe.responderOf (flatten cfg)).2) ∧
    (responderOf cfg cp).2.2 =
      (match (Pe.responderOf (flatten cfg)).2 with
       | .raise_ e => some ((Pe.responderOf (flatten cfg)).1, e) | _ => none).map (liftX cfg) := by
  obtain ⟨comps, ind, target, resp, ch, mh, hcs⟩ := cfg
  cases target with
  | route =>
    refine ⟨hook_trace _ cp, ?_⟩
    show (routed _ cp).2.2 = _
    rw [hook_order, runSeq_exc, firstRaise_net]
    show _ = Option.map (liftX _) (match net (seq (ch ++ mh) resp) with | .raise_ e => some (Pe.Call.responder, e) | _ => none)
    cases net (seq (ch ++ mh) resp) <;> rfl
  | sink => cases resp <;> exact ⟨rfl, rfl⟩
  | noMethod => exact ⟨rfl, rfl⟩
  | nothing => exact ⟨rfl, rfl⟩

theorem tryBody2_flat (cfg : Cfg) (cs : List (Nat × Pe.Comp)) (cp1 hasRes : Bool) (hcp : hasRes = true → cp1 = false) :
    (tryBody2 cfg cs cp1 hasRes).1 = (Pe.tryBody2 (flatten cfg) cs cp1 hasRes).1.flatMap (expand cfg) ∧
    (tryBody2 cfg cs cp1 hasRes).2.2 = (Pe.tryBody2 (flatten cfg) cs cp1 hasRes).2.map (liftX cfg) := by
  have key := responderOf_flat cfg false
  unfold tryBody2 Pe.tryBody2
  generalize Pe.responderOf (flatten cfg) = ca at key ⊢
  obtain ⟨c, a⟩ := ca
  obtain ⟨k1, k2⟩ := key
  -- the responder is reached, after the events `t2` of the resource loop
  have reach : ∀ t2 : List Pe.Ev,
      (t2.flatMap (expand cfg) ++ (responderOf cfg false).1 = (t2 ++ [Pe.Ev.call c a]).flatMap (expand cfg)) := by
    intro t2; rw [List.flatMap_append, List.flatMap_singleton, k1]
  cases hasRes with
  | false =>
    cases cp1 with
    | true => exact ⟨rfl, rfl⟩
    | false => exact ⟨reach [], k2⟩
  | true =>
    cases hcp rfl
    simp only [if_true, rsrcLoop_flat cfg]
    rcases Pe.rsrcLoop cs with ⟨t2, c2, x2⟩
    cases x2 with
    | some ce => exact ⟨rfl, rfl⟩
    | none =>
      cases c2 with
      | true => exact ⟨rfl, rfl⟩
      | false => exact ⟨reach t2, k2⟩

theorem afterReq_flat (cfg : Cfg) (cs : List (Nat × Pe.Comp)) (order : List Nat) (t1 : List Pe.Ev) (cp1 : Bool)
    (x1 : Option (Pe.Call × Pe.Exc)) :
    (afterReq cfg cs order (t1.flatMap (expand cfg)) cp1 (x1.map (liftX cfg))).1
      = (Pe.afterReq (flatten cfg) cs order t1 cp1 x1).1.flatMap (expand cfg) ∧
    (afterReq cfg cs order (t1.flatMap (expand cfg)) cp1 (x1.map (liftX cfg))).2.2.1
      = (Pe.afterReq (flatten cfg) cs order t1 cp1 x1).2.1.map (liftX cfg) ∧
    (afterReq cfg cs order (t1.flatMap (expand cfg)) cp1 (x1.map (liftX cfg))).2.2.2
      = (Pe.afterReq (flatten cfg) cs order t1 cp1 x1).2.2 := by
  cases x1 with
  | some ce => exact ⟨rfl, rfl, rfl⟩
  | none =>
    obtain ⟨h1, h2⟩ := tryBody2_flat cfg cs cp1 (!cp1 && (cfg.target == .route || cfg.target == .noMethod)) (by cases cp1 <;> simp)
    simp only [Option.map_none, afterReq, Pe.afterReq, List.flatMap_append]
    exact ⟨congrArg (_ ++ ·) h1, h2, rfl⟩

theorem tries_flat (cfg : Cfg) :
    (tries cfg).1 = (Pe.tries (flatten cfg)).1.flatMap (expand cfg) ∧
    (tries cfg).2.2.1 = (Pe.tries (flatten cfg)).2.1.map (liftX cfg) ∧
    (tries cfg).2.2.2 = (Pe.tries (flatten cfg)).2.2 := by
  unfold tries Pe.tries
  have e1 : (flatten cfg).independent = cfg.independent := rfl
  have e2 : (flatten cfg).comps = cfg.comps := rfl
  have e3 : Pe.enum cfg.comps = enum cfg.comps := rfl
  rw [e1, e2, e3]
  cases cfg.independent with
  | true =>
    simp only [if_true, reqIndep_flat cfg]
    exact afterReq_flat cfg _ _ _ _ _
  | false =>
    simp only [Bool.false_eq_true, if_false, reqDep_flat cfg]
    exact afterReq_flat cfg _ _ _ _ _

/-- **`hooks_refine_pe`**: the run with the hook-wrapped responder spelled out and `resp.complete` threaded through every
    callee and every error handler is `Pe.run` of the flattened configuration (the routed responder replaced by its net
    effect) in which the one `responder` event is replaced by the hook/responder sub-trace — `cut (hookSeq cfg)`: documented
    order, cut at the first raise — and the handler invoked for "the responder's" error is invoked with the hook that raised as
    site; every other event, and the outcome (status or escape), are identical -/
theorem hooks_refine_pe (cfg : Cfg) :
    (run cfg).1 = (Pe.run (flatten cfg)).1.flatMap (expand cfg) ∧ (run cfg).2.1 = (Pe.run (flatten cfg)).2 := by
  obtain ⟨h1, h2, h3⟩ := tries_flat cfg
  simp only [run, Pe.run, h1, h2, h3]
  generalize (tries cfg).2.1 = cp
  rcases Pe.tries (flatten cfg) with ⟨pre', x', hasRes, order⟩
  cases x' with
  | none =>
    simp only [Option.map_none, Pe.exceptClause]
    rw [respLoop_flat_eq cfg]
    exact ⟨List.flatMap_append.symm, rfl⟩
  | some ce =>
    obtain ⟨c, e⟩ := ce
    simp only [Option.map_some, liftX, Pe.exceptClause]
    rw [handle_flat_eq cfg]
    rcases Pe.handle c.site e with ⟨h', _ | st⟩
    · exact ⟨List.flatMap_append.symm, rfl⟩
    · simp only [List.flatMap_append]
      rw [respLoop_flat_eq cfg]
      exact ⟨rfl, rfl⟩

/-! ## Part 3: `resp.complete` set by an error handler (and by hooks) -/

theorem expand_hc (cfg : Cfg) (hc' : Pe.Hb → Bool) : expand { cfg with handlerCompletes := hc' } = expand cfg := by
  funext ev
  cases ev with
  | call c a => cases c <;> rfl
  | handler s e => cases s <;> rfl

/-- **an error handler that sets `resp.complete = True` changes nothing in what follows**: whichever handlers do so, the
    calls made, the handler invocations and the outcome (status / escape) are the same — on both stacks no statement that
    runs after an `except` clause of `__call__` reads `resp.complete` -/
theorem handler_complete_inert (cfg : Cfg) (hc' : Pe.Hb → Bool) :
    (run { cfg with handlerCompletes := hc' }).1 = (run cfg).1 ∧
    (run { cfg with handlerCompletes := hc' }).2.1 = (run cfg).2.1 := by
  have h1 := hooks_refine_pe { cfg with handlerCompletes := hc' }
  have h2 := hooks_refine_pe cfg
  have e : flatten { cfg with handlerCompletes := hc' } = flatten cfg := rfl
  rw [expand_hc, e] at h1
  exact ⟨h1.1.trans h2.1.symm, h1.2.trans h2.2.symm⟩

/-- the events that execute `resp.complete = True`: a callee that does, or the invocation of an application error handler
    that does -/
def Ev.setsComplete (hc : Pe.Hb → Bool) : Ev → Bool
  | .call _ .complete => true
  | .handler _ (.app .sets) => hc .sets
  | .handler _ (.app .raisesHttp) => hc .raisesHttp
  | .handler _ (.app .raisesStatus) => hc .raisesStatus
  | .handler _ (.app .raisesPlain) => hc .raisesPlain
  | _ => false

theorem callAct_cp (hc : Pe.Hb → Bool) (c : Call) (a : Pe.Act) (cp : Bool) :
    (callAct c a cp).2.1 = (cp || (callAct c a cp).1.any (Ev.setsComplete hc)) := by
  cases a <;> simp [callAct, Ev.setsComplete]

theorem runSeq_cp (hc : Pe.Hb → Bool) (l : List (Call × Pe.Act)) : ∀ cp : Bool,
    (runSeq l cp).2.1 = (cp || (runSeq l cp).1.any (Ev.setsComplete hc)) := by
  induction l with
  | nil => intro cp; exact (Bool.or_false cp).symm
  | cons p rest ih =>
    obtain ⟨c, _ | _ | e⟩ := p <;> intro cp
    · exact ih cp
    · exact (ih true).trans (by cases cp <;> rfl)
    · exact (Bool.or_false cp).symm

theorem handle_cp (hc : Pe.Hb → Bool) (s : Site) (e : Pe.Exc) (cp : Bool) :
    (handle hc s e cp).2.2 = (cp || (handle hc s e cp).1.any (Ev.setsComplete hc)) := by
  have plain := (Bool.or_false cp).symm
  have app : ∀ b : Bool, (cp || b) = (cp || (b || false)) := fun b => congrArg (cp || ·) (Bool.or_false b).symm
  rcases e with _ | _ | (_|_|_|_|_|_)
  · exact plain
  · exact plain
  · exact app _
  · exact plain
  · exact app _
  · exact app _
  · exact app _
  · exact plain

theorem reqIndep_cp (hc : Pe.Hb → Bool) (l : List (Nat × Pe.Comp)) : ∀ cp : Bool,
    (reqIndep l cp).2.1 = (cp || (reqIndep l cp).1.any (Ev.setsComplete hc)) := by
  induction l with
  | nil => intro cp; exact (Bool.or_false cp).symm
  | cons x rest ih =>
    obtain ⟨i, c⟩ := x
    intro cp
    rw [reqIndep]
    rcases c.req with _ | _ | _ | e
    · exact ih cp
    · cases cp
      · exact ih false
      · rfl
    · exact (Bool.or_true cp).symm
    · exact (Bool.or_false cp).symm

theorem rsrcLoop_cp (hc : Pe.Hb → Bool) (l : List (Nat × Pe.Comp)) : ∀ cp : Bool,
    (rsrcLoop l cp).2.1 = (cp || (rsrcLoop l cp).1.any (Ev.setsComplete hc)) := by
  induction l with
  | nil => intro cp; exact (Bool.or_false cp).symm
  | cons x rest ih =>
    obtain ⟨i, c⟩ := x
    intro cp
    rw [rsrcLoop]
    rcases c.rsrc with _ | _ | _ | e
    · exact ih cp
    · cases cp
      · exact ih false
      · rfl
    · exact (Bool.or_true cp).symm
    · exact (Bool.or_false cp).symm

theorem reqDep_cp (hc : Pe.Hb → Bool) (l : List (Nat × Pe.Comp)) : ∀ cp : Bool,
    (reqDep l cp).2.1 = (cp || (reqDep l cp).1.any (Ev.setsComplete hc)) := by
  induction l with
  | nil => intro cp; exact (Bool.or_false cp).symm
  | cons x rest ih =>
    obtain ⟨i, c⟩ := x
    intro cp
    rw [reqDep]
    cases cp with
    | true => exact ih true
    | false =>
      rcases c.req with _ | _ | _ | e
      · exact ih false
      · exact ih false
      · exact ih true
      · rfl

theorem respLoop_cp (hc : Pe.Hb → Bool) (cs : List (Nat × Pe.Comp)) (hasRes : Bool) :
    ∀ (order : List Nat) (succ : Bool) (st : Pe.Status) (cp : Bool),
    (respLoop hc cs order hasRes succ st cp).2.2 = (cp || (respLoop hc cs order hasRes succ st cp).1.any (Ev.setsComplete hc)) := by
  intro order
  induction order with
  | nil => intro succ st cp; exact (Bool.or_false cp).symm
  | cons i rest ih =>
    intro succ st cp
    rw [respLoop]
    generalize (cs.find? (·.1 == i)).bind (·.2.resp) = o
    rcases o with _ | _ | _ | e
    · exact ih succ st cp
    · exact ih succ st cp
    · exact (ih succ st true).trans (by cases cp <;> rfl)
    · have hh := handle_cp hc (.resp i) e cp
      simp only [callAct, Call.site]
      generalize handle hc (.resp i) e cp = r at hh ⊢
      obtain ⟨t, o, cp2⟩ := r
      dsimp only at hh
      subst hh
      cases o with
      | none => exact congrArg (cp || ·) (Bool.false_or _).symm
      | some st' => simp [Ev.setsComplete, ih false st', Bool.or_assoc]

theorem responderOf_cp (hc : Pe.Hb → Bool) (cfg : Cfg) (cp : Bool) :
    (responderOf cfg cp).2.1 = (cp || (responderOf cfg cp).1.any (Ev.setsComplete hc)) := by
  unfold responderOf
  cases cfg.target with
  | route => simp only [hook_order]; exact runSeq_cp hc _ cp
  | sink => exact callAct_cp hc _ _ cp
  | noMethod => exact callAct_cp hc _ _ cp
  | nothing => exact callAct_cp hc _ _ cp

theorem tryBody2_cp (hc : Pe.Hb → Bool) (cfg : Cfg) (cs : List (Nat × Pe.Comp)) (cp1 hasRes : Bool) :
    (tryBody2 cfg cs cp1 hasRes).2.1 = (cp1 || (tryBody2 cfg cs cp1 hasRes).1.any (Ev.setsComplete hc)) := by
  unfold tryBody2
  have h1 : (if hasRes = true then rsrcLoop cs cp1 else ([], cp1, none)).2.1
      = (cp1 || (if hasRes = true then rsrcLoop cs cp1 else ([], cp1, none)).1.any (Ev.setsComplete hc)) := by
    cases hasRes
    · simp
    · simpa using rsrcLoop_cp hc cs cp1
  generalize (if hasRes = true then rsrcLoop cs cp1 else ([], cp1, none)) = r at h1 ⊢
  obtain ⟨t2, cp2, x2⟩ := r
  dsimp only at h1
  subst h1
  cases x2 with
  | some x => simp
  | none =>
    have h3 := responderOf_cp hc cfg (cp1 || t2.any (Ev.setsComplete hc))
    dsimp only
    split
    · rfl
    · simp [h3, Bool.or_assoc]

theorem tries_cp (cfg : Cfg) (hc : Pe.Hb → Bool) : (tries cfg).2.1 = (tries cfg).1.any (Ev.setsComplete hc) := by
  have key : ∀ (order : List Nat) (t1 : List Ev) (cp1 : Bool) (x1 : Option (Site × Pe.Exc)), cp1 = t1.any (Ev.setsComplete hc) →
      (afterReq cfg (enum cfg.comps) order t1 cp1 x1).2.1 = (afterReq cfg (enum cfg.comps) order t1 cp1 x1).1.any (Ev.setsComplete hc) := by
    intro order t1 cp1 x1 h
    cases x1 with
    | some x => simpa [afterReq] using h
    | none =>
      have := tryBody2_cp hc cfg (enum cfg.comps) cp1 (!cp1 && (cfg.target == .route || cfg.target == .noMethod))
      simp only [afterReq, List.any_append]
      rw [this, h]
  unfold tries
  cases cfg.independent with
  | true =>
    simp only [if_true]
    exact key _ _ _ _ (by simpa using reqIndep_cp hc (enum cfg.comps) false)
  | false =>
    simp only [Bool.false_eq_true, if_false]
    exact key _ _ _ _ (by simpa using reqDep_cp hc (enum cfg.comps) false)

/-- **… but it is recorded**: the final value of `resp.complete` is true iff some callee that ran (middleware method, hook,
    responder) or some application error handler that was invoked executed `resp.complete = True` -/
theorem final_complete_eq (cfg : Cfg) : (run cfg).2.2 = (run cfg).1.any (Ev.setsComplete cfg.handlerCompletes) := by
  simp only [run, tries_cp cfg cfg.handlerCompletes]
  split
  · simp only [respLoop_cp cfg.handlerCompletes, List.any_append]
  · next s e _ =>
    have hh := handle_cp cfg.handlerCompletes s e ((tries cfg).1.any (Ev.setsComplete cfg.handlerCompletes))
    split
    · next h cp' heq =>
      rw [heq] at hh
      simpa only [List.any_append] using hh
    · next h st cp' heq =>
      rw [heq] at hh
      dsimp only at hh
      subst hh
      simp only [respLoop_cp cfg.handlerCompletes, List.any_append, Bool.or_assoc]

/-! ## Part 4: the theorems about `Pe.run` / `Pl.run`, lifted to stacks with hooks -/

/-- the composite responder event of `Pe.run (flatten cfg)` carries the composite action -/
theorem responder_label (cfg : Cfg) (a : Pe.Act) (h : Pe.Ev.call .responder a ∈ (Pe.run (flatten cfg)).1) :
    a = (flatten cfg).responder := by
  have := Pe.labels_correct (flatten cfg) .responder a h
  simp only [Pe.actAt] at this
  split at this
  · injection this with this; exact this.symm
  · cases this

theorem net_raise_iff : ∀ (l : List (Call × Pe.Act)) (e : Pe.Exc), net l = .raise_ e ↔ ∃ c, (c, Pe.Act.raise_ e) ∈ cut l := by
  intro l e
  induction l with
  | nil => simp [net, cut]
  | cons p rest ih =>
    obtain ⟨c, _ | _ | e'⟩ := p
    · simp [net, cut, Pe.Act.raises, ih]
    · cases hn : net rest <;> simp [net, cut, Pe.Act.raises, ← ih, hn]
    · simp [net, cut, Pe.Act.raises, eq_comm]

/-- the call of `Ph` that a call of `Pe` stands for, unless it is the routed responder -/
def liftCall : Pe.Call → Call
  | .req i => .req i | .rsrc i => .rsrc i | .responder => .responder | .defaultResponder => .defaultResponder
  | .resp i h s => .resp i h s

theorem expand_call (cfg : Cfg) (c : Pe.Call) (a : Pe.Act) (h : ¬ (c = .responder ∧ cfg.target = .route)) :
    expand cfg (.call c a) = [.call (liftCall c) a] ∧ expandSite cfg c.site = (liftCall c).site := by
  cases c with
  | responder =>
    simp only [expand, slotTrace, expandSite, slotSite, Pe.Call.site]
    cases ht : cfg.target with
    | route => exact absurd ⟨rfl, ht⟩ h
    | _ => exact ⟨rfl, rfl⟩
  | _ => exact ⟨rfl, rfl⟩

theorem mem_expand_raise (cfg : Cfg) (c : Pe.Call) (a : Pe.Act) (hl : c = .responder → a = (flatten cfg).responder) (e : Pe.Exc) :
    (∃ c', Ev.call c' (.raise_ e) ∈ expand cfg (.call c a)) ↔ a = .raise_ e := by
  by_cases hr : c = .responder ∧ cfg.target = .route
  · obtain ⟨rfl, ht⟩ := hr
    have hl := hl rfl
    simp only [flatten, ht] at hl
    simp only [expand, slotTrace, ht]
    rw [hl, net_raise_iff]
    simp [evOf]
  · rw [(expand_call cfg c a hr).1]
    exact ⟨fun ⟨_, h⟩ => (by cases h with | head => rfl | tail _ h => nomatch h), fun h => ⟨liftCall c, h ▸ List.Mem.head _⟩⟩

/-- **escape iff** (lifted `Pe.escape_iff`): the request escapes iff some call that was actually made — a hook included —
    raised an error that has no handler or whose handler raised a plain exception -/
theorem escape_iff (cfg : Cfg) :
    (run cfg).2.1 = .escaped ↔ ∃ c e, Ev.call c (.raise_ e) ∈ (run cfg).1 ∧ (e = .app .none ∨ e = .app .raisesPlain) := by
  obtain ⟨h1, h2⟩ := hooks_refine_pe cfg
  rw [h1, h2, Pe.escape_iff]
  constructor
  · rintro ⟨c, e, hm, he⟩
    obtain ⟨c', hc'⟩ := (mem_expand_raise cfg c (.raise_ e) (fun hc => responder_label cfg _ (hc ▸ hm)) e).mpr rfl
    exact ⟨c', e, List.mem_flatMap.mpr ⟨_, hm, hc'⟩, he⟩
  · rintro ⟨c', e, hm, he⟩
    obtain ⟨pev, hp, hin⟩ := List.mem_flatMap.mp hm
    cases pev with
    | handler s e' => simp [expand] at hin
    | call c a =>
      have := (mem_expand_raise cfg c a (fun hc => responder_label cfg _ (hc ▸ hp)) e).mp ⟨c', hin⟩
      subst this
      exact ⟨c, e, hp, he⟩

/-- the calls into the application: handler invocations and falcon's own 404/405 responder left out -/
def callOf : Ev → Option Call
  | .call .defaultResponder _ => none
  | .call c _ => some c
  | .handler _ _ => none
def calls (t : List Ev) : List Call := t.filterMap callOf

/-- a call of the documented discipline (`Pl.specTrace`) as calls of the stack with hooks: the responder of a matched
    route is its hooks and itself in the documented order, cut at the first raise -/
def expandPl (cfg : Cfg) : Pl.Call → List Call
  | .req i => [.req i]
  | .rsrc i => [.rsrc i]
  | .resp i h s => [.resp i h s]
  | .responder => match cfg.target with
    | .route => (cut (hookSeq cfg)).map (·.1)
    | _ => [.responder]

/-- the calls the routed responder consists of -/
def Call.inSlot : Call → Bool
  | .before _ | .responder | .after _ => true
  | _ => false

theorem befores_inSlot (ds : List Deco) : ∀ p ∈ befores ds, p.1.inSlot = true := by
  induction ds with
  | nil => intro p h; cases h
  | cons d rest ih =>
    cases d with
    | before k a => exact List.forall_mem_cons.mpr ⟨rfl, ih⟩
    | after k a => exact ih

theorem afters_inSlot (ds : List Deco) : ∀ p ∈ afters ds, p.1.inSlot = true := by
  induction ds with
  | nil => intro p h; cases h
  | cons d rest ih =>
    cases d with
    | before k a => exact ih
    | after k a => exact List.forall_mem_cons.mpr ⟨rfl, ih⟩

theorem hookSeq_inSlot (cfg : Cfg) : ∀ p ∈ cut (hookSeq cfg), p.1.inSlot = true := by
  intro p hp
  rcases List.mem_append.mp ((cut_prefix _).subset hp) with h | h
  · exact befores_inSlot _ p h
  · rcases List.mem_cons.mp h with rfl | h
    · rfl
    · exact afters_inSlot _ p (List.mem_reverse.mp h)

theorem calls_evOf (l : List (Call × Pe.Act)) (h : ∀ p ∈ l, p.1.inSlot = true) : calls (l.map evOf) = l.map (·.1) := by
  induction l with
  | nil => rfl
  | cons p rest ih =>
    have h1 := h p List.mem_cons_self
    have ih := ih (fun q hq => h q (List.mem_cons_of_mem _ hq))
    unfold calls at ih ⊢
    obtain ⟨c, a⟩ := p
    rw [List.map_cons, List.map_cons, List.filterMap_cons, ih]
    cases c <;> first | rfl | cases h1

theorem calls_expand (cfg : Cfg) (t : List Pe.Ev) : calls (t.flatMap (expand cfg)) = (Pe.proj t).flatMap (expandPl cfg) := by
  induction t with
  | nil => rfl
  | cons ev rest ih =>
    unfold calls at ih ⊢
    rw [List.flatMap_cons, List.filterMap_append, ih, Pe.proj_cons, List.flatMap_append]
    congr 1
    cases ev with
    | handler s e => rfl
    | call c a =>
      cases c with
      | req i => rfl
      | rsrc i => rfl
      | defaultResponder => rfl
      | resp i h s => rfl
      | responder =>
        simp only [expand, slotTrace, Pe.projEv, Option.toList_some, List.flatMap_cons, List.flatMap_nil, List.append_nil, expandPl]
        cases cfg.target with
        | route => exact calls_evOf _ (hookSeq_inSlot cfg)
        | sink => rfl
        | noMethod => rfl
        | nothing => rfl

theorem prefix_flatMap {α β : Type} (f : α → List β) {a b : List α} (h : a <+: b) : a.flatMap f <+: b.flatMap f := by
  obtain ⟨c, rfl⟩ := h
  rw [List.flatMap_append]
  exact List.prefix_append _ _

/-- **the whole sequence of calls equals the documented discipline** (lifted `Pl.run_eq_spec` through `Pe.run_refines_Pl`):
    whenever no exception leaves `__call__`, the calls the framework makes are `Pl.specTrace` of the flattened configuration
    — request methods top-down until one completes or raises, resource methods only after a route match, the responder only
    if nothing completed or raised, response methods bottom-up once each with the success flag — in which the responder of a
    matched route is replaced by its hook sub-trace -/
theorem calls_eq_spec (cfg : Cfg) (h : (run cfg).2.1 ≠ .escaped) :
    calls (run cfg).1 = (Pl.specTrace (Pe.absCfg (flatten cfg))).flatMap (expandPl cfg) := by
  obtain ⟨h1, h2⟩ := hooks_refine_pe cfg
  rw [h1, calls_expand, Pe.run_eq_specTrace _ (h2 ▸ h)]

/-- … and when one does, they are an initial part of it -/
theorem calls_prefix_spec (cfg : Cfg) :
    calls (run cfg).1 <+: (Pl.specTrace (Pe.absCfg (flatten cfg))).flatMap (expandPl cfg) := by
  rw [(hooks_refine_pe cfg).1, calls_expand, ← Pl.run_eq_spec]
  exact prefix_flatMap _ (Pe.run_prefix_Pl _)

def respIdx : Call → Option Nat
  | .resp i _ _ => some i
  | _ => none

theorem respIdx_cut (cfg : Cfg) : ((cut (hookSeq cfg)).map (·.1)).filterMap respIdx = [] := by
  rw [List.filterMap_eq_nil_iff]
  intro c hc
  obtain ⟨p, hp, rfl⟩ := List.mem_map.mp hc
  have := hookSeq_inSlot cfg p hp
  cases h : p.1 <;> first | rfl | (rw [h] at this; cases this)

theorem respIdx_expandPl (cfg : Cfg) (t : List Pl.Call) :
    (t.flatMap (expandPl cfg)).filterMap respIdx = t.filterMap Pl.respIdx := by
  induction t with
  | nil => rfl
  | cons c rest ih =>
    rw [List.flatMap_cons, List.filterMap_append, ih, List.filterMap_cons]
    cases c with
    | req i => rfl
    | rsrc i => rfl
    | resp i h s => rfl
    | responder =>
      simp only [expandPl, Pl.respIdx]
      cases cfg.target with
      | route => rw [respIdx_cut]; rfl
      | sink => rfl
      | noMethod => rfl
      | nothing => rfl

/-- **independent mode, with hooks** (lifted `Pl.independent_resp_once`): whatever the middleware methods, the hooks and the
    responder do — short of an exception leaving `__call__` — every component that defines `process_response` has it called
    exactly once, in reverse registration order -/
theorem independent_resp_once (cfg : Cfg) (hi : cfg.independent = true) (h : (run cfg).2.1 ≠ .escaped) :
    (calls (run cfg).1).filterMap respIdx = (((enum cfg.comps).filter (·.2.resp.isSome)).map (·.1)).reverse := by
  obtain ⟨h1, h2⟩ := hooks_refine_pe cfg
  rw [h1, calls_expand, Pe.run_refines_Pl _ (h2 ▸ h), respIdx_expandPl, Pl.independent_resp_once _ hi]
  show (((Pl.enum (cfg.comps.map Pe.absComp)).filter (·.2.resp.isSome)).map (·.1)).reverse = _
  rw [Pe.enum_abs, Pe.order_abs]
  rfl

/-- **dependent mode, with hooks** (lifted `Pl.dependent_resp_stack`): the `process_response` calls are exactly the components
    before the first `process_request` that ran and raised, once each, in reverse order, whatever hooks and responder do -/
theorem dependent_resp_stack (cfg : Cfg) (hd : cfg.independent = false) (h : (run cfg).2.1 ≠ .escaped) :
    (calls (run cfg).1).filterMap respIdx =
      (((Pl.reached (Pe.absL (enum cfg.comps)) false).filter (·.2.resp.isSome)).map (·.1)).reverse := by
  obtain ⟨h1, h2⟩ := hooks_refine_pe cfg
  rw [h1, calls_expand, Pe.run_refines_Pl _ (h2 ▸ h), respIdx_expandPl, Pl.dependent_resp_stack _ hd]
  show (((Pl.reached (Pl.enum (cfg.comps.map Pe.absComp)) false).filter (·.2.resp.isSome)).map (·.1)).reverse = _
  rw [Pe.enum_abs]
  rfl

def Ev.raises : Ev → Bool | .call _ (.raise_ _) => true | _ => false
def Ev.isResp : Ev → Bool | .call (.resp ..) _ => true | _ => false

/-- every `process_response` call in the list carries the flag "nothing raised so far", starting from `ok` -/
def FlagsOk : Bool → List Ev → Prop
  | _, [] => True
  | ok, ev :: rest => (∀ i h s a, ev = .call (.resp i h s) a → s = ok) ∧ FlagsOk (ok && !ev.raises) rest

theorem FlagsOk_block (blk rest : List Ev) : ∀ ok : Bool, blk.all (fun ev => !ev.isResp) = true →
    (FlagsOk ok (blk ++ rest) ↔ FlagsOk (ok && !blk.any Ev.raises) rest) := by
  induction blk with
  | nil => intro ok _; rw [List.any_nil, Bool.not_false, Bool.and_true]; rfl
  | cons ev blk ih =>
    intro ok h
    rw [List.all_cons, Bool.and_eq_true] at h
    rw [List.any_cons, Bool.not_or, ← Bool.and_assoc, ← ih _ h.2]
    refine ⟨fun h' => h'.2, fun h' => ⟨?_, h'⟩⟩
    intro i hh s a he
    rw [he] at h
    cases h.1

theorem raises_cut (l : List (Call × Pe.Act)) : ((cut l).map evOf).any Ev.raises = (net l).raises := by
  induction l with
  | nil => rfl
  | cons p rest ih =>
    obtain ⟨c, _ | _ | e⟩ := p
    · exact ih
    · rw [net]; refine ih.trans ?_; cases net rest <;> rfl
    · rfl

theorem isResp_cut (cfg : Cfg) : ((cut (hookSeq cfg)).map evOf).all (fun ev => !ev.isResp) = true := by
  rw [List.all_eq_true]
  intro ev hev
  obtain ⟨⟨c, a⟩, hp, rfl⟩ := List.mem_map.mp hev
  have := hookSeq_inSlot cfg _ hp
  cases c <;> first | rfl | cases this

theorem FlagsOk_expand (cfg : Cfg) (t : List Pe.Ev) :
    ∀ ok : Bool, (∀ a, Pe.Ev.call .responder a ∈ t → a = (flatten cfg).responder) → Pe.FlagsOk ok t →
      FlagsOk ok (t.flatMap (expand cfg)) := by
  induction t with
  | nil => intros; trivial
  | cons pev rest ih =>
    intro ok hl hf
    have ih := ih (ok && !pev.raises) (fun a ha => hl a (List.mem_cons_of_mem _ ha)) hf.2
    rw [List.flatMap_cons]
    cases pev with
    | handler s e => exact ⟨nofun, ih⟩
    | call c a =>
      by_cases hr : c = .responder ∧ cfg.target = .route
      · obtain ⟨rfl, ht⟩ := hr
        -- the hook sub-trace holds no `process_response` call and raises iff the composite responder does
        simp only [expand, slotTrace, ht]
        rw [FlagsOk_block _ _ _ (isResp_cut cfg), raises_cut]
        have hl := hl a List.mem_cons_self
        simp only [flatten, ht] at hl
        rw [← hl]
        exact (show (Pe.Ev.call .responder a).raises = a.raises by cases a <;> rfl) ▸ ih
      · rw [(expand_call cfg c a hr).1]
        refine ⟨fun i h s a' he => ?_, ?_⟩
        · injection he with hc _
          cases c <;> cases hc
          exact hf.1 i h s a rfl
        · exact (show (Ev.call (liftCall c) a).raises = (Pe.Ev.call c a).raises by cases a <;> rfl) ▸ ih

theorem run_flags (cfg : Cfg) : FlagsOk true (run cfg).1 := by
  rw [(hooks_refine_pe cfg).1]
  exact FlagsOk_expand cfg _ true (fun a ha => responder_label cfg a ha) (Pe.run_flags _)

theorem FlagsOk_at (t : List Ev) : ∀ (ok : Bool) (k : Nat) (i : Nat) (h s : Bool) (a : Pe.Act), FlagsOk ok t →
    t[k]? = some (.call (.resp i h s) a) → s = (ok && (t.take k).all (fun ev => !ev.raises)) := by
  induction t with
  | nil => intro _ _ _ _ _ _ _ he; simp at he
  | cons ev rest ih =>
    intro ok k i h s a hf he
    cases k with
    | zero =>
      rw [List.getElem?_cons_zero, Option.some.injEq] at he
      rw [hf.1 i h s a he, List.take_zero, List.all_nil, Bool.and_true]
    | succ k =>
      rw [List.getElem?_cons_succ] at he
      rw [ih _ k i h s a hf.2 he, List.take_succ_cons, List.all_cons, Bool.and_assoc]

/-- **the success flag is true exactly when nothing raised, hooks included** (lifted `Pe.succeeded_iff_nothing_raised`): at
    whatever position a `process_response` call stands in the trace, its `req_succeeded` argument is true iff no earlier call
    — request / resource method, before hook, responder, after hook, falcon's 404/405 responder, an earlier
    `process_response` — raised, handled or not -/
theorem succeeded_iff_nothing_raised (cfg : Cfg) (k i : Nat) (h s : Bool) (a : Pe.Act)
    (he : (run cfg).1[k]? = some (.call (.resp i h s) a)) :
    s = ((run cfg).1.take k).all (fun ev => !ev.raises) := by
  simpa using FlagsOk_at _ true k i h s a (run_flags cfg) he

def Ev.isCall : Ev → Bool | .call .. => true | .handler .. => false

/-- what `_handle_exception` invokes for what a call raised: nothing if the call does not raise or no handler exists for the
    error, else exactly one handler event carrying that error and the site of that very call -/
def Ev.hEvents : Ev → List Ev
  | .call c (.raise_ e) => if e = .app .none then [] else [.handler c.site e]
  | _ => []

/-- the trace is its calls with, right after each call, the handler invocation that belongs to it -/
def WH (t : List Ev) : Prop := t = (t.filter Ev.isCall).flatMap (fun ev => ev :: ev.hEvents)

theorem WH_append {a b : List Ev} (ha : WH a) (hb : WH b) : WH (a ++ b) := by
  unfold WH at *
  rw [List.filter_append, List.flatMap_append, ← ha, ← hb]

theorem WH_flatMap {α : Type} (f : α → List Ev) : ∀ l : List α, (∀ x ∈ l, WH (f x)) → WH (l.flatMap f)
  | [], _ => rfl
  | x :: rest, h => by
    rw [List.flatMap_cons]
    exact WH_append (h x List.mem_cons_self) (WH_flatMap f rest (fun y hy => h y (List.mem_cons_of_mem _ hy)))

theorem WH_quiet (c : Call) (a : Pe.Act) (h : a.raises = false) : WH [.call c a] := by
  cases a with
  | raise_ e => cases h
  | ret => rfl
  | complete => rfl

theorem WH_raise (c : Call) (e : Pe.Exc) : WH (.call c (.raise_ e) :: (if e = .app .none then [] else [.handler c.site e])) := by
  by_cases h : e = .app .none
  · subst h; rfl
  · rw [if_neg h]
    exact congrArg (_ :: ·) (by rw [Ev.hEvents, if_neg h]; rfl)

/-- the handler events that follow the routed responder -/
def slotHandler (l : List (Call × Pe.Act)) : List Ev :=
  match net l with
  | .raise_ e => if e = .app .none then [] else [.handler (raiseSite l) e]
  | _ => []

theorem WH_cut (l : List (Call × Pe.Act)) : WH ((cut l).map evOf ++ slotHandler l) := by
  induction l with
  | nil => rfl
  | cons p rest ih =>
    obtain ⟨c, _ | _ | e⟩ := p
    · exact @WH_append [.call c .ret] _ (WH_quiet c .ret rfl) ih
    · have e : slotHandler ((c, .complete) :: rest) = slotHandler rest := by
        simp only [slotHandler, net, raiseSite]
        cases net rest <;> rfl
      rw [e]
      exact @WH_append [.call c .complete] _ (WH_quiet c .complete rfl) ih
    · exact WH_raise c e

theorem WH_expand_block (cfg : Cfg) (pev : Pe.Ev) (hc : pev.isCall = true)
    (hl : ∀ a, pev = .call .responder a → a = (flatten cfg).responder) :
    WH ((pev :: pev.hEvents).flatMap (expand cfg)) := by
  cases pev with
  | handler s e => cases hc
  | call c a =>
    rw [List.flatMap_cons]
    by_cases hr : c = .responder ∧ cfg.target = .route
    · obtain ⟨rfl, ht⟩ := hr
      have hl := hl a rfl
      simp only [flatten, ht] at hl
      subst hl
      have := WH_cut (hookSeq cfg)
      simp only [expand, slotTrace, ht]
      refine (congrArg WH (congrArg (_ ++ ·) ?_)).mp this
      simp only [slotHandler]
      cases net (hookSeq cfg) with
      | raise_ e => simp only [Pe.Ev.hEvents, Pe.handle_once]; split <;> simp [expand, expandSite, slotSite, ht, Pe.Call.site]
      | _ => rfl
    · obtain ⟨h1, h2⟩ := expand_call cfg c a hr
      rw [h1]
      cases a with
      | ret => exact WH_quiet _ .ret rfl
      | complete => exact WH_quiet _ .complete rfl
      | raise_ e =>
        have := WH_raise (liftCall c) e
        simp only [Pe.Ev.hEvents, Pe.handle_once]
        split
        · next he => rw [if_pos he] at this; exact this
        · next he => rw [if_neg he, ← h2] at this; exact this
/-- **every raise gets its handler invocation — once, right after the call that raised, for that error at that site — and no
    handler runs otherwise** (lifted `Pe.handler_called_once_per_raise_at_its_site`): with hooks, the site is the hook (or the
    responder proper) that raised, and a hook's error is handled in the same `_handle_exception` window as the responder's -/
theorem handler_called_once_per_raise_at_its_site (cfg : Cfg) : WH (run cfg).1 := by
  rw [(hooks_refine_pe cfg).1]
  have hw := Pe.handler_called_once_per_raise_at_its_site (flatten cfg)
  unfold Pe.WH at hw
  rw [hw, List.flatMap_assoc]
  apply WH_flatMap
  intro pev hp
  have hm := List.mem_filter.mp hp
  exact WH_expand_block cfg pev hm.2 (fun a ha => responder_label cfg a (ha ▸ hm.1))

/-- class-level hooks are outside the method-level ones: the documented order, spelled out -/
theorem hookSeq_order (cfg : Cfg) :
    hookSeq cfg = befores cfg.classHooks ++ befores cfg.methodHooks ++ (.responder, cfg.responder) ::
      ((afters cfg.methodHooks).reverse ++ (afters cfg.classHooks).reverse) := by
  simp [hookSeq, seq, befores_append, afters_append]

/-- what `hooks_refine_pe` puts in the place of the `responder` event of a matched route … -/
theorem slot_subtrace (cfg : Cfg) (a : Pe.Act) (h : cfg.target = .route) :
    expand cfg (.call .responder a) = (cut (hookSeq cfg)).map evOf := by
  simp [expand, slotTrace, h]

/-- … is what the routed responder does whenever it is called … -/
theorem slot_subtrace_routed (cfg : Cfg) (cp : Bool) : (routed cfg cp).1 = (cut (hookSeq cfg)).map evOf := hook_trace cfg cp

/-- … and in it the `j`-th call of the documented order is made iff all earlier ones returned -/
theorem slot_called_iff (cfg : Cfg) (j : Nat) :
    ((cut (hookSeq cfg)).map evOf)[j]? =
      if ((hookSeq cfg).take j).all (fun p => !p.2.raises) then ((hookSeq cfg)[j]?).map evOf else none := by
  rw [List.getElem?_map, cut_getElem]
  split <;> simp

/-- **a hook (or responder) that marks the response complete has simply returned**: turning every `complete` of the sequence
    into `return` does not change which calls are made (falcon/hooks.py never reads `resp.complete`) -/
theorem hook_complete_inert : ∀ l : List (Call × Pe.Act),
    (cut (l.map fun p => (p.1, match p.2 with | .complete => Pe.Act.ret | a => a))).map (·.1) = (cut l).map (·.1) := by
  intro l
  induction l with
  | nil => rfl
  | cons p rest ih =>
    obtain ⟨c, _ | _ | e⟩ := p
    · exact congrArg (c :: ·) ih
    · exact congrArg (c :: ·) ih
    · rfl

-- class-level `@before(0) @after(1)`, method-level `@after(2: raises an app error) @before(3: completes) @after(4)`:
-- before hooks 0, 3 (class first), the responder ALTHOUGH hook 3 marked the response complete, after hooks 4, 2 (innermost
-- first); 2 raises, so the class-level after hook 1 does not run; resp.complete is True; the error comes from `aft:2`
example : routed { comps := [], independent := true, target := .route, responder := .ret,
                   classHooks := [.before 0 .ret, .after 1 .ret],
                   methodHooks := [.after 2 (.raiseApp .sets), .before 3 .complete, .after 4 .ret],
                   handlerCompletes := fun _ => false } false
    = ([.call (.before 0) .ret, .call (.before 3) .complete, .call .responder .ret, .call (.after 4) .ret,
        .call (.after 2) (.raiseApp .sets)], true, some (.after 2, .app .sets)) := by decide +kernel

-- `responder_called_iff` / `after_called_iff` on that stack: position 2 is the responder, position 2+1+1 the second after hook
example : (routed { comps := [], independent := true, target := .route, responder := .ret,
                    classHooks := [.before 0 .ret, .after 1 .ret],
                    methodHooks := [.after 2 (.raiseApp .sets), .before 3 .complete, .after 4 .ret],
                    handlerCompletes := fun _ => false } false).1[2 + 1 + 1]? = some (.call (.after 2) (.raiseApp .sets)) :=
  after_called_iff _ false 1 (.after 2, .raiseApp .sets) (by decide)
-- a before hook that raises: neither the responder nor any after hook
example : (routed { comps := [], independent := true, target := .route, responder := .ret,
                    classHooks := [.after 0 .ret], methodHooks := [.before 1 .raiseHttp, .before 2 .ret],
                    handlerCompletes := fun _ => false } true) = ([.call (.before 1) .raiseHttp], true, some (.before 1, .http .app)) := by
  decide +kernel

-- the whole pipeline: two components, independent mode, class-level before hook, method-level after hook raising an app
-- error whose handler sets the status AND resp.complete: handled in the responder's `except` window with site `aft:1`,
-- the response loop runs in full with req_succeeded = False, resp.complete ends up True
example : run { comps := [⟨some .ret, some .ret, some .ret⟩, ⟨none, none, some (.raiseApp .raisesStatus)⟩], independent := true,
                target := .route, responder := .complete,
                classHooks := [.before 0 .ret], methodHooks := [.after 1 (.raiseApp .sets)],
                handlerCompletes := fun h => h == .sets }
    = ([.call (.req 0) .ret, .call (.rsrc 0) .ret, .call (.before 0) .ret, .call .responder .complete,
        .call (.after 1) (.raiseApp .sets), .handler (.after 1) (.app .sets),
        .call (.resp 1 true false) (.raiseApp .raisesStatus), .handler (.resp 1) (.app .raisesStatus),
        .call (.resp 0 true false) .ret], .responded .handlerStatus, true) := by decide +kernel
-- … its flattening: the composite responder raises that app error …
example : (flatten { comps := [⟨some .ret, some .ret, some .ret⟩, ⟨none, none, some (.raiseApp .raisesStatus)⟩], independent := true,
                     target := .route, responder := .complete,
                     classHooks := [.before 0 .ret], methodHooks := [.after 1 (.raiseApp .sets)],
                     handlerCompletes := fun h => h == .sets }).responder = .raiseApp .sets := by decide +kernel
-- … and `Pe.run` of it, of which the run above is the expansion (`hooks_refine_pe`)
example : Pe.run { comps := [⟨some .ret, some .ret, some .ret⟩, ⟨none, none, some (.raiseApp .raisesStatus)⟩], independent := true,
                   target := .route, responder := .raiseApp .sets }
    = ([.call (.req 0) .ret, .call (.rsrc 0) .ret, .call .responder (.raiseApp .sets), .handler .responder (.app .sets),
        .call (.resp 1 true false) (.raiseApp .raisesStatus), .handler (.resp 1) (.app .raisesStatus),
        .call (.resp 0 true false) .ret], .responded .handlerStatus) := by decide +kernel

-- `handler_complete_inert` is not about nothing: the same stack with a handler that does NOT set resp.complete differs in
-- the final flag only (here the responder does not complete either)
example : run { comps := [⟨some (.raiseApp .sets), none, some .ret⟩, ⟨some .ret, none, some .ret⟩], independent := false,
                target := .route, responder := .ret, classHooks := [], methodHooks := [.before 0 .ret],
                handlerCompletes := fun _ => true }
    = ([.call (.req 0) (.raiseApp .sets), .handler (.req 0) (.app .sets)], .responded .custom, true) := by decide +kernel
example : run { comps := [⟨some (.raiseApp .sets), none, some .ret⟩, ⟨some .ret, none, some .ret⟩], independent := false,
                target := .route, responder := .ret, classHooks := [], methodHooks := [.before 0 .ret],
                handlerCompletes := fun _ => false }
    = ([.call (.req 0) (.raiseApp .sets), .handler (.req 0) (.app .sets)], .responded .custom, false) := by decide +kernel
-- a process_response raises, its handler completes the response: the remaining process_response methods still run
example : run { comps := [⟨none, none, some .ret⟩, ⟨none, none, some (.raiseApp .raisesHttp)⟩], independent := true,
                target := .sink, responder := .ret, classHooks := [], methodHooks := [],
                handlerCompletes := fun _ => true }
    = ([.call .responder .ret, .call (.resp 1 false true) (.raiseApp .raisesHttp), .handler (.resp 1) (.app .raisesHttp),
        .call (.resp 0 false false) .ret], .responded .handlerHttp, true) := by decide +kernel

-- `escape_iff`: a class-level before hook raises an error nothing is registered for: no handler event, nothing further
example : run { comps := [⟨some .ret, none, some .ret⟩], independent := true, target := .route, responder := .ret,
                classHooks := [.before 0 (.raiseApp .none)], methodHooks := [.after 1 .ret], handlerCompletes := fun _ => false }
    = ([.call (.req 0) .ret, .call (.before 0) (.raiseApp .none)], .escaped, false) := by decide +kernel

-- `calls_eq_spec` applies (not escaped) and the expansion of the responder is not trivial
example : expandPl { comps := [], independent := true, target := .route, responder := .raiseHttp,
                     classHooks := [.after 0 .ret], methodHooks := [.before 1 .complete], handlerCompletes := fun _ => false } .responder
    = [.before 1, .responder] := by decide +kernel

end Ph
