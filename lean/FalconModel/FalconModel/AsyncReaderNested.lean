import FalconModel.AsyncReader
import FalconModel.AsyncReaderIter
import FalconModel.MultipartAsync
/-! C14, async reader, **nested delimited readers** (`falcon.asgi.reader.BufferedReader.delimit`):
    `delimit(d)` is `type(self)(self._iter_delimited(d), chunk_size=self._chunk_size)` - a second reader with its own buffer and
    its own `_iter_normalized`, whose chunk source is the parent's generator `_iter_delimited(d)`; the parent object is shared.

    The executable model of that is `Ma.delimit` / `Ma.DelimGen` of FalconModel/MultipartAsync.lean: `Ma.AR σ` is the
    transcription of falcon/asgi/reader.py generic in its chunk source (`Ma.ASource`), so a child is `Ma.AR (Ma.DelimGen σ)` and
    a grandchild `Ma.AR (Ma.DelimGen (Ma.DelimGen σ))`, each containing its parent. This file adds what `ardriver` needs to run
    nested cases next to the root model `ARd` (FalconModel/AsyncReader.lean):

    * `toMa` / `ofMa`: the (bijective) translation between a root reader state `ARd.AR` and `Ma.AR Ma.Raw` (same fields; the
      remaining source items as a `Raw` iterator). AsyncReaderProofs.lean proves that every operation of `ARd` is the
      corresponding operation of `Ma` under this translation (`toMa_asyncStep`, `toMa_iterate`), i.e. `ARd` IS `Ma`'s generic
      reader at the concrete source.
    * `iterate`: `async for chunk in reader` abandoned after `k` chunks (`ARi.iterate`), generic in the source.
    * `NOp` / `nStep` / `nRun`: the operations the harness applies to a reader at any nesting level.
    * `AProg` / `runAProg`: programs over a reader and, recursively, delimited sub-readers of any depth. -/
namespace An
open Rd (Bytes)
open Ma (AR ASource Raw DelimGen Pc Item AOp AObs gstep fuelOf arStep)

/-! ### root reader `ARd.AR` = `Ma.AR Raw` -/

def toNpc : ARd.NormPc → Ma.NormPc
  | .running => .running
  | .yielded1 item => .yielded1 item
  | .yielded2 => .yielded2
  | .finished => .finished

def ofNpc : Ma.NormPc → ARd.NormPc
  | .running => .running
  | .yielded1 item => .yielded1 item
  | .yielded2 => .yielded2
  | .finished => .finished

def toMa (r : ARd.AR) : AR Raw :=
  { buf := r.buf, len := r.len, pos := r.pos, chunk := r.chunk, consumed := r.consumed, exhausted := r.exhausted,
    pending := r.pending, npc := toNpc r.npc, src := ⟨r.src⟩ }

def ofMa (r : AR Raw) : ARd.AR :=
  { buf := r.buf, len := r.len, pos := r.pos, chunk := r.chunk, consumed := r.consumed, exhausted := r.exhausted,
    pending := r.pending, npc := ofNpc r.npc, src := r.src.items }

/-! ### iteration, generic in the chunk source -/

variable {σ : Type} [ASource σ]

/-- `__aiter__`: `return self._iter_with_buffer()` if `self._buffer_len > self._buffer_pos` else `return self._source` -/
def aiterPc (r : AR σ) : Pc := if r.len > r.pos then .wStart 0 else .wSource

/-- `async for chunk in reader: out.append(chunk); if len(out) >= k: break`; `none` = the source raised `ValueError` -/
def iterLoop : Nat → Pc → AR σ → List Bytes → Option (List Bytes) × AR σ
  | 0, _, r, acc => (some acc, r)
  | k + 1, pc, r, acc =>
    match gstep (fuelOf r) pc r with
    | (.chunk c, pc, r) => iterLoop k pc r (acc ++ [c])
    | (.stop, _, r) => (some acc, r)
    | (.raiseValue, _, r) => (none, r)

def iterate (r : AR σ) (k : Nat) : Option (List Bytes) × AR σ := iterLoop k (aiterPc r) r []

/-- what the harness applies to a reader: a coroutine method, or an iteration abandoned after `k` chunks -/
inductive NOp where
  | op (a : AOp)
  | iter (k : Nat)

inductive NObs where
  | obs (o : AObs)
  | chunks (cs : List Bytes)
  | valueErr

def nStep (r : AR σ) : NOp → NObs × AR σ
  | .op a => let x := arStep r a; (.obs x.1, x.2)
  | .iter k => let x := iterate r k; ((match x.1 with | some cs => .chunks cs | none => .valueErr), x.2)

def nRun : AR σ → List NOp → List NObs × AR σ
  | r, [] => ([], r)
  | r, op :: rest => ((nStep r op).1 :: (nRun (nStep r op).2 rest).1, (nRun (nStep r op).2 rest).2)

/-! ### programs over nested readers of any depth -/

inductive AProg where
  | done
  | op (o : NOp) (k : AProg)
  | nest (d : Bytes) (inner : AProg) (k : AProg)   -- child = delimit(d); run `inner` on it; drop it; continue with `k` on this reader

def runAProg : AProg → {σ : Type} → [ASource σ] → AR σ → List NObs × AR σ
  | .done, _, _, r => ([], r)
  | .op o k, _, _, r => ((nStep r o).1 :: (runAProg k (nStep r o).2).1, (runAProg k (nStep r o).2).2)
  | .nest d inner k, _, _, r =>
    ((runAProg inner (Ma.delimit r d)).1 ++ (runAProg k (runAProg inner (Ma.delimit r d)).2.src.parent).1,
     (runAProg k (runAProg inner (Ma.delimit r d)).2.src.parent).2)

end An
