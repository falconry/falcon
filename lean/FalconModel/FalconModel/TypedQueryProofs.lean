import FalconModel.TypedQuery
import FalconModel.ToQueryStrProofs
import FalconModel.GettersProofs
import FalconModel.Utf8Proofs
/-! C08: the typed round trip of `to_query_str` (model `FalconModel/TypedQuery.lean`, namespace `Tq`): `int(str(n)) = n`, a
    one-item list renders like its item, and — reusing the general round trip `Gt.parse_toQueryStr` and the getter
    theorems of `GettersProofs.lean` — every `int` / `bool` / `str` / `None` / list of the mapping comes back through
    `parse_query_string` and the typed getter of its type as the original typed value. -/
namespace Tq
open Qs (Str Val Params lookup valsOfVal parseQS)
open Gt (BVal WFmap decMap decV dec getInt getBool getParam getList getListT doStore Store inBounds pyInt ofDigits)

def f10 (acc d : Nat) : Nat := 10 * acc + d

theorem digitsGo_spec : ∀ (fuel n : Nat) (acc : List Nat), n < fuel →
    ∃ ds, digitsGo fuel n acc = ds ++ acc ∧ ds ≠ [] ∧ (∀ d ∈ ds, d < 10) ∧ ofDigits ds = n := by
  intro fuel
  induction fuel with
  | zero => exact fun _ _ h => absurd h (Nat.not_lt_zero _)
  | succ fuel ih =>
    intro n acc h
    by_cases hn : n < 10
    · exact ⟨[n], if_pos hn, List.cons_ne_nil _ _, fun d hd => List.mem_singleton.1 hd ▸ hn,
        (congrArg (· + n) (Nat.mul_zero 10)).trans (Nat.zero_add n)⟩
    · have hpos : 0 < n := Nat.lt_of_lt_of_le (by decide) (Nat.le_of_not_lt hn)
      obtain ⟨ds, he, _, hlt, hv⟩ := ih (n / 10) (n % 10 :: acc)
        (Nat.lt_of_lt_of_le (Nat.div_lt_self hpos (by decide)) (Nat.le_of_lt_succ h))
      refine ⟨ds ++ [n % 10], ((if_neg hn).trans he).trans (List.append_assoc ds [n % 10] acc).symm, fun h0 => List.cons_ne_nil _ _
        (List.append_eq_nil_iff.1 h0).2, fun d hd => ?_, ?_⟩
      · rcases List.mem_append.1 hd with hd | hd
        · exact hlt d hd
        · exact List.mem_singleton.1 hd ▸ Nat.mod_lt n (by decide)
      · unfold ofDigits at hv ⊢
        rw [List.foldl_append, hv]
        exact Nat.div_add_mod n 10

theorem decDigits_spec (n : Nat) : decDigits n ≠ [] ∧ (∀ d ∈ decDigits n, d < 10) ∧ ofDigits (decDigits n) = n := by
  obtain ⟨ds, he, h⟩ := digitsGo_spec (n + 1) n [] (Nat.lt_succ_self n)
  rw [decDigits, he, List.append_nil]
  exact h

/-- the digits denote the number -/
theorem ofDigits_decDigits (n : Nat) : ofDigits (decDigits n) = n := (decDigits_spec n).2.2

theorem digit_byte : ∀ d, d < 10 → ((48 + d).toUInt8).toNat = 48 + d := by decide +kernel

theorem dec_digits (ds : List Nat) (h : ∀ d ∈ ds, d < 10) : dec (ds.map fun d => (48 + d).toUInt8) = ds.map (48 + ·) := by
  unfold dec
  rw [U8.decodeReplace_ascii, List.map_map]
  · exact List.map_congr_left fun d hd => digit_byte d (h d hd)
  · intro b hb
    obtain ⟨d, hd, rfl⟩ := List.mem_map.1 hb
    rw [digit_byte d (h d hd)]
    exact Nat.add_lt_add_left (Nat.lt_trans (h d hd) (by decide : 10 < 80)) 48

/-- **`int(str(n)) == n`** for every `int` whose `str()` does not raise: Python's `int()` model (`Gt.pyInt`) reads the text
    `str(n)` of the conversion model back as `n` — negative numbers, zero and numbers of up to 4300 digits included. -/
theorem pyInt_strInt (n : Int) (t : Bytes) (h : strInt n = some t) : pyInt (dec t) = some n := by
  obtain ⟨hne, hd, hv⟩ := decDigits_spec n.natAbs
  unfold strInt at h
  dsimp only at h
  by_cases hl : (decDigits n.natAbs).length > maxStrDigits
  · rw [if_pos hl] at h; exact nomatch h
  · have hlen : (decDigits n.natAbs).length ≤ 4300 := Nat.le_of_not_lt hl
    rw [if_neg hl] at h
    cases h
    by_cases hneg : n < 0
    · rw [if_pos hneg, List.singleton_append, dec, U8.decodeReplace_cons_ascii 45 _ (by decide), ← dec, dec_digits _ hd]
      show pyInt (45 :: (decDigits n.natAbs).map (48 + ·)) = some n
      rw [Gt.pyInt_ascii_neg _ hne hd hlen, hv, Int.ofNat_natAbs_of_nonpos (Int.le_of_lt hneg), Int.neg_neg]
    · rw [if_neg hneg, List.nil_append, dec_digits _ hd, Gt.pyInt_ascii _ hne hd hlen, hv,
        Int.natAbs_of_nonneg (Int.not_lt.1 hneg)]

/-- `str(n)` raises exactly for the numbers of more than 4300 digits -/
theorem strInt_isSome (n : Int) : (strInt n).isSome = decide ((decDigits n.natAbs).length ≤ 4300) := by
  unfold strInt maxStrDigits
  by_cases h : (decDigits n.natAbs).length > 4300
  · rw [if_pos h, decide_eq_false (Nat.not_le.2 h)]; rfl
  · rw [if_neg h, decide_eq_true (Nat.le_of_not_lt h)]; rfl

example : strInt (-120) = some [45, 49, 50, 48] ∧ strInt 0 = some [48] ∧ strInt 4300 = some [52, 51, 48, 48] := by decide +kernel
example : pyInt (dec [45, 49, 50, 48]) = some (-120) := pyInt_strInt (-120) _ (by decide)

/-! ### `encode_value` leaves the boolean literals alone (the code does not even call it on them) -/
theorem encodeValue_literals : Uri.encodeValue [116, 114, 117, 101] = [116, 114, 117, 101] ∧
    Uri.encodeValue [102, 97, 108, 115, 101] = [102, 97, 108, 115, 101] := by decide +kernel

def norm : BVal → BVal
  | .many [v] => .one v
  | v => v

def normMap (bm : List (Bytes × BVal)) : List (Bytes × BVal) := bm.map fun kv => (kv.1, norm kv.2)

theorem renderItem_norm (cdl : Bool) (q : Bytes) (kv : Bytes × BVal) :
    Gt.renderItem cdl q (kv.1, norm kv.2) = Gt.renderItem cdl q kv := by
  obtain ⟨k, v⟩ := kv
  cases v with
  | one v => rfl
  | many vs =>
    match vs with
    | [] => rfl
    | [v] => cases cdl <;> rfl
    | _ :: _ :: _ => rfl

/-- `to_query_str` cannot tell `{k: [v]}` from `{k: v}` -/
theorem toQueryStr_normMap (bm : List (Bytes × BVal)) (cdl pfx : Bool) :
    Gt.toQueryStr (normMap bm) cdl pfx = Gt.toQueryStr bm cdl pfx := by
  unfold Gt.toQueryStr normMap
  rw [List.foldl_map]
  have : (fun q (kv : Bytes × BVal) => Gt.renderItem cdl q (kv.1, norm kv.2)) = Gt.renderItem cdl := by
    funext q kv; exact renderItem_norm cdl q kv
  rw [this]
  cases bm <;> rfl

/-- side conditions, on the converted texts: no `str()` raises, and the converted mapping (a one-item list counted as its
    item) satisfies `Gt.WFmap`: names distinct as text; no empty text next to an empty name, none at all when blank values
    are dropped; no empty list; `comma_delimited_lists` only with `auto_parse_qs_csv` -/
def TWF (m : List (Bytes × Value)) (kb csv cdl : Bool) : Prop :=
  ∃ bm, convert cdl m = some bm ∧ WFmap (normMap bm) kb csv cdl

instance (m : List (Bytes × Value)) (kb csv cdl : Bool) : Decidable (TWF m kb csv cdl) :=
  match h : convert cdl m with
  | none => isFalse (fun ⟨_, hb, _⟩ => by rw [h] at hb; cases hb)
  | some bm =>
    if hw : WFmap (normMap bm) kb csv cdl then isTrue ⟨bm, h, hw⟩
    else isFalse (fun ⟨_, hb, hw'⟩ => by rw [h] at hb; cases hb; exact hw hw')

/-- the parsed rendering is the converted mapping -/
theorem parse_typed (m : List (Bytes × Value)) (kb csv cdl : Bool) (bm : List (Bytes × BVal))
    (hc : convert cdl m = some bm) (hw : WFmap (normMap bm) kb csv cdl) :
    ∃ qs, toQueryStr m cdl false = some qs ∧ parseQS qs kb csv = decMap (normMap bm) := by
  refine ⟨Gt.toQueryStr bm cdl false, ?_, ?_⟩
  · unfold toQueryStr; rw [hc]; rfl
  · rw [← toQueryStr_normMap]; exact Gt.parse_toQueryStr _ kb csv cdl hw

theorem mapOpt_cons_eq_some {f : α → Option β} {a : α} {l : List α} {r : List β} (h : mapOpt f (a :: l) = some r) :
    ∃ y ys, f a = some y ∧ mapOpt f l = some ys ∧ r = y :: ys := by
  rw [mapOpt] at h
  split at h
  · exact nomatch h
  · next y hy =>
    split at h
    · exact nomatch h
    · next ys hys => exact ⟨y, ys, hy, hys, (Option.some.inj h).symm⟩

theorem mapOpt_mem (f : α → Option β) : ∀ (l : List α) (r : List β), mapOpt f l = some r → ∀ x ∈ l, ∃ y, f x = some y ∧ y ∈ r := by
  intro l
  induction l with
  | nil => exact fun _ _ x hx => nomatch hx
  | cons a l ih =>
    intro r h x hx
    obtain ⟨y, ys, hy, hys, rfl⟩ := mapOpt_cons_eq_some h
    rcases List.mem_cons.1 hx with rfl | hx
    · exact ⟨y, hy, List.mem_cons_self⟩
    · obtain ⟨y', h1, h2⟩ := ih ys hys x hx
      exact ⟨y', h1, List.mem_cons_of_mem _ h2⟩

theorem lookup_of_mem : ∀ (p : Params) (a : Str) (b : Val), (p.map (·.1)).Nodup → (a, b) ∈ p → lookup p a = some b := by
  intro p
  induction p with
  | nil => exact fun _ _ _ h => nomatch h
  | cons e p ih =>
    intro a b hnd h
    obtain ⟨a', b'⟩ := e
    obtain ⟨hnew, hnd⟩ := List.nodup_cons.1 hnd
    unfold lookup
    rcases List.mem_cons.1 h with h | h
    · injection h with h1 h2
      subst h1 h2
      rw [List.find?_cons_of_pos (p := fun e : Str × Val => e.1 == a) (Qs.str_beq_self a)]; rfl
    · rw [List.find?_cons_of_neg (p := fun e : Str × Val => e.1 == a)
        fun he => hnew (List.mem_map.2 ⟨(a, b), h, (eq_of_beq he).symm⟩)]
      exact ih a b hnd h

/-- every name of the typed mapping is found, holding the converted value -/
theorem lookup_typed (m : List (Bytes × Value)) (kb csv cdl : Bool) (h : TWF m kb csv cdl) :
    ∃ qs, toQueryStr m cdl false = some qs ∧
      ∀ k v, (k, v) ∈ m → ∃ bv, convertVal cdl v = some bv ∧ lookup (parseQS qs kb csv) (dec k) = some (decV (norm bv)) := by
  obtain ⟨bm, hc, hw⟩ := h
  obtain ⟨qs, hq, hp⟩ := parse_typed m kb csv cdl bm hc hw
  refine ⟨qs, hq, fun k v hkv => ?_⟩
  obtain ⟨y, hy, hmem⟩ := mapOpt_mem _ m bm hc (k, v) hkv
  cases hcv : convertVal cdl v with
  | none => rw [hcv] at hy; exact nomatch hy
  | some bv =>
    rw [hcv] at hy
    cases hy
    refine ⟨bv, rfl, ?_⟩
    rw [hp]
    refine lookup_of_mem _ _ _ ?_ (List.mem_map.2 ⟨(k, norm bv), List.mem_map.2 ⟨(k, bv), hmem, rfl⟩, rfl⟩)
    rw [decMap, List.map_map]
    exact hw.keys_nodup

/-- what a scalar of the mapping must come back as -/
theorem scalar_lookup (m : List (Bytes × Value)) (kb csv cdl : Bool) (h : TWF m kb csv cdl) :
    ∃ qs, toQueryStr m cdl false = some qs ∧
      ∀ k x, (k, .scalar x) ∈ m → ∃ t, textOf x = some t ∧ Gt.lastValue (parseQS qs kb csv) (dec k) = some (dec t) := by
  obtain ⟨qs, hq, hl⟩ := lookup_typed m kb csv cdl h
  refine ⟨qs, hq, fun k x hkx => ?_⟩
  obtain ⟨bv, hbv, hlk⟩ := hl k _ hkx
  have hbv : (textOf x).map BVal.one = some bv := hbv
  cases ht : textOf x with
  | none => rw [ht] at hbv; exact nomatch hbv
  | some t =>
    rw [ht] at hbv
    cases hbv
    exact ⟨t, rfl, by rw [Gt.lastValue, hlk]; rfl⟩

/-- **the typed round trip, scalars.**  For every mapping `m` (names → `str` / `int` / `bool` / `None` / lists of those)
    with `TWF`, `to_query_str(m, comma_delimited_lists=cdl, prefix=False)` returns a query string `qs`, and on
    `parse_query_string(qs, kb, csv)`, for every item of the mapping:
    an `int` `n` comes back from `get_param_as_int` as `n` itself (and is stored) iff it is within the bounds given, else 400;
    `True` / `False` come back from `get_param_as_bool` as that boolean, whatever `blank_as_true`;
    a `str` comes back from `get_param` as itself, `None` as the text `None`. -/
theorem typed_round_trip (m : List (Bytes × Value)) (kb csv cdl : Bool) (h : TWF m kb csv cdl) :
    ∃ qs, toQueryStr m cdl false = some qs ∧
      (∀ k n, (k, Value.scalar (.int n)) ∈ m → ∀ (σ : Type) (inj : Int → σ) req mn mx store,
        getInt inj (parseQS qs kb csv) (dec k) req mn mx store =
          if inBounds mn mx n then .ret (.value n) (doStore store (dec k) (inj n)) else .ret .invalid400 store) ∧
      (∀ k b, (k, Value.scalar (.bool b)) ∈ m → ∀ (σ : Type) (inj : Bool → σ) req blank store,
        getBool inj (parseQS qs kb csv) (dec k) req blank store = .ret (.value b) (doStore store (dec k) (inj b))) ∧
      (∀ k s, (k, Value.scalar (.str s)) ∈ m → ∀ (σ : Type) (inj : Str → σ) req store,
        getParam inj (parseQS qs kb csv) (dec k) req store = .ret (.value (dec s)) (doStore store (dec k) (inj (dec s)))) ∧
      (∀ k, (k, Value.scalar .none) ∈ m → ∀ (σ : Type) (inj : Str → σ) req store,
        getParam inj (parseQS qs kb csv) (dec k) req store = .ret (.value [78, 111, 110, 101]) (doStore store (dec k) (inj [78, 111, 110, 101]))) := by
  obtain ⟨qs, hq, hs⟩ := scalar_lookup m kb csv cdl h
  refine ⟨qs, hq, ?_, ?_, ?_, ?_⟩
  · intro k n hk σ inj req mn mx store
    obtain ⟨t, ht, hl⟩ := hs k _ hk
    exact Gt.getInt_bounds_exact inj _ _ req mn mx store _ n hl (pyInt_strInt n t ht)
  · intro k b hk σ inj req blank store
    obtain ⟨t, ht, hl⟩ := hs k _ hk
    rw [Gt.getBool_found inj _ _ req blank store _ hl]
    cases b <;> cases ht <;> cases blank <;> rfl
  · intro k s hk σ inj req store
    obtain ⟨t, ht, hl⟩ := hs k _ hk
    cases ht
    exact Gt.getParam_found inj _ _ req store _ hl
  · intro k hk σ inj req store
    obtain ⟨t, ht, hl⟩ := hs k _ hk
    cases ht
    exact Gt.getParam_found inj _ _ req store _ hl

theorem itemsOf_norm (ts : List Bytes) (h : ts ≠ []) : Gt.itemsOf (decV (norm (.many ts))) = ts.map dec := by
  match ts, h with
  | [t], _ => rfl
  | _ :: _ :: _, _ => rfl

/-- the text of one item of a list, by rendering style -/
def itemText (cdl : Bool) (x : Scalar) : Option Bytes := if cdl then pyStr x else textOf x

theorem convertVal_list (cdl : Bool) (xs : List Scalar) : convertVal cdl (.list xs) = (mapOpt (itemText cdl) xs).map .many := by
  cases cdl <;> rfl

/-- what a list of the mapping must come back as: the texts of its items, also when there is only one -/
theorem list_lookup (m : List (Bytes × Value)) (kb csv cdl : Bool) (h : TWF m kb csv cdl) :
    ∃ qs, toQueryStr m cdl false = some qs ∧
      ∀ k xs, (k, Value.list xs) ∈ m → ∃ ts v, mapOpt (itemText cdl) xs = some ts ∧ ts ≠ [] ∧
        lookup (parseQS qs kb csv) (dec k) = some v ∧ Gt.itemsOf v = ts.map dec := by
  obtain ⟨qs, hq, hl⟩ := lookup_typed m kb csv cdl h
  obtain ⟨bm, hc, hw⟩ := h
  refine ⟨qs, hq, fun k xs hk => ?_⟩
  obtain ⟨bv, hbv, hlk⟩ := hl k _ hk
  obtain ⟨y, hy, hmem⟩ := mapOpt_mem _ m bm hc _ hk
  rw [hbv] at hy
  cases hy
  rw [convertVal_list] at hbv
  cases hts : mapOpt (itemText cdl) xs with
  | none => rw [hts] at hbv; exact nomatch hbv
  | some ts =>
    rw [hts] at hbv
    cases hbv
    -- the list is not empty: `WFmap` on the converted mapping
    have hne : ts ≠ [] := by
      rintro rfl
      exact absurd (hw.items (k, norm (.many [])) (List.mem_map.2 ⟨_, hmem, rfl⟩)).2 (Nat.not_succ_le_zero 1)
    exact ⟨ts, _, rfl, hne, hlk, itemsOf_norm ts hne⟩

/-- **the typed round trip, lists.**  With `TWF`, every non-empty list `xs` of the mapping comes back from
    `get_param_as_list(name)` as the list of the texts of its items, in order — also a list of ONE item (which the parsed
    mapping holds as a scalar) — where the text of an item is `str(x)` under `comma_delimited_lists` (so `True` is `True`)
    and `true`/`false`/`str(x)` under repetition. -/
theorem typed_round_trip_list (m : List (Bytes × Value)) (kb csv cdl : Bool) (h : TWF m kb csv cdl) :
    ∃ qs, toQueryStr m cdl false = some qs ∧
      ∀ k xs, (k, Value.list xs) ∈ m → ∃ ts, mapOpt (itemText cdl) xs = some ts ∧ ts ≠ [] ∧
        ∀ (σ : Type) (inj : List Str → σ) req store,
          getList inj (parseQS qs kb csv) (dec k) req store = .ret (.value (ts.map dec)) (doStore store (dec k) (inj (ts.map dec))) := by
  obtain ⟨qs, hq, hl⟩ := list_lookup m kb csv cdl h
  refine ⟨qs, hq, fun k xs hk => ?_⟩
  obtain ⟨ts, v, hts, hne, hlk, hv⟩ := hl k xs hk
  refine ⟨ts, hts, hne, fun σ inj req store => ?_⟩
  unfold getList
  rw [hlk]
  dsimp only
  rw [hv]

theorem mapT_ints : ∀ (ns : List Int) (ts : List Bytes), mapOpt (fun n => strInt n) ns = some ts →
    Gt.mapT pyInt (ts.map dec) = some ns := by
  intro ns
  induction ns with
  | nil => intro ts h; cases h; rfl
  | cons n ns ih =>
    intro ts h
    obtain ⟨t, tr, hn, hr, rfl⟩ := mapOpt_cons_eq_some h
    rw [List.map_cons, Gt.mapT_cons, pyInt_strInt n t hn, ih tr hr]; rfl

theorem mapOpt_map (f : β → Option γ) (g : α → β) (l : List α) : mapOpt f (l.map g) = mapOpt (fun x => f (g x)) l := by
  induction l with
  | nil => rfl
  | cons x r ih => simp only [List.map_cons, mapOpt, ih]

/-- **lists of ints.**  With `TWF`, a non-empty list of `int`s comes back from `get_param_as_list(name, transform=int)`
    as the list of those ints, for both rendering styles. -/
theorem typed_round_trip_int_list (m : List (Bytes × Value)) (kb csv cdl : Bool) (h : TWF m kb csv cdl) :
    ∃ qs, toQueryStr m cdl false = some qs ∧
      ∀ k ns, (k, Value.list (ns.map .int)) ∈ m → ∀ (σ : Type) (inj : List Int → σ) req store,
        getListT pyInt inj (parseQS qs kb csv) (dec k) req store = .ret (.value ns) (doStore store (dec k) (inj ns)) := by
  obtain ⟨qs, hq, hl⟩ := list_lookup m kb csv cdl h
  refine ⟨qs, hq, fun k ns hk σ inj req store => ?_⟩
  obtain ⟨ts, v, hts, _, hlk, hv⟩ := hl k _ hk
  have hints : mapOpt (fun n => strInt n) ns = some ts := by
    rw [mapOpt_map] at hts
    refine (congrArg (mapOpt · ns) (funext fun n => ?_)).trans hts
    cases cdl
    · exact (if_neg Bool.false_ne_true).symm
    · exact (if_pos rfl).symm
  unfold getListT
  rw [hlk]
  dsimp only
  rw [hv, mapT_ints ns ts hints]

-- {'a b': -120, 't': True, 'f': False, 's': 'x&y', 'n': None, 'l': [1, True, 'é'], 'one': [7], 'z': 0}
def sample : List (Bytes × Value) :=
  [([97, 32, 98], .scalar (.int (-120))), ([116], .scalar (.bool true)), ([102], .scalar (.bool false)),
   ([115], .scalar (.str [120, 38, 121])), ([110], .scalar .none),
   ([108], .list [.int 1, .bool true, .str [195, 169]]), ([111, 110, 101], .list [.int 7]), ([122], .scalar (.int 0))]

example : TWF sample true true true := by decide +kernel
example : TWF sample false false false := by decide +kernel
-- a%20b=-120&t=true&f=false&s=x%26y&n=None&l=1,True,%C3%A9&one=7&z=0  /  …&l=1&l=true&l=%C3%A9&…
example : toQueryStr sample true false = some [97,37,50,48,98,61,45,49,50,48,38,116,61,116,114,117,101,38,102,61,102,97,108,115,101,38,115,61,120,37,50,54,121,38,
    110,61,78,111,110,101,38,108,61,49,44,84,114,117,101,44,37,67,51,37,65,57,38,111,110,101,61,55,38,122,61,48] := by decide +kernel
example : (toQueryStr sample false false).map (fun q => (parseQS q false false == [([97, 32, 98], .one [45, 49, 50, 48]), ([116], .one [116, 114, 117, 101]),
    ([102], .one [102, 97, 108, 115, 101]), ([115], .one [120, 38, 121]), ([110], .one [78, 111, 110, 101]),
    ([108], .many [[49], [116, 114, 117, 101], [233]]), ([111, 110, 101], .one [55]), ([122], .one [48])])) = some true := by decide +kernel

/-- an empty list is outside `TWF`: `{'a': []}` renders to nothing (repetition) or to `a=` (comma-delimited), and
    `get_param_as_list('a')` does not give `[]` back -/
theorem twf_witness_empty_list : ¬ TWF [([97], .list [])] true true true ∧
    toQueryStr [([97], .list [])] false false = some [] ∧ toQueryStr [([97], .list [])] true false = some [97, 61] := by decide +kernel

end Tq
