import FalconModel.PeekProofs
import FalconModel.ReaderHistory
import FalconModel.ReaderExtra
/-! C14: the public operations of the sync reader against the flat cursor, one theorem each: `read`, `pipe`, `exhaust`,
    `read_until` and `pipe_until` (with and without consuming the delimiter, both sides of the 128-chunk join limit), `readline`,
    `readlines`. `_normalize_size` is dealt with once (`normalize_cases`); the `read_until` family carries the predicate `Stops` of
    RULoop upwards (`pipeUntil_stops`, `readUntil_stops`) and its theorems are projections of it.

    First, `read'_refines`, `read'_pos_le`, `read'_from_buffer` and `readUntil'_refines` once more under prime-free names, with the
    statements repeated in full: these are the names the evidence cites. -/
namespace Rd
variable {σ : Type} [Source σ] [LawfulSource σ]

/-- `_read(size)` refines the flat cursor (all five branches, incl. the F21-repaired last one) -/
theorem readCore_refines (r : R σ) (size : Int) (out : Bytes) (r' : R σ) (hinv : Inv r)
    (hpl : r.pos ≤ r.len) (hs : 0 ≤ size) (h : read' r size = (out, r')) :
    out = (abs r).take size.toNat ∧ abs r' = (abs r).drop size.toNat ∧ Inv r' :=
  read'_refines r size out r' hinv hpl hs h

/-- `_read` always leaves `_buffer_pos ≤ _buffer_len` (false for the pinned code, finding F21) -/
theorem readCore_pos_le (r : R σ) (size : Int) (hinv : Inv r) (hpl : r.pos ≤ r.len) (hs : 0 ≤ size) :
    (read' r size).2.pos ≤ (read' r size).2.len :=
  read'_pos_le r size hinv hpl hs

/-- `_read` served from the buffer does not touch the source -/
theorem readCore_from_buffer (r : R σ) (size : Int) (hinv : Inv r) (hpl : r.pos ≤ r.len) (hs : 0 ≤ size)
    (hfit : size ≤ r.len - r.pos) :
    (read' r size).1 = (r.buf.drop r.pos.toNat).take size.toNat ∧
    sliceFrom (read' r size).2.buf (read' r size).2.pos = (r.buf.drop r.pos.toNat).drop size.toNat ∧
    (read' r size).2.src = r.src ∧ (read' r size).2.rem = r.rem ∧ (read' r size).2.chunk = r.chunk ∧
    Inv (read' r size).2 ∧ (read' r size).2.pos ≤ (read' r size).2.len :=
  read'_from_buffer r size hinv hpl hs hfit

/-- `_read_until(delimiter, size, consume_delimiter=False)` refines the flat cursor -/
theorem readUntilCore_refines (r : R σ) (d : Bytes) (size : Int) (hinv : Inv r) (hpl : r.pos ≤ r.len) (hs : 0 ≤ size)
    (hd : d ≠ []) (hdc : (d.length : Int) ≤ r.chunk) :
    ∃ r', readUntil' r d size false = (.ok ((abs r).take (stopAt d (abs r) size.toNat)), r') ∧
      abs r' = (abs r).drop (stopAt d (abs r) size.toNat) ∧ Inv r' ∧ r'.pos ≤ r'.len ∧ r'.chunk = r.chunk :=
  readUntil'_refines r d size hinv hpl hs hd hdc


/-- what is still to come is never longer than the budget the reader itself computes (`_normalize_size(None)`) -/
theorem abs_length_le (r : R σ) (hinv : Inv r) (hpl : r.pos ≤ r.len) :
    ((abs r).length : Int) ≤ r.rem + r.len - r.pos := by
  have := avail_length_le_rem r hinv.rem_nonneg
  rw [abs_eq r hinv hpl, List.length_append, Int.natCast_add, unread_length r hinv hpl]
  omega

/-- the fuel the model gives its loops exceeds the number of bytes still to come -/
theorem fuel_enough (r : R σ) (hinv : Inv r) (hpl : r.pos ≤ r.len) :
    (abs r).length < Source.bound r.src + r.buf.length + 3 := by
  have := avail_length_le r
  rw [abs_eq r hinv hpl, List.length_append, List.length_drop]
  omega

/-- the number of bytes a `size` argument stands for on the text `A` still to come -/
def want (A : Bytes) : Option Int → Nat
  | none => A.length
  | some s => if s = -1 then A.length else s.toNat

theorem want_some (A : Bytes) (n : Int) (h : 0 ≤ n) : want A (some n) = n.toNat := if_neg (by omega)

/-- `_normalize_size`: the normalised size is the size the caller meant, or both reach the end of the text -/
theorem normalize_cases (r : R σ) (size : Option Int) (hinv : Inv r) (hpl : r.pos ≤ r.len)
    (hs : ∀ s, size = some s → s = -1 ∨ 0 ≤ s) :
    0 ≤ normalizeSize r size ∧ ((normalizeSize r size).toNat = want (abs r) size ∨
      ((abs r).length ≤ (normalizeSize r size).toNat ∧ (abs r).length ≤ want (abs r) size)) := by
  have hl := abs_length_le r hinv hpl
  have hnn : (0 : Int) ≤ r.rem + r.len - r.pos := Int.le_trans (Int.natCast_nonneg _) hl
  have hbig : (abs r).length ≤ (r.rem + r.len - r.pos).toNat := (Int.le_toNat hnn).mpr hl
  unfold normalizeSize want
  cases size with
  | none => exact ⟨hnn, Or.inr ⟨hbig, Nat.le_refl _⟩⟩
  | some s =>
    dsimp only
    by_cases h1 : s = -1
    · simp only [h1, beq_self_eq_true, Bool.true_or, if_true]
      exact ⟨hnn, Or.inr ⟨hbig, Nat.le_refl _⟩⟩
    · have hs0 : 0 ≤ s := (hs s rfl).resolve_left h1
      simp only [beq_false_of_ne h1, Bool.false_or, h1, if_false]
      by_cases h2 : s > r.rem + r.len - r.pos
      · simp only [h2, decide_true, if_true]
        exact ⟨hnn, Or.inr ⟨hbig, (Int.le_toNat hs0).mpr (by omega)⟩⟩
      · simp only [h2, decide_false]
        exact ⟨hs0, Or.inl rfl⟩

/-- a quantity that no longer depends on the size cap once the cap reaches the end of the text is the same for the
    normalised size the code computes and for the size the caller meant -/
theorem normalize_irrelevant {α : Type} (r : R σ) (size : Option Int) (f : Nat → α) (hinv : Inv r) (hpl : r.pos ≤ r.len)
    (hs : ∀ s, size = some s → s = -1 ∨ 0 ≤ s) (hf : ∀ n, (abs r).length ≤ n → f n = f (abs r).length) :
    f (normalizeSize r size).toNat = f (want (abs r) size) := by
  rcases (normalize_cases r size hinv hpl hs).2 with h | ⟨h1, h2⟩
  · rw [h]
  · rw [hf _ h1, hf _ h2]

theorem stopAt_normalize (r : R σ) (d : Bytes) (size : Option Int) (hinv : Inv r) (hpl : r.pos ≤ r.len) (hd : d ≠ [])
    (hs : ∀ s, size = some s → s = -1 ∨ 0 ≤ s) :
    stopAt d (abs r) (normalizeSize r size).toNat = stopAt d (abs r) (want (abs r) size) :=
  normalize_irrelevant r size (stopAt d (abs r)) hinv hpl hs fun n hn => stopAt_big d _ n hd hn

/-- **`read(size)`** (size `None`, `-1` or ≥ 0) returns the next `size` bytes / everything, and leaves exactly the rest -/
theorem read_refines (r : R σ) (size : Option Int) (hinv : Inv r) (hpl : r.pos ≤ r.len)
    (hs : ∀ s, size = some s → s = -1 ∨ 0 ≤ s) :
    (read r size).1 = (abs r).take (want (abs r) size) ∧ abs (read r size).2 = (abs r).drop (want (abs r) size) ∧
    Inv (read r size).2 ∧ (read r size).2.pos ≤ (read r size).2.len ∧ (read r size).2.chunk = r.chunk := by
  obtain ⟨a, b, c, e⟩ := read'_spec r (normalizeSize r size) hinv hpl (normalize_cases r size hinv hpl hs).1
  have ht := normalize_irrelevant r size (fun n => (abs r).take n) hinv hpl hs fun n hn => by
    rw [List.take_of_length_le hn, List.take_length]
  have hd := normalize_irrelevant r size (fun n => (abs r).drop n) hinv hpl hs fun n hn => by
    rw [List.drop_of_length_le hn, List.drop_length]
  exact ⟨a.trans ht, b.trans hd, c, e, read'_chunk r _⟩

/-- the `while True` loop of `pipe`: hands out everything that is still to come, in order, and leaves nothing -/
theorem pipeLoop_refines : ∀ (fuel : Nat) (r : R σ) (acc : Bytes), Inv r → r.pos ≤ r.len → (abs r).length < fuel →
    (pipeLoop fuel r acc).1 = acc ++ abs r ∧ abs (pipeLoop fuel r acc).2 = [] ∧ Inv (pipeLoop fuel r acc).2 ∧
    (pipeLoop fuel r acc).2.pos ≤ (pipeLoop fuel r acc).2.len ∧ (pipeLoop fuel r acc).2.chunk = r.chunk := by
  intro fuel
  induction fuel with
  | zero => intro r acc _ _ h; omega
  | succ n ih =>
    intro r acc hinv hpl hlt
    have hc := hinv.chunk_pos
    obtain ⟨e1, e2, e3, e4, e5⟩ := read_refines r (some r.chunk) hinv hpl fun s h => Or.inr (by cases h; omega)
    rw [want_some _ _ (Int.le_of_lt hc)] at e1 e2
    rw [pipeLoop]
    generalize read r (some r.chunk) = x at e1 e2 e3 e4 e5
    obtain ⟨c, r1⟩ := x
    dsimp only at e1 e2 e3 e4 e5 ⊢
    split
    · rename_i hce
      -- an empty read of `chunk_size > 0` bytes means nothing is left
      obtain habs : abs r = [] := (List.take_eq_nil_iff.mp (e1.symm.trans (List.isEmpty_iff.mp hce))).resolve_left (by omega)
      exact ⟨by rw [habs, List.append_nil], by rw [e2, habs, List.drop_nil], e3, e4, e5⟩
    · rename_i hce
      have hlen1 : (abs r1).length < n := by
        have hne : abs r ≠ [] := fun h => hce (by rw [e1, h, List.take_nil]; rfl)
        have := List.length_pos_iff.mpr hne
        rw [e2, List.length_drop]; omega
      obtain ⟨f1, f2, f3, f4, f5⟩ := ih r1 (acc ++ c) e3 e4 hlen1
      exact ⟨by rw [f1, e2, e1, List.append_assoc, List.take_append_drop], f2, f3, f4, f5.trans e5⟩

/-- **`pipe()`** hands out exactly what is still to come and leaves the reader at its end -/
theorem pipe_refines (r : R σ) (hinv : Inv r) (hpl : r.pos ≤ r.len) :
    (pipe r).1 = abs r ∧ abs (pipe r).2 = [] ∧ Inv (pipe r).2 ∧ (pipe r).2.pos ≤ (pipe r).2.len ∧
      (pipe r).2.chunk = r.chunk :=
  pipeLoop_refines _ r [] hinv hpl (fuel_enough r hinv hpl)

/-- **`exhaust()`** leaves nothing to read -/
theorem exhaust_refines (r : R σ) (hinv : Inv r) (hpl : r.pos ≤ r.len) :
    abs (exhaust r) = [] ∧ Inv (exhaust r) ∧ (exhaust r).pos ≤ (exhaust r).len ∧ (exhaust r).chunk = r.chunk :=
  (pipe_refines r hinv hpl).2

/-- what `Stops` says about the consuming call in the terms of the flat cursor: the same bytes; if the cursor is then at the
    delimiter it steps over it, otherwise `DelimiterError` with the cursor just behind the bytes read -/
theorem Stops.consume_refines {A d : Bytes} {k : Nat} {chunk : Int} {x0 x1 : Res × R σ} (h : Stops A d k chunk x0 x1)
    (hdc : (d.length : Int) ≤ chunk) :
    (((A.drop k).take d.length = d) →
      x1.1 = .ok (A.take k) ∧ abs x1.2 = A.drop (k + d.length) ∧ Inv x1.2 ∧ x1.2.pos ≤ x1.2.len ∧ x1.2.chunk = chunk) ∧
    (((A.drop k).take d.length ≠ d) →
      x1.1 = .delimErr ∧ abs x1.2 = A.drop k ∧ Inv x1.2 ∧ x1.2.pos ≤ x1.2.len ∧ x1.2.chunk = chunk) := by
  obtain ⟨r1, _, e2, e3, e4, e5, rfl⟩ := h
  have hsp := tailPeek_spec r1 d (A.take k) e3 e4 (e5 ▸ hdc)
  have hch := (tailPeek_chunk r1 d (A.take k) e3 e4).trans e5
  rw [e2] at hsp
  constructor
  · intro h
    obtain ⟨a, b, c, dd⟩ := hsp.1 h
    exact ⟨a, by rw [b, List.drop_drop], c, dd, hch⟩
  · intro h
    obtain ⟨a, b, c, dd⟩ := hsp.2 h
    exact ⟨a, b, c, dd, hch⟩

/-- one round of `pipe_until` asks for `min chunk remaining` bytes and leaves `remaining - chunk` to the following ones -/
theorem round_split (chunk remaining : Int) (hc : 0 < chunk) (hrem : 0 < remaining) :
    ∃ m rest : Nat, min chunk remaining = m ∧ 0 < m ∧ remaining.toNat = m + rest ∧ (remaining - chunk).toNat = rest := by
  obtain ⟨m, hm⟩ := Int.eq_ofNat_of_zero_le (Int.le_min.mpr ⟨Int.le_of_lt hc, Int.le_of_lt hrem⟩)
  exact ⟨m, (remaining - chunk).toNat, hm, by omega, by omega, rfl⟩

/-- the `while remaining > 0` loop of `pipe_until`: its pieces concatenate to exactly what one `read_until(d, remaining)`
    returns on the flat text, and the cursor is left behind them -/
theorem pipeUntilLoop_refines (d : Bytes) (hd : d ≠ []) : ∀ (fuel : Nat) (r : R σ) (remaining : Int) (acc : Bytes),
    Inv r → r.pos ≤ r.len → (d.length : Int) ≤ r.chunk → (abs r).length < fuel →
    ∃ r', pipeUntilLoop fuel r d remaining acc = (.ok (acc ++ (abs r).take (stopAt d (abs r) remaining.toNat)), r') ∧
      abs r' = (abs r).drop (stopAt d (abs r) remaining.toNat) ∧ Inv r' ∧ r'.pos ≤ r'.len ∧ r'.chunk = r.chunk := by
  intro fuel
  induction fuel with
  | zero => intro r _ _ _ _ _ h; omega
  | succ n ih =>
    intro r remaining acc hinv hpl hdc hlt
    have hc := hinv.chunk_pos
    rw [pipeUntilLoop]
    split
    · rename_i hrem
      -- this round asks for `m` bytes and leaves `rest` for the following ones
      obtain ⟨m, rest, hm, hmpos, hrest⟩ := round_split r.chunk remaining hc hrem
      obtain ⟨r1, e1, e2, e3, e4, e5⟩ := readUntil'_refines r d (min r.chunk remaining) hinv hpl
        (hm ▸ Int.natCast_nonneg m) hd hdc
      rw [e1, hm, Int.toNat_natCast, hrest.1, stopAt_add d _ m rest hd]
      rw [hm, Int.toNat_natCast] at e2
      dsimp only
      have hkl := stopAt_le_length d (abs r) m hd
      split
      · rename_i hemp
        -- nothing came back although `m > 0` bytes were asked for: the cursor is at the delimiter or at the end
        have hk0 : stopAt d (abs r) m = 0 := by
          rw [← List.length_take_of_le hkl, List.isEmpty_iff.mp hemp]; rfl
        have hU : upTo d (abs r) = 0 := by rw [stopAt_eq] at hk0; omega
        rw [hk0] at e2 ⊢
        rw [stopAt_eq d (List.drop 0 _), List.drop_zero, hU, Nat.min_zero]
        exact ⟨r1, by rw [List.take_zero, List.append_nil], e2, e3, e4, e5⟩
      · rename_i hemp
        have hkpos : 0 < stopAt d (abs r) m := Nat.pos_of_ne_zero fun h => hemp (by rw [h]; rfl)
        obtain ⟨r2, f1, f2, f3, f4, f5⟩ := ih r1 (remaining - r1.chunk) (acc ++ (abs r).take (stopAt d (abs r) m)) e3 e4
          (e5 ▸ hdc) (by rw [e2, List.length_drop]; omega)
        rw [e5, hrest.2, e2] at f1 f2
        exact ⟨r2, by rw [e5, f1, List.take_add, List.append_assoc], by rw [f2, List.drop_drop], f3, f4, f5.trans e5⟩
    · rename_i hrem
      rw [show remaining.toNat = 0 by omega, stopAt_zero]
      exact ⟨r, by rw [List.take_zero, List.append_nil], rfl, hinv, hpl, rfl⟩

/-- **`pipe_until(d)`**, for both values of `consume_delimiter`: the chunk-wise loop, then the peek-and-step tail -/
theorem pipeUntil_stops (r : R σ) (d : Bytes) (size : Option Int) (hinv : Inv r) (hpl : r.pos ≤ r.len)
    (hs : ∀ s, size = some s → s = -1 ∨ 0 ≤ s) (hd : d ≠ []) (hdc : (d.length : Int) ≤ r.chunk) :
    Stops (abs r) d (stopAt d (abs r) (want (abs r) size)) r.chunk (pipeUntil r d false size) (pipeUntil r d true size) := by
  -- the fuel suffices, and the loop runs on the normalised size
  have h := pipeUntilLoop_refines d hd _ r (normalizeSize r size) [] hinv hpl hdc (fuel_enough r hinv hpl)
  rw [stopAt_normalize r d size hinv hpl hd hs, List.nil_append] at h
  obtain ⟨r', e1, e⟩ := h
  refine Stops.of_exit ⟨r', ?_, e⟩ fun r1 h1 => ?_
  · unfold pipeUntil; simp only [e1]; rfl
  · obtain rfl : r' = r1 := by
      unfold pipeUntil at h1
      simp only [e1] at h1
      exact (Prod.mk.inj h1).2
    unfold pipeUntil tailPeek
    simp only [e1]
    rfl

/-- **`pipe_until(d)`** without consuming the delimiter writes exactly what `read_until(d, size)` returns on the flat text -/
theorem pipeUntil_refines (r : R σ) (d : Bytes) (size : Option Int) (hinv : Inv r) (hpl : r.pos ≤ r.len)
    (hs : ∀ s, size = some s → s = -1 ∨ 0 ≤ s) (hd : d ≠ []) (hdc : (d.length : Int) ≤ r.chunk) :
    ∃ r', pipeUntil r d false size = (.ok ((abs r).take (stopAt d (abs r) (want (abs r) size))), r') ∧
      abs r' = (abs r).drop (stopAt d (abs r) (want (abs r) size)) ∧ Inv r' ∧ r'.pos ≤ r'.len ∧ r'.chunk = r.chunk :=
  (pipeUntil_stops r d size hinv hpl hs hd hdc).refines

/-- **`pipe_until(d, consume_delimiter=True)`**: writes the same bytes; steps over the delimiter iff the cursor is then at
    it, otherwise raises `DelimiterError` with the cursor left just behind what was written -/
theorem pipeUntil_consume_refines (r : R σ) (d : Bytes) (size : Option Int) (hinv : Inv r) (hpl : r.pos ≤ r.len)
    (hs : ∀ s, size = some s → s = -1 ∨ 0 ≤ s) (hd : d ≠ []) (hdc : (d.length : Int) ≤ r.chunk) :
    let k := stopAt d (abs r) (want (abs r) size)
    let out := pipeUntil r d true size
    ((((abs r).drop k).take d.length = d) →
      out.1 = .ok ((abs r).take k) ∧ abs out.2 = (abs r).drop (k + d.length) ∧ Inv out.2 ∧ out.2.pos ≤ out.2.len ∧
        out.2.chunk = r.chunk) ∧
    ((((abs r).drop k).take d.length ≠ d) →
      out.1 = .delimErr ∧ abs out.2 = (abs r).drop k ∧ Inv out.2 ∧ out.2.pos ≤ out.2.len ∧ out.2.chunk = r.chunk) :=
  (pipeUntil_stops r d size hinv hpl hs hd hdc).consume_refines hdc

/-- **`read_until(d, size)`** for both values of `consume_delimiter` and on *both* branches: the in-memory join below 128
    chunks (`_read_until`) and the switch to `pipe_until` above -/
theorem readUntil_stops (r : R σ) (d : Bytes) (size : Option Int) (hinv : Inv r) (hpl : r.pos ≤ r.len)
    (hs : ∀ s, size = some s → s = -1 ∨ 0 ≤ s) (hd : d ≠ []) (hdc : (d.length : Int) ≤ r.chunk) :
    Stops (abs r) d (stopAt d (abs r) (want (abs r) size)) r.chunk (readUntil r d size false) (readUntil r d size true) := by
  have h0 := (normalize_cases r size hinv hpl hs).1
  rw [← stopAt_normalize r d size hinv hpl hd hs]
  unfold readUntil
  dsimp only
  split
  · exact readUntil'_stops r d _ hinv hpl h0 hd hdc
  · have h := pipeUntil_stops r d (some (normalizeSize r size)) hinv hpl (fun s h => Or.inr (by cases h; exact h0)) hd hdc
    rwa [want_some _ _ h0] at h

/-- **`read_until(d, size)`**, delimiter not consumed, *both* branches (the in-memory join below 128 chunks and the switch to
    `pipe_until` above): returns the text up to the first occurrence of the delimiter / `size` bytes / the end -/
theorem readUntil_refines_all (r : R σ) (d : Bytes) (size : Option Int) (hinv : Inv r) (hpl : r.pos ≤ r.len)
    (hs : ∀ s, size = some s → s = -1 ∨ 0 ≤ s) (hd : d ≠ []) (hdc : (d.length : Int) ≤ r.chunk) :
    ∃ r', readUntil r d size false = (.ok ((abs r).take (stopAt d (abs r) (want (abs r) size))), r') ∧
      abs r' = (abs r).drop (stopAt d (abs r) (want (abs r) size)) ∧ Inv r' ∧ r'.pos ≤ r'.len ∧ r'.chunk = r.chunk :=
  (readUntil_stops r d size hinv hpl hs hd hdc).refines

/-- **`read_until(d, size, consume_delimiter=True)`**, size `None`/`-1`/≥ 0, both branches -/
theorem readUntil_consume_refines (r : R σ) (d : Bytes) (size : Option Int) (hinv : Inv r) (hpl : r.pos ≤ r.len)
    (hs : ∀ s, size = some s → s = -1 ∨ 0 ≤ s) (hd : d ≠ []) (hdc : (d.length : Int) ≤ r.chunk) :
    let k := stopAt d (abs r) (want (abs r) size)
    let out := readUntil r d size true
    ((((abs r).drop k).take d.length = d) →
      out.1 = .ok ((abs r).take k) ∧ abs out.2 = (abs r).drop (k + d.length) ∧ Inv out.2 ∧ out.2.pos ≤ out.2.len ∧
        out.2.chunk = r.chunk) ∧
    ((((abs r).drop k).take d.length ≠ d) →
      out.1 = .delimErr ∧ abs out.2 = (abs r).drop k ∧ Inv out.2 ∧ out.2.pos ≤ out.2.len ∧ out.2.chunk = r.chunk) :=
  (readUntil_stops r d size hinv hpl hs hd hdc).consume_refines hdc

/-- how far `readline(size)` goes on the flat text `A`: through the first LF, at most `n` bytes, at most to the end -/
def lineStop (A : Bytes) (n : Nat) : Nat :=
  min n (match firstOcc [10] A with | some p => p + 1 | none => A.length)

/-- through the delimiter if there is one, else to the end -/
theorem lineStop_eq (A : Bytes) (n : Nat) : lineStop A n = min n (min (upTo [10] A + 1) A.length) := by
  unfold lineStop upTo
  rcases firstOcc_spec [10] A (List.cons_ne_nil _ _) with ⟨h, _⟩ | ⟨p, h, ho, _⟩
  · rw [h]; exact congrArg (min n) (Nat.min_eq_right (Nat.le_succ _)).symm
  · rw [h]; exact congrArg (min n) (Nat.min_eq_left (occ_lt_length [10] A p (List.cons_ne_nil _ _) ho)).symm

theorem lineStop_big (A : Bytes) (n : Nat) (hn : A.length ≤ n) : lineStop A n = lineStop A A.length := by
  rw [lineStop_eq, lineStop_eq, Nat.min_eq_right (Nat.le_trans (Nat.min_le_right _ _) hn),
    Nat.min_eq_right (Nat.min_le_right _ _)]

/-- `read_until(LF, n)` followed by `read(1)` when it came back short = one line -/
theorem lineStop_of_stopAt (A : Bytes) (n : Nat) :
    (stopAt [10] A n < n → A.take (stopAt [10] A n + 1) = A.take (lineStop A n) ∧ A.drop (stopAt [10] A n + 1) = A.drop (lineStop A n)) ∧
    (¬ stopAt [10] A n < n → stopAt [10] A n = lineStop A n) := by
  have hU := upTo_le [10] A (List.cons_ne_nil _ _)
  rw [stopAt_eq, lineStop_eq]
  constructor
  · intro hlt
    have hUn : upTo [10] A < n := by omega
    have hm : min (upTo [10] A + 1) A.length = min (min (upTo [10] A + 1) A.length) A.length := by
      rw [Nat.min_assoc, Nat.min_self]
    rw [Nat.min_eq_right (Nat.le_of_lt hUn), Nat.min_eq_right (Nat.le_trans (Nat.min_le_left _ _) hUn)]
    exact ⟨List.take_eq_take_iff.mpr hm, List.drop_eq_drop_iff.mpr hm⟩
  · intro hge
    have hnU : n ≤ upTo [10] A := by omega
    rw [Nat.min_eq_left hnU, Nat.min_eq_left (Nat.le_min.mpr ⟨Nat.le_succ_of_le hnU, Nat.le_trans hnU hU⟩)]

/-- **`readline(size)`** returns the next line - through the first LF, at most `size` bytes, at most to the end of the
    declared data - and leaves exactly the rest -/
theorem readline_refines (r : R σ) (size : Option Int) (hinv : Inv r) (hpl : r.pos ≤ r.len)
    (hs : ∀ s, size = some s → s = -1 ∨ 0 ≤ s) :
    ∃ r', readline r size = (.ok ((abs r).take (lineStop (abs r) (want (abs r) size))), r') ∧
      abs r' = (abs r).drop (lineStop (abs r) (want (abs r) size)) ∧ Inv r' ∧ r'.pos ≤ r'.len ∧ r'.chunk = r.chunk := by
  have hc := hinv.chunk_pos
  have h0 := (normalize_cases r size hinv hpl hs).1
  rw [← normalize_irrelevant r size (lineStop (abs r)) hinv hpl hs fun n hn => lineStop_big _ n hn]
  obtain ⟨r1, e1, e2, e3, e4, e5⟩ := readUntil_refines_all r [10] (some (normalizeSize r size)) hinv hpl
    (fun s h => Or.inr (by cases h; exact h0)) (List.cons_ne_nil _ _) (by show (1 : Int) ≤ r.chunk; omega)
  rw [want_some _ _ h0] at e1 e2
  obtain ⟨c1, c2⟩ := lineStop_of_stopAt (abs r) (normalizeSize r size).toNat
  unfold readline
  simp only [e1]
  rw [List.length_take_of_le (stopAt_le_length [10] (abs r) _ (List.cons_ne_nil _ _))]
  by_cases hshort : stopAt [10] (abs r) (normalizeSize r size).toNat < (normalizeSize r size).toNat
  · rw [if_pos (Int.lt_toNat.mp hshort)]
    obtain ⟨g1, g2, g3, g4, g5⟩ := read_refines r1 (some 1) e3 e4 fun s h => Or.inr (by cases h; decide)
    rw [want_some _ _ (by decide), e2] at g1 g2
    obtain ⟨t1, t2⟩ := c1 hshort
    exact ⟨_, by rw [g1, ← t1, List.take_add]; rfl, by rw [g2, ← t2, List.drop_drop]; rfl, g3, g4, g5.trans e5⟩
  · rw [if_neg (fun h => hshort (Int.lt_toNat.mpr h)), ← c2 hshort]
    exact ⟨r1, rfl, e2, e3, e4, e5⟩

/-- `readlines(hint)` on the flat text: lines are cut off one after the other until the text is used up or, for `hint ≥ 0`,
    the total reaches `hint` (so `hint = 0` yields one line, as the code does) -/
def specLines : Nat → Bytes → Int → Int → List Bytes → List Bytes × Bytes
  | 0, A, _, _, acc => (acc, A)
  | fuel + 1, A, hint, nread, acc =>
    let k := lineStop A A.length
    if (A.take k).isEmpty then (acc, A.drop k) else
    if hint ≥ 0 then
      if nread + (A.take k).length ≥ hint then (acc ++ [A.take k], A.drop k)
      else specLines fuel (A.drop k) hint (nread + (A.take k).length) (acc ++ [A.take k])
    else specLines fuel (A.drop k) hint nread (acc ++ [A.take k])

/-- the `while True` loop of `readlines` computes `specLines` of the text still to come -/
theorem readlinesLoop_refines : ∀ (fuel : Nat) (r : R σ) (hint nread : Int) (acc : List Bytes), Inv r → r.pos ≤ r.len →
    ∃ r', readlinesLoop fuel r hint nread acc = (some (specLines fuel (abs r) hint nread acc).1, r') ∧
      abs r' = (specLines fuel (abs r) hint nread acc).2 ∧ Inv r' ∧ r'.pos ≤ r'.len ∧ r'.chunk = r.chunk := by
  intro fuel
  induction fuel with
  | zero => intro r hint nread acc hinv hpl; exact ⟨r, rfl, rfl, hinv, hpl, rfl⟩
  | succ n ih =>
    intro r hint nread acc hinv hpl
    obtain ⟨r1, e1, e2, e3, e4, e5⟩ := readline_refines r (some (-1)) hinv hpl (fun s h => by cases h; left; rfl)
    have hw : want (abs r) (some (-1)) = (abs r).length := by unfold want; simp
    rw [hw] at e1 e2
    unfold readlinesLoop specLines
    simp only [e1]
    generalize (abs r).take (lineStop (abs r) (abs r).length) = line
    by_cases hemp : line.isEmpty = true
    · simp only [hemp, if_true]
      exact ⟨r1, rfl, e2, e3, e4, e5⟩
    · simp only [hemp, Bool.false_eq_true, if_false]
      by_cases hh : hint ≥ 0
      · simp only [hh, if_true]
        by_cases hr : nread + line.length ≥ hint
        · simp only [hr, if_true]
          exact ⟨r1, rfl, e2, e3, e4, e5⟩
        · simp only [hr, if_false]
          obtain ⟨r2, f1, f2, f3, f4, f5⟩ := ih r1 hint (nread + line.length) (acc ++ [line]) e3 e4
          rw [e2] at f1 f2
          exact ⟨r2, f1, f2, f3, f4, f5.trans e5⟩
      · simp only [hh, if_false]
        obtain ⟨r2, f1, f2, f3, f4, f5⟩ := ih r1 hint nread (acc ++ [line]) e3 e4
        rw [e2] at f1 f2
        exact ⟨r2, f1, f2, f3, f4, f5.trans e5⟩

/-- more fuel than there are bytes makes no difference -/
theorem specLines_fuel : ∀ (f1 f2 : Nat) (A : Bytes) (hint nread : Int) (acc : List Bytes), A.length < f1 → A.length < f2 →
    specLines f1 A hint nread acc = specLines f2 A hint nread acc := by
  intro f1
  induction f1 with
  | zero => intro f2 A _ _ _ h; omega
  | succ n ih =>
    intro f2 A hint nread acc h1 h2
    cases f2 with
    | zero => omega
    | succ m =>
      unfold specLines
      simp only
      by_cases hemp : (A.take (lineStop A A.length)).isEmpty = true
      · simp only [hemp, if_true]
      · simp only [hemp, Bool.false_eq_true, if_false]
        -- a non-empty line was cut off, so the rest is shorter
        have hk : 0 < lineStop A A.length := Nat.pos_of_ne_zero fun h0 => hemp (by rw [h0]; rfl)
        have hA : 0 < A.length := Nat.pos_of_ne_zero fun h0 =>
          hemp (by rw [List.eq_nil_of_length_eq_zero h0]; rfl)
        have hd : (A.drop (lineStop A A.length)).length < n ∧ (A.drop (lineStop A A.length)).length < m := by
          rw [List.length_drop]; omega
        rw [ih m _ hint _ _ hd.1 hd.2, ih m _ hint nread _ hd.1 hd.2]

/-- the lines `readlines(hint)` returns on the flat text `A`, and what is left of it -/
def linesOf (A : Bytes) (hint : Int) : List Bytes × Bytes := specLines (A.length + 1) A hint 0 []

/-- **`readlines(hint)`** returns exactly the lines of the flat cursor and leaves exactly the rest -/
theorem readlines_refines (r : R σ) (hint : Int) (hinv : Inv r) (hpl : r.pos ≤ r.len) :
    ∃ r', readlines r hint = (some (linesOf (abs r) hint).1, r') ∧ abs r' = (linesOf (abs r) hint).2 ∧
      Inv r' ∧ r'.pos ≤ r'.len ∧ r'.chunk = r.chunk := by
  obtain ⟨r', e1, e2, e3, e4, e5⟩ := readlinesLoop_refines (Source.bound r.src + r.buf.length + 3) r hint 0 [] hinv hpl
  have hf := specLines_fuel (Source.bound r.src + r.buf.length + 3) ((abs r).length + 1) (abs r) hint 0 []
    (fuel_enough r hinv hpl) (by omega)
  rw [hf] at e1 e2
  exact ⟨r', e1, e2, e3, e4, e5⟩
end Rd
