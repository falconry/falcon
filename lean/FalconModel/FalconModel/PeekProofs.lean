import FalconModel.RULoop
/-! C14: `peek(size)` shows the next bytes of the cursor without moving it (`peek_spec`, from `fillBuffer_spec`); the
    `consume_delimiter=True` tail `tailPeek` (a peek followed by a step) succeeds exactly when the cursor is at the delimiter
    (`tailPeek_spec`). Last, the two statements about `_finalize_read_until` with consumption that the documents cite:
    `finishRU_consume_peek` and `finalize_consume_of_notfound` (`finishRU_consume_search` resp. `notfound_consume` of RULoop, the
    latter composed with `tailPeek_spec`). -/
namespace Rd
variable {σ : Type} [Source σ] [LawfulSource σ]

/-- the last conjunct of `fillBuffer_spec` -/
theorem fillBuffer_full (r : R σ) (hinv : Inv r) (hpl : r.pos ≤ r.len) :
    r.chunk ≤ (fillBuffer r).len - (fillBuffer r).pos ∨ avail (fillBuffer r) = [] :=
  (fillBuffer_spec r hinv hpl).2.2.2.2

/-- a slice of `n` bytes from the position is what the cursor sees next, provided the buffer holds `n` bytes or all there is -/
theorem slice_abs (r : R σ) (n : Int) (hinv : Inv r) (hpl : r.pos ≤ r.len) (h0 : 0 ≤ n)
    (hcase : n ≤ r.len - r.pos ∨ avail r = []) :
    slice r.buf r.pos (r.pos + n) = (r.buf.drop r.pos.toNat).take n.toNat ∧
    slice r.buf r.pos (r.pos + n) = (abs r).take n.toNat := by
  have hp0 := hinv.pos_nonneg
  have hs : slice r.buf r.pos (r.pos + n) = (r.buf.drop r.pos.toNat).take n.toNat := by
    rw [slice_nonneg _ _ _ hp0 (Int.le_add_of_nonneg_right h0), Int.toNat_add hp0 h0, Nat.add_sub_cancel_left]
  refine ⟨hs, ?_⟩
  rw [hs, abs_eq r hinv hpl]
  rcases hcase with h | h
  · rw [List.take_append_of_le_length (Int.toNat_le.mpr (unread_length r hinv hpl ▸ h))]
  · rw [h, List.append_nil]

/-- `peek(size)` returns the next `min size' |abs|` bytes (`size'` = `size` clamped to the chunk size), which then sit in
    the buffer, and leaves the cursor where it was -/
theorem peek_spec (r : R σ) (size : Int) (hinv : Inv r) (hpl : r.pos ≤ r.len) :
    let k := (if size < 0 || size > r.chunk then r.chunk else size).toNat
    (peek r size).1 = ((peek r size).2.buf.drop (peek r size).2.pos.toNat).take k ∧
    (peek r size).1 = (abs r).take k ∧ abs (peek r size).2 = abs r ∧ Inv (peek r size).2 ∧
    (peek r size).2.pos ≤ (peek r size).2.len ∧ (peek r size).2.chunk = r.chunk := by
  intro k
  have hcp := hinv.chunk_pos
  unfold peek
  simp only [k]
  generalize hsz : (if (size < 0 || size > r.chunk) = true then r.chunk else size) = sz
  have hsz0 : 0 ≤ sz ∧ sz ≤ r.chunk := by
    rw [← hsz]; split
    · omega
    · rename_i h; simp at h; omega
  split
  · obtain ⟨f1, f2, f3, f4, f5⟩ := fillBuffer_spec r hinv hpl
    obtain ⟨a, b⟩ := slice_abs _ sz f2 f3 hsz0.1 (f5.imp_left (Int.le_trans hsz0.2))
    exact ⟨a, f1 ▸ b, f1, f2, f3, f4⟩
  · rename_i hn
    obtain ⟨a, b⟩ := slice_abs r sz hinv hpl hsz0.1 (Or.inl (Int.not_lt.mp hn))
    exact ⟨a, b, rfl, hinv, hpl, rfl⟩

/-- **`peek(size)`**: `peek_spec` without its first conjunct -/
theorem peek_refines (r : R σ) (size : Int) (hinv : Inv r) (hpl : r.pos ≤ r.len) :
    let k := (if size < 0 || size > r.chunk then r.chunk else size).toNat
    (peek r size).1 = (abs r).take k ∧ abs (peek r size).2 = abs r ∧ Inv (peek r size).2 ∧
    (peek r size).2.pos ≤ (peek r size).2.len ∧ (peek r size).2.chunk = r.chunk :=
  (peek_spec r size hinv hpl).2

#print axioms peek_refines

/-- `tailPeek` succeeds exactly when the cursor is at the delimiter, then steps over it; otherwise the cursor does not move -/
theorem tailPeek_spec (r0 : R σ) (d ret : Bytes) (hinv : Inv r0) (hpl : r0.pos ≤ r0.len)
    (hdc : (d.length : Int) ≤ r0.chunk) :
    ((abs r0).take d.length = d →
      (tailPeek r0 d ret).1 = .ok ret ∧ abs (tailPeek r0 d ret).2 = (abs r0).drop d.length ∧
      Inv (tailPeek r0 d ret).2 ∧ (tailPeek r0 d ret).2.pos ≤ (tailPeek r0 d ret).2.len) ∧
    ((abs r0).take d.length ≠ d →
      (tailPeek r0 d ret).1 = .delimErr ∧ abs (tailPeek r0 d ret).2 = abs r0 ∧
      Inv (tailPeek r0 d ret).2 ∧ (tailPeek r0 d ret).2.pos ≤ (tailPeek r0 d ret).2.len) := by
  have hk : (if ((d.length : Int) < 0 || (d.length : Int) > r0.chunk) = true then r0.chunk else (d.length : Int)).toNat
      = d.length := by
    rw [decide_eq_false (Int.not_lt.mpr (Int.natCast_nonneg _)), decide_eq_false (Int.not_lt.mpr hdc)]; rfl
  obtain ⟨p0, p1, p2, p3, p4, _⟩ := peek_spec r0 (d.length : Int) hinv hpl
  rw [hk] at p0 p1
  unfold tailPeek
  generalize peek r0 (d.length : Int) = x at p0 p1 p2 p3 p4
  obtain ⟨p, r⟩ := x
  dsimp only at p0 p1 p2 p3 p4 ⊢
  constructor
  · intro hmatch
    obtain rfl : p = d := p1.trans hmatch
    rw [bne_self_eq_false, if_neg Bool.false_ne_true]
    -- the delimiter is entirely in the buffer, so stepping over it stays inside
    have hin : p.length ≤ (r.buf.drop r.pos.toNat).length := by
      have h := congrArg List.length p0
      rw [List.length_take] at h
      exact h ▸ Nat.min_le_right _ _
    have hle : r.pos + p.length ≤ r.len :=
      Int.add_le_of_le_sub_left (unread_length r p3 p4 ▸ Int.ofNat_le.mpr hin)
    have hnn : 0 ≤ r.pos + p.length := Int.add_nonneg p3.pos_nonneg (Int.natCast_nonneg _)
    refine ⟨rfl, ?_, ⟨p3.len_eq, hnn, p3.rem_nonneg, p3.chunk_pos, Or.inl hle⟩, hle⟩
    show sliceFrom r.buf (r.pos + p.length) ++ avail r = _
    rw [← p2, abs_eq r p3 p4, sliceFrom_nonneg _ _ hnn, Int.toNat_add p3.pos_nonneg (Int.natCast_nonneg _),
      Int.toNat_natCast, List.drop_append_of_le_length hin, List.drop_drop]
  · intro hmis
    have hne : (p != d) = true := bne_iff_ne.mpr fun e => hmis (p1 ▸ e)
    rw [hne, if_pos rfl]
    exact ⟨rfl, p2, p3, p4⟩

#print axioms tailPeek_spec

/-- the tail never changes the chunk size -/
theorem tailPeek_chunk (r0 : R σ) (d ret : Bytes) (hinv : Inv r0) (hpl : r0.pos ≤ r0.len) :
    (tailPeek r0 d ret).2.chunk = r0.chunk := by
  have hc := (peek_refines r0 (d.length : Int) hinv hpl).2.2.2.2
  unfold tailPeek
  generalize peek r0 (d.length : Int) = x at hc
  split
  split <;> exact hc

/-- `_finalize_read_until(..., consume_bytes=len(d), delimiter=d)` with the delimiter not located beforehand is the
    non-consuming finish followed by the peek-and-step tail -/
theorem finishRU_consume_peek (r : R σ) (sz : Int) (bl : List Bytes) (h : Int) (d : Bytes) (dpos : Int)
    (next : Option Bytes) (hdp : dpos < 0) (hdl : 0 < d.length) :
    finishRU r sz bl h (d.length : Int) (some d) dpos next
      = tailPeek (finishRU r sz bl h 0 (some d) dpos next).2 d
          (match (finishRU r sz bl h 0 (some d) dpos next).1 with | .ok ret => ret | _ => []) := by
  obtain ⟨ret, r0, h0⟩ := finishRU_zero_ok r sz bl h (some d) dpos next
  rw [finishRU_consume_search r sz bl h d dpos next hdp hdl ret r0 h0, h0]

#print axioms finishRU_consume_peek

/-- the three exits of the `_read_until` loop that finish without having located the delimiter (enough data, end of
    data, enough accumulated) with `consume_delimiter=True`: whatever the non-consuming finish returned, the consuming
    one returns the same bytes and steps over the delimiter iff the cursor is at it, and raises `DelimiterError`
    without moving otherwise -/
theorem finalize_consume_of_notfound (r r0 : R σ) (size : Int) (result : List Bytes) (have_ : Int) (d ret : Bytes)
    (next : Option Bytes) (hdl : 0 < d.length) (hfind : find r.buf d r.pos = -1)
    (h0 : finalizeRU r size result have_ 0 (some d) (-1) next = (.ok ret, r0))
    (hinv : Inv r0) (hpl : r0.pos ≤ r0.len) (hdc : (d.length : Int) ≤ r0.chunk) :
    let out := finalizeRU r size result have_ (d.length : Int) (some d) (-1) next
    ((abs r0).take d.length = d →
      out.1 = .ok ret ∧ abs out.2 = (abs r0).drop d.length ∧ Inv out.2 ∧ out.2.pos ≤ out.2.len) ∧
    ((abs r0).take d.length ≠ d →
      out.1 = .delimErr ∧ abs out.2 = abs r0 ∧ Inv out.2 ∧ out.2.pos ≤ out.2.len) := by
  intro out
  rw [show out = tailPeek r0 d ret from notfound_consume r r0 size result have_ d ret next hdl hfind h0]
  exact tailPeek_spec r0 d ret hinv hpl hdc

#print axioms finalize_consume_of_notfound
end Rd
