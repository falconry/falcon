import FalconModel.SharedMemoProofs
import FalconModel.SchedProofs
import FalconModel.NonInterf
/-! C19(c) composition: per-request programs whose ONLY shared accesses go through *safe protocols* are non-interfering.

    A protocol (`Proto`) is a multi-step, interleavable way of obtaining an answer from shared state (a call of a memoised
    function, a use of a lazily initialised cell, a `find` on the lazily compiled router).  It is `Safe` for a specification
    `spec : Q → R` if some invariant over the shared state and the protocol states of ALL threads is preserved by every thread
    step / start / finish / environment action and forces every delivered answer to be `spec q`.
    `noninterference`: under any schedule the local state of task `i` is what `i` computes alone from `spec`.
    The three kinds of the inventory are instances (`memo_safe`, `lazy_safe`, `router_safe` - the last two reuse
    `Lz.run_inv` / `Sc.run_inv`, the first `Sm.step_inv`), products of safe protocols are safe (`prod_safe`), hence
    `falcon_shared_noninterference`.  That Falcon's per-request code has this shape - every write after import goes to the
    request's own objects or to one of the inventoried items - is what the AST inventory of `harness/props/c19.py` checks. -/
namespace Cp

structure Proto (S P Q R : Type) where
  start : Q → P
  step : Nat → Nat → S → P → S × P      -- thread id, scheduler choice
  result : P → Option R
  env : Nat → S → S                     -- environment action number n (`cache_clear()`, ...)

def upd {A : Type} (g : Nat → A) (i : Nat) (a : A) : Nat → A := fun j => if j = i then a else g j

theorem upd_same {A : Type} (g : Nat → A) (i : Nat) (a : A) : upd g i a i = a := by simp [upd]
theorem upd_other {A : Type} (g : Nat → A) (i j : Nat) (a : A) (h : j ≠ i) : upd g i a j = g j := by simp [upd, h]

theorem upd_self {A : Type} (g : Nat → A) (i : Nat) : upd g i (g i) = g := by
  funext j
  by_cases hji : j = i
  · rw [hji, upd_same]
  · rw [upd_other _ _ _ _ hji]

/-- a property of all accesses in flight survives an update of thread `i` if the new entry of `i` has it -/
theorem upd_pcs {Q P : Type} {C : Nat → Q → P → Prop} {pcs : Nat → Option (Q × P)} {i : Nat} {x : Option (Q × P)}
    (h : ∀ j q p, pcs j = some (q, p) → C j q p) (hx : ∀ q p, x = some (q, p) → C i q p) :
    ∀ j q p, upd pcs i x j = some (q, p) → C j q p := by
  intro j q p hj
  by_cases hji : j = i
  · subst hji; rw [upd_same] at hj; exact hx q p hj
  · rw [upd_other _ _ _ _ hji] at hj; exact h j q p hj

structure Safe {S P Q R : Type} (pr : Proto S P Q R) (spec : Q → R) (I : S → (Nat → Option (Q × P)) → Prop) : Prop where
  start : ∀ s pcs i q, I s pcs → pcs i = none → I s (upd pcs i (some (q, pr.start q)))
  step : ∀ s pcs i q p c, I s pcs → pcs i = some (q, p) → pr.result p = none →
      I (pr.step i c s p).1 (upd pcs i (some (q, (pr.step i c s p).2)))
  finish : ∀ s pcs i q p r, I s pcs → pcs i = some (q, p) → pr.result p = some r → I s (upd pcs i none)
  env : ∀ s pcs n, I s pcs → I (pr.env n s) pcs
  result : ∀ s pcs i q p r, I s pcs → pcs i = some (q, p) → pr.result p = some r → r = spec q

section tasks
variable {S P Q R L : Type}

/-- the program of task `i`: finished (`none`) or a shared access `q` with a continuation -/
abbrev Prog (L Q R : Type) := Nat → L → Option (Q × (R → L))

structure St (S P Q L : Type) where
  locals : Nat → L
  sh : S
  pcs : Nat → Option (Q × P)
  done : Nat → Nat            -- ghost: completed accesses per task

inductive Act where
  | run (i : Nat) (c : Nat)
  | env (n : Nat)

def step (pr : Proto S P Q R) (prog : Prog L Q R) (s : St S P Q L) : Act → St S P Q L
  | .run i c =>
    match s.pcs i with
    | none =>
      (match prog i (s.locals i) with
       | none => s
       | some (q, _) => { s with pcs := upd s.pcs i (some (q, pr.start q)) })
    | some (q, p) =>
      (match pr.result p with
       | some r =>
         (match prog i (s.locals i) with
          | some (_, cont) => { s with locals := upd s.locals i (cont r), pcs := upd s.pcs i none, done := upd s.done i (s.done i + 1) }
          | none => { s with pcs := upd s.pcs i none })
       | none => { s with sh := (pr.step i c s.sh p).1, pcs := upd s.pcs i (some (q, (pr.step i c s.sh p).2)) })
  | .env n => { s with sh := pr.env n s.sh }

def exec (pr : Proto S P Q R) (prog : Prog L Q R) (s : St S P Q L) (acts : List Act) : St S P Q L :=
  acts.foldl (step pr prog) s

def soloStep (prog : Prog L Q R) (spec : Q → R) (i : Nat) (l : L) : L :=
  match prog i l with
  | none => l
  | some (q, cont) => cont (spec q)

/-- `n` accesses of task `i` alone, answered by the specification -/
def solo (prog : Prog L Q R) (spec : Q → R) (i : Nat) : Nat → L → L
  | 0, l => l
  | n + 1, l => soloStep prog spec i (solo prog spec i n l)

structure Rel (pr : Proto S P Q R) (prog : Prog L Q R) (spec : Q → R) (I : S → (Nat → Option (Q × P)) → Prop)
    (init : Nat → L) (s : St S P Q L) : Prop where
  inv : I s.sh s.pcs
  loc : ∀ i, s.locals i = solo prog spec i (s.done i) (init i)
  asked : ∀ i q p, s.pcs i = some (q, p) → ∃ cont, prog i (s.locals i) = some (q, cont)

theorem step_rel (pr : Proto S P Q R) (prog : Prog L Q R) (spec : Q → R) (I : S → (Nat → Option (Q × P)) → Prop)
    (hs : Safe pr spec I) (init : Nat → L) (s : St S P Q L) (a : Act) (h : Rel pr prog spec I init s) :
    Rel pr prog spec I init (step pr prog s a) := by
  fun_cases step pr prog s a
  case case1 => exact h
  case case2 i c hp q cont hq =>
    exact ⟨hs.start _ _ i q h.inv hp, h.loc, upd_pcs h.asked fun _ _ e => by cases e; exact ⟨cont, hq⟩⟩
  case case3 i c q p hp r hr q' cont hc =>
    refine ⟨hs.finish _ _ i q p r h.inv hp hr, fun j => ?_, fun j q'' p'' hj => ?_⟩
    · dsimp only
      by_cases hji : j = i
      · obtain ⟨_, hq⟩ := h.asked i q p hp
        rw [hc] at hq
        cases hq
        rw [hji, upd_same, upd_same, solo, ← h.loc i, soloStep, hc, hs.result _ _ i q p r h.inv hp hr]
      · rw [upd_other _ _ _ _ hji, upd_other _ _ _ _ hji]
        exact h.loc j
    · dsimp only at hj ⊢
      by_cases hji : j = i
      · rw [hji, upd_same] at hj; cases hj
      · rw [upd_other _ _ _ _ hji] at hj ⊢
        exact h.asked j q'' p'' hj
  case case4 i c q p hp r hr hn =>
    obtain ⟨_, hc⟩ := h.asked i q p hp
    rw [hn] at hc
    cases hc
  case case5 i c q p hp hr =>
    exact ⟨hs.step _ _ i q p c h.inv hp hr, h.loc, upd_pcs h.asked fun _ _ e => by cases e; exact h.asked i q p hp⟩
  case case6 n => exact ⟨hs.env _ _ n h.inv, h.loc, h.asked⟩

theorem exec_rel (pr : Proto S P Q R) (prog : Prog L Q R) (spec : Q → R) (I : S → (Nat → Option (Q × P)) → Prop)
    (hs : Safe pr spec I) (init : Nat → L) : ∀ (acts : List Act) (s : St S P Q L),
    Rel pr prog spec I init s → Rel pr prog spec I init (exec pr prog s acts) := by
  intro acts
  induction acts with
  | nil => intro s h; exact h
  | cons a rest ih => intro s h; exact ih _ (step_rel pr prog spec I hs init s a h)

/-- **non-interference through safe protocols**: tasks that touch only their own local state and reach shared state only
    through a protocol that is safe for `spec` end, after ANY interleaving of their steps (each shared access itself being
    interleaved with the accesses of the others) and of environment actions, exactly where they get alone when every access
    is answered by `spec` - in as many accesses as they have completed -/
theorem noninterference (pr : Proto S P Q R) (prog : Prog L Q R) (spec : Q → R) (I : S → (Nat → Option (Q × P)) → Prop)
    (hs : Safe pr spec I) (init : Nat → L) (sh0 : S) (h0 : I sh0 (fun _ => none)) (acts : List Act) (i : Nat) :
    let s := exec pr prog { locals := init, sh := sh0, pcs := fun _ => none, done := fun _ => 0 } acts
    s.locals i = solo prog spec i (s.done i) (init i) := by
  have := exec_rel pr prog spec I hs init acts { locals := init, sh := sh0, pcs := fun _ => none, done := fun _ => 0 }
    ⟨h0, fun _ => rfl, fun i q p h => by cases h⟩
  exact this.loc i

end tasks

/-! ### the existing lemma `Ni.noninterference_of_local_steps` speaks about the same solo runs -/
theorem solo_snoc {L Q R : Type} (prog : Prog L Q R) (spec : Q → R) (i : Nat) : ∀ (n : Nat) (l : L),
    solo prog spec i (n + 1) l = solo prog spec i n (soloStep prog spec i l) := by
  intro n
  induction n with
  | zero => intro l; rfl
  | succ n ih => intro l; show soloStep prog spec i (solo prog spec i (n + 1) l) = _; rw [ih]; rfl

theorem solo_eq_Ni {L K V : Type} (prog : Prog L K V) (f : K → V) (i : Nat) : ∀ (n : Nat) (l : L),
    solo prog f i n l = Ni.solo prog f i n l := by
  intro n
  induction n with
  | zero => intro l; rfl
  | succ n ih =>
    intro l
    rw [solo_snoc, ih, Ni.solo_succ]
    congr 1
    simp only [soloStep, Ni.soloStep]
    cases prog i l with
    | none => rfl
    | some x => rfl

/-! ### instance 1: the shared bounded memo (`Sm`) -/
section memo
variable {K V : Type} [DecidableEq K]

def mini (t : Sm.Table K V) (pc : Sm.Pc K V) : Sm.St K V := { table := t, pcs := fun _ => pc }

def memoProto (cap : Nat) (f : K → V) (storable : V → Bool) : Proto (Sm.Table K V) (Sm.Pc K V) K V where
  start := fun k => .looking k
  step := fun i c t pc => let s' := Sm.step cap f storable (mini t pc) (.step i c); (s'.table, s'.pcs i)
  result := fun pc => match pc with | .returned _ v => some v | _ => none
  env := fun _ _ => []

def keyOf : Sm.Pc K V → Option K
  | .idle => none
  | .looking k => some k
  | .computing k => some k
  | .storing k _ => some k
  | .returned k _ => some k

def MemoI (cap : Nat) (f : K → V) (t : Sm.Table K V) (pcs : Nat → Option (K × Sm.Pc K V)) : Prop :=
  Sm.Coh f t ∧ t.length ≤ cap ∧ ∀ i q p, pcs i = some (q, p) → Sm.GoodPc f p ∧ keyOf p = some q

omit [DecidableEq K] in
theorem mini_inv (cap : Nat) (f : K → V) (t : Sm.Table K V) (pc : Sm.Pc K V) (hc : Sm.Coh f t) (hb : t.length ≤ cap)
    (hg : Sm.GoodPc f pc) : Sm.Inv cap f (mini t pc) :=
  ⟨hc, fun _ => hg, fun _ hr => absurd hr List.not_mem_nil, hb⟩

theorem step_key (cap : Nat) (f : K → V) (storable : V → Bool) (t : Sm.Table K V) (pc : Sm.Pc K V) (i c : Nat) (q : K)
    (hk : keyOf pc = some q) : keyOf ((Sm.step cap f storable (mini t pc) (.step i c)).pcs i) = some q := by
  cases pc with
  | idle => cases hk
  | looking k | computing k =>
    simp only [Sm.step, mini]
    split <;> simp [Sm.setPc, keyOf] <;> exact Option.some.inj hk
  | storing k v => simp only [Sm.step, mini, Sm.setPc, if_true, keyOf]; exact hk
  | returned k v => exact hk

theorem memo_result {cap : Nat} {f : K → V} {storable : V → Bool} {p : Sm.Pc K V} {r : V}
    (h : (memoProto cap f storable).result p = some r) : ∃ k, p = .returned k r := by
  cases p with
  | returned k v => injection h with h; exact ⟨k, by rw [h]⟩
  | _ => cases h

theorem memo_safe (cap : Nat) (f : K → V) (storable : V → Bool) :
    Safe (memoProto cap f storable) f (MemoI cap f) := by
  refine ⟨?_, ?_, ?_, ?_, ?_⟩
  · intro t pcs i q ⟨hc, hb, hp⟩ _
    exact ⟨hc, hb, upd_pcs hp fun _ _ e => by cases e; exact ⟨trivial, rfl⟩⟩
  · intro t pcs i q p c ⟨hc, hb, hp⟩ hpi _
    have hgi := hp i q p hpi
    have hinv := Sm.step_inv cap f storable (mini t p) (.step i c) (mini_inv cap f t p hc hb hgi.1)
    exact ⟨hinv.coh, hinv.bound, upd_pcs hp fun _ _ e => by
      cases e; exact ⟨hinv.pcs i, step_key cap f storable t p i c q hgi.2⟩⟩
  · intro t pcs i q p r ⟨hc, hb, hp⟩ _ _
    exact ⟨hc, hb, upd_pcs hp fun _ _ e => by cases e⟩
  · intro t pcs n ⟨_, _, hp⟩
    exact ⟨fun _ he => absurd he List.not_mem_nil, Nat.zero_le _, hp⟩
  · intro t pcs i q p r ⟨_, _, hp⟩ hpi hr
    obtain ⟨k, rfl⟩ := memo_result hr
    obtain ⟨hv, hk⟩ := hp i q _ hpi
    rw [(hv : r = f k), Option.some.inj hk]
end memo

/-! ### instance 2: the lazily initialised cell (`Lz`) -/
section lazy
variable {V : Type}

def lmini (c : Option V) (pc : Lz.Pc V) : Lz.St V := { cell := c, pcs := fun _ => pc }

def lazyProto (d : V) : Proto (Option V) (Lz.Pc V) Unit V where
  start := fun _ => .start
  step := fun i _ c pc => let s' := Lz.run d (lmini c pc) i; (s'.cell, s'.pcs i)
  result := fun pc => match pc with | .done v => some v | _ => none
  env := fun _ c => c

def LazyI (d : V) (c : Option V) (pcs : Nat → Option (Unit × Lz.Pc V)) : Prop :=
  (c = none ∨ c = some d) ∧ ∀ i q p, pcs i = some (q, p) → Lz.GoodPc d c p

/-- a filled cell stays filled: only `made` writes it, and a good `made` writes `d` -/
theorem lazy_cell_mono (d : V) (c : Option V) (pc : Lz.Pc V) (i : Nat) (hg : Lz.GoodPc d c pc) (hcd : c = some d) :
    (Lz.run d (lmini c pc) i).cell = some d := by
  subst hcd
  cases pc with
  | made v => rw [(hg : v = d)]; rfl
  | _ => rfl

theorem lazy_result {d : V} {p : Lz.Pc V} {r : V} (h : (lazyProto d).result p = some r) : p = .done r := by
  cases p with
  | done v => injection h with h; rw [h]
  | _ => cases h

theorem lazy_safe (d : V) : Safe (lazyProto d) (fun _ => d) (LazyI d) := by
  refine ⟨?_, ?_, ?_, ?_, ?_⟩
  · intro c pcs i q ⟨hc, hp⟩ _
    exact ⟨hc, upd_pcs hp fun _ _ e => by cases e; trivial⟩
  · intro c pcs i q p ch ⟨hc, hp⟩ hpi _
    have hgi := hp i q p hpi
    have hinv := Lz.run_inv d (lmini c p) i ⟨hc, fun _ => hgi⟩
    refine ⟨hinv.cell, upd_pcs (fun j q' p' hj => ?_) fun _ _ e => by cases e; exact hinv.pcs i⟩
    exact Lz.GoodPc_mono d c _ p' (lazy_cell_mono d c p i hgi) (hp j q' p' hj)
  · intro c pcs i q p r ⟨hc, hp⟩ _ _
    exact ⟨hc, upd_pcs hp fun _ _ e => by cases e⟩
  · intro c pcs n h; exact h
  · intro c pcs i q p r ⟨_, hp⟩ hpi hr
    rw [lazy_result hr] at hpi
    exact hp i q _ hpi
end lazy

/-! ### instance 3: `find` on the lazily compiled router under `_compile_lock` (`Sc`) -/
section router

def routerProto (n : Nat) : Proto Sc.Sh Sc.Pc Unit (Nat × Nat × Nat) where
  start := fun _ => .start
  step := fun i _ sh pc => match Sc.step true n i sh pc with | some r => r | none => (sh, pc)
  result := fun pc => match pc with | .done v tv fl => some (v, tv, fl) | _ => none
  env := fun _ sh => sh

def pcOf (pcs : Nat → Option (Unit × Sc.Pc)) : Nat → Sc.Pc := fun i => match pcs i with | some (_, p) => p | none => .start

def RouterI (n : Nat) (sh : Sc.Sh) (pcs : Nat → Option (Unit × Sc.Pc)) : Prop := Sc.Inv n { sh := sh, pcs := pcOf pcs }

theorem pcOf_of_some {pcs : Nat → Option (Unit × Sc.Pc)} {i : Nat} {q : Unit} {p : Sc.Pc} (h : pcs i = some (q, p)) :
    pcOf pcs i = p := by
  rw [pcOf, h]

theorem pcOf_upd (pcs : Nat → Option (Unit × Sc.Pc)) (i : Nat) (x : Option (Unit × Sc.Pc)) :
    pcOf (upd pcs i x) = fun j => if j = i then pcOf (fun _ => x) i else pcOf pcs j := by
  funext j
  by_cases hji : j = i
  · rw [pcOf, hji, upd_same, if_pos rfl]; rfl
  · rw [pcOf, upd_other _ _ _ _ hji, if_neg hji]; rfl

theorem result_done {n : Nat} {p : Sc.Pc} {r : Nat × Nat × Nat} (h : (routerProto n).result p = some r) :
    p = .done r.1 r.2.1 r.2.2 := by
  cases p with
  | done v tv fl => injection h with h; rw [← h]
  | _ => cases h

theorem router_safe (n : Nat) : Safe (routerProto n) (fun _ => (1, 1, n)) (RouterI n) := by
  refine ⟨?_, ?_, ?_, ?_, ?_⟩
  · intro sh pcs i q h hp
    -- `.start` stands for "no access in flight": thread `i` gets the program counter it has anyway
    have : pcOf (upd pcs i (some (q, .start))) = pcOf pcs := by
      funext j
      by_cases hji : j = i
      · rw [pcOf, pcOf, hji, upd_same, hp]
      · rw [pcOf, pcOf, upd_other _ _ _ _ hji]
    rw [RouterI, ← this] at h; exact h
  · intro sh pcs i q p c h hp _
    have hrun := Sc.run_inv n { sh := sh, pcs := pcOf pcs } i h
    rw [Sc.St.run] at hrun
    dsimp only at hrun
    rw [pcOf_of_some hp] at hrun
    split at hrun
    · rename_i hst
      simp only [routerProto, hst]
      rw [RouterI, pcOf_upd]
      exact hrun
    · rename_i hst
      simp only [routerProto, hst]
      rw [← hp, upd_self]
      exact h
  · intro sh pcs i q p r h hp hr
    rw [RouterI, pcOf_upd]
    have hnc : ¬ Sc.isComp (pcOf pcs i) := by
      rw [pcOf_of_some hp, result_done hr]; exact id
    exact Sc.move_inv n { sh := sh, pcs := pcOf pcs } i .start h trivial
      (Sc.lazy_same n { sh := sh, pcs := pcOf pcs } i .start h hnc)
  · intro sh pcs k h; exact h
  · intro sh pcs i q p r h hp hr
    have hg := h.good i
    have hd := result_done hr
    subst hd
    change Sc.Good n sh i (pcOf pcs i) at hg
    rw [pcOf_of_some hp] at hg
    obtain ⟨h1, h2, h3⟩ := (hg : r.1 = 1 ∧ r.2.1 = 1 ∧ r.2.2 = n)
    exact Prod.ext h1 (Prod.ext h2 h3)

end router

/-! ### products of safe protocols are safe -/
section prod
variable {S1 P1 Q1 R1 S2 P2 Q2 R2 : Type}

def prodProto (a : Proto S1 P1 Q1 R1) (b : Proto S2 P2 Q2 R2) : Proto (S1 × S2) (P1 ⊕ P2) (Q1 ⊕ Q2) (R1 ⊕ R2) where
  start := fun q => match q with | .inl q => .inl (a.start q) | .inr q => .inr (b.start q)
  step := fun i c s p => match p with
    | .inl p => (((a.step i c s.1 p).1, s.2), Sum.inl (a.step i c s.1 p).2)
    | .inr p => ((s.1, (b.step i c s.2 p).1), Sum.inr (b.step i c s.2 p).2)
  result := fun p => match p with
    | .inl p => (a.result p).map Sum.inl
    | .inr p => (b.result p).map Sum.inr
  env := fun n s => if n % 2 = 0 then (a.env (n / 2) s.1, s.2) else (s.1, b.env (n / 2) s.2)

def prodSpec (f : Q1 → R1) (g : Q2 → R2) : Q1 ⊕ Q2 → R1 ⊕ R2
  | .inl q => .inl (f q)
  | .inr q => .inr (g q)

def projL (pcs : Nat → Option ((Q1 ⊕ Q2) × (P1 ⊕ P2))) : Nat → Option (Q1 × P1) := fun i =>
  match pcs i with | some (.inl q, .inl p) => some (q, p) | _ => none

def projR (pcs : Nat → Option ((Q1 ⊕ Q2) × (P1 ⊕ P2))) : Nat → Option (Q2 × P2) := fun i =>
  match pcs i with | some (.inr q, .inr p) => some (q, p) | _ => none

def WellTyped (pcs : Nat → Option ((Q1 ⊕ Q2) × (P1 ⊕ P2))) : Prop :=
  ∀ i q p, pcs i = some (q, p) → (∃ q1 p1, q = .inl q1 ∧ p = .inl p1) ∨ (∃ q2 p2, q = .inr q2 ∧ p = .inr p2)

def ProdI (I1 : S1 → (Nat → Option (Q1 × P1)) → Prop) (I2 : S2 → (Nat → Option (Q2 × P2)) → Prop)
    (s : S1 × S2) (pcs : Nat → Option ((Q1 ⊕ Q2) × (P1 ⊕ P2))) : Prop :=
  I1 s.1 (projL pcs) ∧ I2 s.2 (projR pcs) ∧ WellTyped pcs

/-- the projections commute with an update of thread `i` -/
theorem projL_upd (pcs : Nat → Option ((Q1 ⊕ Q2) × (P1 ⊕ P2))) (i : Nat) (x : Option ((Q1 ⊕ Q2) × (P1 ⊕ P2))) :
    projL (upd pcs i x) = upd (projL pcs) i (projL (fun _ => x) i) := by
  funext j
  unfold projL
  by_cases hji : j = i
  · rw [hji, upd_same, upd_same]
  · rw [upd_other _ _ _ _ hji, upd_other _ _ _ _ hji]

theorem projR_upd (pcs : Nat → Option ((Q1 ⊕ Q2) × (P1 ⊕ P2))) (i : Nat) (x : Option ((Q1 ⊕ Q2) × (P1 ⊕ P2))) :
    projR (upd pcs i x) = upd (projR pcs) i (projR (fun _ => x) i) := by
  funext j
  unfold projR
  by_cases hji : j = i
  · rw [hji, upd_same, upd_same]
  · rw [upd_other _ _ _ _ hji, upd_other _ _ _ _ hji]

/-- an update of thread `i` that keeps `i` outside a component does not disturb that component's invariant -/
theorem keepL {I1 : S1 → (Nat → Option (Q1 × P1)) → Prop} {s1 : S1} {pcs : Nat → Option ((Q1 ⊕ Q2) × (P1 ⊕ P2))} {i : Nat}
    {x : Option ((Q1 ⊕ Q2) × (P1 ⊕ P2))} (h1 : I1 s1 (projL pcs)) (hl : projL pcs i = none)
    (hx : projL (fun _ => x) i = none) : I1 s1 (projL (upd pcs i x)) := by
  rw [projL_upd, hx, ← hl, upd_self]; exact h1

theorem keepR {I2 : S2 → (Nat → Option (Q2 × P2)) → Prop} {s2 : S2} {pcs : Nat → Option ((Q1 ⊕ Q2) × (P1 ⊕ P2))} {i : Nat}
    {x : Option ((Q1 ⊕ Q2) × (P1 ⊕ P2))} (h2 : I2 s2 (projR pcs)) (hr : projR pcs i = none)
    (hx : projR (fun _ => x) i = none) : I2 s2 (projR (upd pcs i x)) := by
  rw [projR_upd, hx, ← hr, upd_self]; exact h2

theorem prod_safe (a : Proto S1 P1 Q1 R1) (b : Proto S2 P2 Q2 R2) (f : Q1 → R1) (g : Q2 → R2)
    (I1 : S1 → (Nat → Option (Q1 × P1)) → Prop) (I2 : S2 → (Nat → Option (Q2 × P2)) → Prop)
    (ha : Safe a f I1) (hb : Safe b g I2) : Safe (prodProto a b) (prodSpec f g) (ProdI I1 I2) := by
  -- what the two projections see of thread `i`
  have left : ∀ {pcs : Nat → Option ((Q1 ⊕ Q2) × (P1 ⊕ P2))} {i q1 p1}, pcs i = some (.inl q1, .inl p1) →
      projL pcs i = some (q1, p1) ∧ projR pcs i = none := fun hp => ⟨by rw [projL, hp], by rw [projR, hp]⟩
  have right : ∀ {pcs : Nat → Option ((Q1 ⊕ Q2) × (P1 ⊕ P2))} {i q2 p2}, pcs i = some (.inr q2, .inr p2) →
      projL pcs i = none ∧ projR pcs i = some (q2, p2) := fun hp => ⟨by rw [projL, hp], by rw [projR, hp]⟩
  refine ⟨?_, ?_, ?_, ?_, ?_⟩
  · intro s pcs i q ⟨h1, h2, hw⟩ hp
    have hl : projL pcs i = none := by rw [projL, hp]
    have hr : projR pcs i = none := by rw [projR, hp]
    cases q with
    | inl q =>
      refine ⟨?_, ?_, upd_pcs hw fun _ _ e => by cases e; exact Or.inl ⟨_, _, rfl, rfl⟩⟩
      · rw [projL_upd]; exact ha.start _ _ i q h1 hl
      · exact keepR h2 hr rfl
    | inr q =>
      refine ⟨?_, ?_, upd_pcs hw fun _ _ e => by cases e; exact Or.inr ⟨_, _, rfl, rfl⟩⟩
      · exact keepL h1 hl rfl
      · rw [projR_upd]; exact hb.start _ _ i q h2 hr
  · intro s pcs i q p c ⟨h1, h2, hw⟩ hp hres
    rcases hw i q p hp with ⟨q1, p1, rfl, rfl⟩ | ⟨q2, p2, rfl, rfl⟩
    · obtain ⟨hl, hr⟩ := left hp
      refine ⟨?_, ?_, upd_pcs hw fun _ _ e => by cases e; exact Or.inl ⟨_, _, rfl, rfl⟩⟩
      · rw [projL_upd]; exact ha.step _ _ i q1 p1 c h1 hl (Option.map_eq_none_iff.mp hres)
      · exact keepR h2 hr rfl
    · obtain ⟨hl, hr⟩ := right hp
      refine ⟨?_, ?_, upd_pcs hw fun _ _ e => by cases e; exact Or.inr ⟨_, _, rfl, rfl⟩⟩
      · exact keepL h1 hl rfl
      · rw [projR_upd]; exact hb.step _ _ i q2 p2 c h2 hr (Option.map_eq_none_iff.mp hres)
  · intro s pcs i q p r ⟨h1, h2, hw⟩ hp hres
    rcases hw i q p hp with ⟨q1, p1, rfl, rfl⟩ | ⟨q2, p2, rfl, rfl⟩
    · obtain ⟨hl, hr⟩ := left hp
      obtain ⟨r1, hr1, _⟩ := Option.map_eq_some_iff.mp hres
      refine ⟨?_, ?_, upd_pcs hw fun _ _ e => by cases e⟩
      · rw [projL_upd]; exact ha.finish _ _ i q1 p1 r1 h1 hl hr1
      · exact keepR h2 hr rfl
    · obtain ⟨hl, hr⟩ := right hp
      obtain ⟨r2, hr2, _⟩ := Option.map_eq_some_iff.mp hres
      refine ⟨?_, ?_, upd_pcs hw fun _ _ e => by cases e⟩
      · exact keepL h1 hl rfl
      · rw [projR_upd]; exact hb.finish _ _ i q2 p2 r2 h2 hr hr2
  · intro s pcs n ⟨h1, h2, hw⟩
    show ProdI I1 I2 (if n % 2 = 0 then (a.env (n / 2) s.1, s.2) else (s.1, b.env (n / 2) s.2)) pcs
    split
    · exact ⟨ha.env _ _ _ h1, h2, hw⟩
    · exact ⟨h1, hb.env _ _ _ h2, hw⟩
  · intro s pcs i q p r ⟨h1, h2, hw⟩ hp hres
    rcases hw i q p hp with ⟨q1, p1, rfl, rfl⟩ | ⟨q2, p2, rfl, rfl⟩
    · obtain ⟨r1, hr1, rfl⟩ := Option.map_eq_some_iff.mp hres
      rw [ha.result _ _ i q1 p1 r1 h1 (left hp).1 hr1]; rfl
    · obtain ⟨r2, hr2, rfl⟩ := Option.map_eq_some_iff.mp hres
      rw [hb.result _ _ i q2 p2 r2 h2 (right hp).2 hr2]; rfl

end prod

/-! ### Falcon's shared state: memo caches x lazy cells x the router's lazy compile -/
section falcon
variable {K V D L : Type} [DecidableEq K]

/-- the three kinds of shared access of a request -/
abbrev FQ (K : Type) := (K ⊕ Unit) ⊕ Unit          -- memoised call `k` | use of the lazy cell | router find
abbrev FR (V D : Type) := (V ⊕ D) ⊕ (Nat × Nat × Nat)

def falconProto (cap : Nat) (f : K → V) (storable : V → Bool) (d : D) (n : Nat) :=
  prodProto (prodProto (memoProto cap f storable) (lazyProto d)) (routerProto n)

def falconSpec (f : K → V) (d : D) (n : Nat) : FQ K → FR V D :=
  prodSpec (prodSpec f (fun _ => d)) (fun _ => (1, 1, n))

/-- **composition**: requests (tasks over their own req/resp/params = `L`) whose only shared accesses are calls of a
    memoised pure function (any capacity, any store/eviction policy, `cache_clear()` at any time), uses of a lazily
    initialised idempotent cell and `find` on the lazily compiled router under its lock are non-interfering: after ANY
    interleaving - at the granularity of the individual lookup / compute / store / lock / table-fill steps - request `i` is
    where it gets alone when every memoised call returns `f k`, the cell is `d` and the router is the one compiled once -/
theorem falcon_shared_noninterference (cap : Nat) (f : K → V) (storable : V → Bool) (d : D) (n : Nat)
    (prog : Prog L (FQ K) (FR V D)) (init : Nat → L) (acts : List Act) (i : Nat) :
    let s := exec (falconProto cap f storable d n) prog
      { locals := init, sh := (([], none), {}), pcs := fun _ => none, done := fun _ => 0 } acts
    s.locals i = solo prog (falconSpec f d n) i (s.done i) (init i) := by
  have hs := prod_safe _ _ _ _ _ _ (prod_safe _ _ _ _ _ _ (memo_safe cap f storable) (lazy_safe d)) (router_safe n)
  refine noninterference _ prog _ _ hs init _ ?_ acts i
  refine ⟨⟨⟨fun _ he => absurd he List.not_mem_nil, Nat.zero_le _, fun _ _ _ h => by cases h⟩,
           ⟨Or.inl rfl, fun _ _ _ h => by cases h⟩, fun _ _ _ h => by cases h⟩, ?_, fun _ _ _ h => by cases h⟩
  exact Sc.init_inv n

#print axioms falcon_shared_noninterference
end falcon

/-! ### non-vacuity: two requests that each resolve a media type through the memo, use the lazy cell and route, interleaved -/
section example_
def exProg : Prog (List Nat) (FQ Nat) (FR Nat Nat) := fun i l =>
  match l.length with
  | 0 => some (.inl (.inl (i + 7)), fun r => match r with | .inl (.inl v) => l ++ [v] | _ => l ++ [0])
  | 1 => some (.inl (.inr ()), fun r => match r with | .inl (.inr v) => l ++ [v] | _ => l ++ [0])
  | 2 => some (.inr (), fun r => match r with | .inr (v, _, fl) => l ++ [v * 100 + fl] | _ => l ++ [0])
  | _ => none

def exSched : List Act :=
  (List.range 40).flatMap fun t => [Act.run 0 t, Act.run 1 (t + 1), Act.env t]

def exInit : St ((Sm.Table Nat Nat × Option Nat) × Sc.Sh) ((Sm.Pc Nat Nat ⊕ Lz.Pc Nat) ⊕ Sc.Pc) (FQ Nat) (List Nat) :=
  { locals := fun _ => [], sh := (([], none), {}), pcs := fun _ => none, done := fun _ => 0 }

example : let s := exec (falconProto 1 (fun k => k * 10) (fun _ => true) 5 3) exProg exInit exSched
    s.locals 0 = [70, 5, 103] ∧ s.locals 1 = [80, 5, 103] ∧ s.done 0 = 3 ∧ s.done 1 = 3 := by decide +kernel
end example_

end Cp
