import FalconModel.JsonHandler
import FalconModel.MediaCacheProofs
/-! C12 proofs for the JSON text format of the default handler (model `Js`, FalconModel/Json.lean): the round trip
    `loads (dumps d) = some d` (text level, with surrounding whitespace, byte level) and the necessity of its side conditions;
    that the fuel of the parsers is only a termination device (`parse_fuel`, `loads_fuel_irrelevant`); that `dumps` writes no
    raw control character (`dumps_no_control`); and the handler end to end through the request's media cache
    (`media_round_trip`, over `Mc.runCalls` of MediaCacheProofs). -/
namespace Js

theorem skipWs_cons_of_not_ws {c : Char} {r : Str} (h : isWs c = false) : skipWs (c :: r) = c :: r := by
  rw [skipWs, h]
  rfl

theorem hexVal_digitChar : ∀ k : Fin 16, hexVal (Nat.digitChar k.val) = some k.val := by decide +kernel

theorem hex4_00 {a b : Nat} (ha : a < 16) (hb : b < 16) (r : Str) :
    hex4 ('0' :: '0' :: Nat.digitChar a :: Nat.digitChar b :: r) = some (a * 16 + b, r) := by
  have h0 : hexVal '0' = some 0 := by decide
  simp only [hex4, h0, hexVal_digitChar ⟨a, ha⟩, hexVal_digitChar ⟨b, hb⟩, Nat.zero_mul, Nat.zero_add]

/-- the three kinds of output of `py_encode_basestring` for one character: a two-character escape that
    `unescSimple` undoes, `\u00XX` for the other control characters, the character itself -/
theorem escChar_cases (c : Char) :
    (∃ e, escChar c = ['\\', e] ∧ e ≠ 'u' ∧ unescSimple e = some c ∧ 0x20 ≤ e.toNat) ∨
    (c.toNat < 0x20 ∧ escChar c = ['\\', 'u', '0', '0', Nat.digitChar (c.toNat / 16), Nat.digitChar (c.toNat % 16)]) ∨
    (c ≠ '"' ∧ c ≠ '\\' ∧ ¬ c.toNat < 0x20 ∧ escChar c = [c]) := by
  fun_cases escChar c
  case case8 => exact .inr (.inl ⟨‹c.toNat < 0x20›, rfl⟩)
  case case9 => exact .inr (.inr ⟨‹¬c = '"'›, ‹¬c = '\\'›, ‹¬c.toNat < 0x20›, rfl⟩)
  -- the seven equality tests of `escChar`, each with `c` replaced by its character
  all_goals subst c; exact .inl ⟨_, rfl, by decide, by decide, by decide⟩

theorem scanString_quote (f : Nat) (r : Str) : scanString (f + 1) ('"' :: r) = some ([], r) := by
  cases r <;> simp only [scanString, if_true]

theorem scanString_plain {c : Char} (h1 : c ≠ '"') (h2 : c ≠ '\\') (h3 : ¬ c.toNat < 0x20) (f : Nat) (r : Str) :
    scanString (f + 1) (c :: r) = consTo c (scanString f r) := by
  cases r <;> simp only [scanString, if_neg h1, if_neg h2, if_neg h3]

theorem scanString_simple {e ch : Char} (he : e ≠ 'u') (h : unescSimple e = some ch) (f : Nat) (r : Str) :
    scanString (f + 1) ('\\' :: e :: r) = consTo ch (scanString f r) := by
  rw [scanString, if_neg (by decide), if_pos rfl, if_neg he]
  simp only [h]

theorem scanString_u {r1 r2 : Str} {n : Nat} (h : hex4 r1 = some (n, r2)) (hn : n < 0xD800) (f : Nat) :
    scanString (f + 1) ('\\' :: 'u' :: r1) = consTo (Char.ofNat n) (scanString f r2) := by
  rw [scanString, if_neg (by decide), if_pos rfl, if_pos rfl]
  simp only [h]
  rw [if_neg (fun h => Nat.not_le_of_lt hn h.1), if_neg (fun h => Nat.not_le_of_lt (Nat.lt_trans hn (by decide)) h.1)]

theorem scanString_escChar (c : Char) (f : Nat) (t : Str) : scanString (f + 1) (escChar c ++ t) = consTo c (scanString f t) := by
  obtain ⟨e, h, he, hs, _⟩ | ⟨hc, h⟩ | ⟨h1, h2, h3, h⟩ := escChar_cases c <;> rw [h]
  · exact scanString_simple he hs f t
  · have hlt : c.toNat < 16 * 16 := Nat.lt_trans hc (by decide)
    have h4 := hex4_00 (Nat.div_lt_of_lt_mul hlt) (Nat.mod_lt c.toNat (by decide)) t
    rw [Nat.div_add_mod'] at h4
    have := scanString_u h4 (Nat.lt_trans hc (by decide)) f
    rwa [Char.ofNat_toNat] at this
  · exact scanString_plain h1 h2 h3 f t

theorem scanString_escape : ∀ (s : Str) (fuel : Nat) (rest : Str), (escape s).length + 1 ≤ fuel →
    scanString fuel (escape s ++ '"' :: rest) = some (s, rest)
  | [], f + 1, rest, _ => scanString_quote f rest
  | c :: s, f + 1, rest, hf => by
    have : 0 < (escChar c).length := by
      obtain ⟨e, h, _⟩ | ⟨_, h⟩ | ⟨_, _, _, h⟩ := escChar_cases c <;> rw [h] <;> exact Nat.succ_pos _
    rw [escape, List.length_append] at hf
    rw [escape, List.append_assoc, scanString_escChar, scanString_escape s f rest (by omega)]
    rfl

/-- the continuation does not start with a character the number scanner would consume or that would make the literal a float -/
def numEnd : Str → Bool
  | [] => true
  | c :: _ => !(c.isDigit || c = '.' || c = 'e' || c = 'E')

theorem isFloatTail_of_numEnd {rest : Str} (h : numEnd rest = true) : isFloatTail rest = false := by
  cases rest with
  | nil => rfl
  | cons c t =>
    simp only [numEnd, Bool.not_eq_true', Bool.or_eq_false_iff, decide_eq_false_iff_not] at h
    cases t <;> simp only [isFloatTail, if_neg h.1.1.2, if_neg (fun h' : c = 'e' ∨ c = 'E' => h'.elim h.1.2 h.2)]

theorem takeWhile_digits_append {ds rest : Str} (hd : ∀ c ∈ ds, c.isDigit = true) (h : numEnd rest = true) :
    (ds ++ rest).takeWhile Char.isDigit = ds ∧ (ds ++ rest).dropWhile Char.isDigit = rest := by
  induction ds with
  | nil =>
    cases rest with
    | nil => exact ⟨rfl, rfl⟩
    | cons c t =>
      simp only [numEnd, Bool.not_eq_true', Bool.or_eq_false_iff] at h
      simp only [List.nil_append, List.takeWhile_cons, List.dropWhile_cons, h.1.1.1]
      exact ⟨rfl, rfl⟩
  | cons d ds ih =>
    have := ih (fun c hc => hd c (List.mem_cons_of_mem _ hc))
    simp only [List.cons_append, List.takeWhile_cons, List.dropWhile_cons, hd d List.mem_cons_self, this]
    exact ⟨rfl, rfl⟩

theorem toDigits_all_digits (n : Nat) : ∀ c ∈ Nat.toDigits 10 n, c.isDigit = true :=
  fun _ hc => Nat.isDigit_of_mem_toDigits (by decide) (by decide) hc

theorem digitChar_isDigit (k : Nat) (h : k < 10) : (Nat.digitChar k).isDigit = true := by
  simp [Nat.isDigit_digitChar, h]

theorem toDigits_head_pos (n : Nat) (hn : 0 < n) : ∃ c t, Nat.toDigits 10 n = c :: t ∧ c ≠ '0' := by
  induction n using Nat.strongRecOn with
  | _ n ih =>
    by_cases h : n < 10
    · exact ⟨_, [], Nat.toDigits_of_lt_base h, fun e => Nat.ne_of_gt hn (Nat.digitChar_eq_zero.mp e)⟩
    · obtain ⟨c, t, hct, hc⟩ := ih (n / 10) (Nat.div_lt_self hn (by decide)) (Nat.div_pos (Nat.le_of_not_lt h) (by decide))
      exact ⟨c, t ++ [Nat.digitChar (n % 10)], by rw [Nat.toDigits_of_base_le (by decide) (Nat.le_of_not_lt h), hct]; rfl, hc⟩

theorem toDigits_head_digit (n : Nat) : ∃ c t, Nat.toDigits 10 n = c :: t ∧ c.isDigit = true := by
  cases h : Nat.toDigits 10 n with
  | nil => exact absurd h Nat.toDigits_ne_nil
  | cons c t => exact ⟨c, t, rfl, toDigits_all_digits n c (h ▸ List.mem_cons_self)⟩

theorem parseDigits_toDigits_append (n : Nat) (rest : Str) (hr : numEnd rest = true) (neg : Bool) :
    parseDigits neg (Nat.toDigits 10 n ++ rest) = finishNum neg (Nat.toDigits 10 n) rest := by
  cases n with
  | zero => rfl
  | succ m =>
    obtain ⟨c, t, hct, hc0⟩ := toDigits_head_pos (m + 1) (Nat.succ_pos m)
    have hdig := toDigits_all_digits (m + 1)
    rw [hct] at hdig ⊢
    have htw := takeWhile_digits_append (fun x hx => hdig x (List.mem_cons_of_mem _ hx)) hr
    rw [List.cons_append, parseDigits, if_neg hc0, if_pos (hdig c List.mem_cons_self), htw.1, htw.2]

theorem finishNum_toDigits {neg : Bool} {n : Nat} {rest : Str} (hr : numEnd rest = true) (hl : (Nat.toDigits 10 n).length ≤ maxStrDigits) :
    finishNum neg (Nat.toDigits 10 n) rest = some (.int (if neg then -(n : Int) else n), rest) := by
  rw [finishNum, isFloatTail_of_numEnd hr, if_neg Bool.false_ne_true, if_neg (Nat.not_lt_of_le hl), Nat.ofDigitChars_ten_toDigits]

theorem parseNumber_dumpsInt_append (i : Int) (rest : Str) (hr : numEnd rest = true) :
    parseNumber (dumpsInt i ++ rest) = finishNum (decide (i < 0)) (Nat.toDigits 10 i.natAbs) rest := by
  rw [dumpsInt]
  split
  · next h => rw [List.cons_append, parseNumber, if_pos rfl, parseDigits_toDigits_append _ _ hr, decide_eq_true h]
  · next h =>
    have := parseDigits_toDigits_append i.natAbs rest hr false
    obtain ⟨c, t, hct, hcd⟩ := toDigits_head_digit i.natAbs
    rw [hct] at this ⊢
    rw [List.cons_append, parseNumber, if_neg (fun e => by rw [e] at hcd; cases hcd), ← List.cons_append, this, decide_eq_false h]

theorem parseNumber_dumpsInt (i : Int) (rest : Str) (hr : numEnd rest = true) (hl : (Nat.toDigits 10 i.natAbs).length ≤ maxStrDigits) :
    parseNumber (dumpsInt i ++ rest) = some (.int i, rest) := by
  rw [parseNumber_dumpsInt_append i rest hr, finishNum_toDigits hr hl]
  by_cases h : i < 0
  · rw [decide_eq_true h, if_pos rfl, Int.ofNat_natAbs_of_nonpos (Int.le_of_lt h), Int.neg_neg]
  · rw [decide_eq_false h, if_neg Bool.false_ne_true, Int.natAbs_of_nonneg (Int.not_lt.mp h)]

theorem digit_not_special {c : Char} (h : c = '-' ∨ c.isDigit = true) :
    c ≠ '"' ∧ c ≠ '{' ∧ c ≠ '[' ∧ c ≠ 'n' ∧ c ≠ 't' ∧ c ≠ 'f' ∧ c ≠ ']' ∧ isWs c = false := by
  rcases h with h | h
  · subst h; decide
  · have ne : ∀ x : Char, x.isDigit = false → c ≠ x := fun x hx e => by rw [e, hx] at h; cases h
    refine ⟨ne _ rfl, ne _ rfl, ne _ rfl, ne _ rfl, ne _ rfl, ne _ rfl, ne _ rfl, ?_⟩
    simp only [isWs, decide_eq_false (ne ' ' rfl), decide_eq_false (ne '\t' rfl), decide_eq_false (ne '\n' rfl),
      decide_eq_false (ne '\r' rfl), Bool.or_self]

theorem dumpsInt_head (i : Int) : ∃ c t, dumpsInt i = c :: t ∧ (c = '-' ∨ c.isDigit = true) := by
  obtain ⟨c, t, hct, hcd⟩ := toDigits_head_digit i.natAbs
  unfold dumpsInt
  split
  · exact ⟨_, _, rfl, Or.inl rfl⟩
  · exact ⟨c, t, hct, Or.inr hcd⟩

theorem parseValue_number {c : Char} (h : c = '-' ∨ c.isDigit = true) (f : Nat) (r : Str) :
    parseValue (f + 1) (c :: r) = parseNumber (c :: r) := by
  have hs := digit_not_special h
  rw [parseValue, if_neg hs.1, if_neg hs.2.1, if_neg hs.2.2.1, if_neg hs.2.2.2.1, if_neg hs.2.2.2.2.1, if_neg hs.2.2.2.2.2.1]

theorem insertKV_fresh : ∀ (acc : List (Str × Doc)) (k : Str) (v : Doc), (∀ p ∈ acc, p.1 ≠ k) → insertKV acc k v = acc ++ [(k, v)]
  | [], k, v, _ => rfl
  | (k', v') :: r, k, v, h => by
    rw [insertKV, if_neg (h (k', v') List.mem_cons_self), insertKV_fresh r k v (fun p hp => h p (List.mem_cons_of_mem _ hp))]
    rfl

theorem foldl_insertKV : ∀ (ps acc : List (Str × Doc)), keysDistinct (ps.map Prod.fst) = true → (∀ p ∈ acc, ∀ q ∈ ps, p.1 ≠ q.1) →
    ps.foldl (fun acc p => insertKV acc p.1 p.2) acc = acc ++ ps
  | [], acc, _, _ => (List.append_nil acc).symm
  | (k, v) :: ps, acc, hd, hdis => by
    simp only [List.map_cons, keysDistinct, Bool.and_eq_true, Bool.not_eq_true', List.contains_eq_mem, decide_eq_false_iff_not, List.mem_map, not_exists, not_and] at hd
    rw [List.foldl_cons, insertKV_fresh acc k v (fun p hp => hdis p hp (k, v) List.mem_cons_self),
      foldl_insertKV ps (acc ++ [(k, v)]) hd.2, List.append_assoc]
    · rfl
    · intro p hp q hq
      rcases List.mem_append.mp hp with h | h
      · exact hdis p h q (List.mem_cons_of_mem _ hq)
      · cases List.mem_singleton.mp h
        exact fun e => hd.1 q hq e.symm

theorem mkDict_of_distinct (ps : List (Str × Doc)) (h : keysDistinct (ps.map Prod.fst) = true) : mkDict ps = ps := by
  rw [mkDict, foldl_insertKV ps [] h (fun _ hp => nomatch hp)]
  rfl

theorem dumps_head (d : Doc) : ∃ c t, dumps d = c :: t ∧ isWs c = false ∧ c ≠ ']' := by
  cases d with
  | int i =>
    obtain ⟨c, t, hct, hc⟩ := dumpsInt_head i
    have := digit_not_special hc
    exact ⟨c, t, by rw [dumps, hct], this.2.2.2.2.2.2.2, this.2.2.2.2.2.2.1⟩
  | bool b => cases b <;> exact ⟨_, _, by rw [dumps], by decide⟩
  | null => exact ⟨_, _, by rw [dumps], by decide⟩
  | str s => exact ⟨_, _, by rw [dumps, dumpsStr], by decide⟩
  | arr xs => exact ⟨_, _, by rw [dumps], by decide⟩
  | obj kvs => exact ⟨_, _, by rw [dumps], by decide⟩

theorem skipWs_dumps (d : Doc) (t : Str) : skipWs (dumps d ++ t) = dumps d ++ t := by
  obtain ⟨c, r, h, hc, _⟩ := dumps_head d
  rw [h, List.cons_append, skipWs_cons_of_not_ws hc]

theorem skipWs_space (t : Str) : skipWs (' ' :: t) = skipWs t := by
  rw [skipWs, if_pos (by decide)]

theorem dumpsElems_cons (x : Doc) (xs : List Doc) :
    dumpsElems (x :: xs) = dumps x ++ (match xs with | [] => [] | y :: r => ',' :: ' ' :: dumpsElems (y :: r)) := by
  cases xs with
  | nil => rw [dumpsElems, List.append_nil]
  | cons => rw [dumpsElems]

theorem dumpsPairs_cons (k : Str) (v : Doc) (ps : List (Str × Doc)) :
    dumpsPairs ((k, v) :: ps) = '"' :: (escape k ++ '"' :: ':' :: ' ' :: (dumps v ++ (match ps with | [] => [] | p :: r => ',' :: ' ' :: dumpsPairs (p :: r)))) := by
  cases ps <;> simp only [dumpsPairs, dumpsStr, List.cons_append, List.append_assoc, List.nil_append, List.append_nil]

theorem parseValue_lbrace (f : Nat) (r : Str) : parseValue (f + 1) ('{' :: r) =
    match skipWs r with
    | [] => none
    | c1 :: r1 =>
      if c1 = '}' then some (.obj [], r1)
      else match parsePairs f (c1 :: r1) with
        | some (ps, r') => some (.obj (mkDict ps), r')
        | none => none := by
  rw [parseValue, if_neg (by decide), if_pos rfl]
  rfl

theorem parseValue_lbrack (f : Nat) (r : Str) : parseValue (f + 1) ('[' :: r) =
    match skipWs r with
    | [] => none
    | c1 :: r1 =>
      if c1 = ']' then some (.arr [], r1)
      else match parseElems f (c1 :: r1) with
        | some (vs, r') => some (.arr vs, r')
        | none => none := by
  rw [parseValue, if_neg (by decide), if_neg (by decide), if_pos rfl]
  rfl

theorem parseElems_elem {f : Nat} {s r : Str} {v : Doc} (hv : parseValue f s = some (v, r)) :
    parseElems (f + 1) s =
      match skipWs r with
      | [] => none
      | c :: r' => if c = ']' then some ([v], r') else if c = ',' then consElem v (parseElems f (skipWs r')) else none := by
  rw [parseElems, hv]
  rfl

theorem parsePairs_pair {f : Nat} {k : Str} {v : Doc} {t : Str} (hv : parseValue f (dumps v ++ t) = some (v, t)) :
    parsePairs (f + 1) ('"' :: (escape k ++ '"' :: ':' :: ' ' :: (dumps v ++ t))) =
      match skipWs t with
      | [] => none
      | c :: r => if c = '}' then some ([(k, v)], r) else if c = ',' then consPair (k, v) (parsePairs f (skipWs r)) else none := by
  rw [parsePairs, if_pos rfl, scanString_escape k _ _ (by rw [List.length_append]; exact Nat.succ_le_succ (Nat.le_add_right _ _))]
  dsimp only
  rw [skipWs_cons_of_not_ws (by decide)]
  dsimp only
  rw [if_pos rfl, skipWs_space, skipWs_dumps, hv]
  rfl

mutual
  theorem parseValue_dumps : ∀ (d : Doc) (fuel : Nat) (rest : Str), (dumps d).length ≤ fuel → WF d = true → numEnd rest = true →
      parseValue fuel (dumps d ++ rest) = some (d, rest)
    | d, 0, _, hf, _, _ => by
      obtain ⟨c, t, h, _⟩ := dumps_head d
      rw [h] at hf
      cases hf
    | .null, f + 1, rest, _, _, _ => rfl
    | .bool true, f + 1, rest, _, _, _ => rfl
    | .bool false, f + 1, rest, _, _, _ => rfl
    | .int i, f + 1, rest, _, hw, hr => by
      obtain ⟨c, t, hct, hc⟩ := dumpsInt_head i
      have hn := parseNumber_dumpsInt i rest hr (by simpa only [WF, decide_eq_true_eq] using hw)
      rw [dumps, hct, List.cons_append, parseValue_number hc, ← List.cons_append, ← hct, hn]
    | .str s, f + 1, rest, _, _, _ => by
      rw [dumps, dumpsStr, List.cons_append, List.append_assoc, parseValue, if_pos rfl]
      rw [List.cons_append, List.nil_append, scanString_escape s _ rest (by rw [List.length_append]; exact Nat.succ_le_succ (Nat.le_add_right _ _))]
    | .arr [], f + 1, rest, _, _, _ => rfl
    | .arr (x :: r), f + 1, rest, hf, hw, _ => by
      have ih := parseElems_dumps (x :: r) f rest (List.cons_ne_nil _ _)
        (by rw [dumps, List.length_cons, List.length_append] at hf; exact Nat.le_of_succ_le_succ hf) (by rwa [WF] at hw)
      obtain ⟨c, t, hct, hc, hne⟩ := dumps_head x
      rw [dumps, List.cons_append, parseValue_lbrack]
      rw [dumpsElems_cons, hct] at ih ⊢
      simp only [List.cons_append, List.append_assoc, List.nil_append] at ih ⊢
      rw [skipWs_cons_of_not_ws hc]
      simp only [if_neg hne, ih]
    | .obj [], f + 1, rest, _, _, _ => rfl
    | .obj ((k, v) :: r), f + 1, rest, hf, hw, _ => by
      rw [WF, Bool.and_eq_true] at hw
      have ih := parsePairs_dumps ((k, v) :: r) f rest (List.cons_ne_nil _ _)
        (by rw [dumps, List.length_cons, List.length_append] at hf; exact Nat.le_of_succ_le_succ hf) hw.2
      rw [dumps, List.cons_append, parseValue_lbrace]
      rw [dumpsPairs_cons] at ih ⊢
      simp only [List.cons_append, List.append_assoc, List.nil_append] at ih ⊢
      rw [skipWs_cons_of_not_ws (by decide)]
      simp only [if_neg (show ¬ '"' = '}' by decide), ih, mkDict_of_distinct _ hw.1]
  theorem parseElems_dumps : ∀ (xs : List Doc) (fuel : Nat) (rest : Str), xs ≠ [] → (dumpsElems xs).length + 1 ≤ fuel → WFs xs = true →
      parseElems fuel (dumpsElems xs ++ ']' :: rest) = some (xs, rest)
    | [], _, _, h, _, _ => absurd rfl h
    | [x], f + 1, rest, _, hf, hw => by
      rw [WFs, Bool.and_eq_true] at hw
      rw [dumpsElems] at hf ⊢
      rw [parseElems_elem (parseValue_dumps x f _ (Nat.le_of_succ_le_succ hf) hw.1 rfl), skipWs_cons_of_not_ws (by decide)]
      rfl
    | x :: y :: r, f + 1, rest, _, hf, hw => by
      rw [WFs, Bool.and_eq_true] at hw
      rw [dumpsElems, List.length_append, List.length_cons, List.length_cons] at hf
      have h1 := parseValue_dumps x f (',' :: ' ' :: (dumpsElems (y :: r) ++ ']' :: rest)) (by omega) hw.1 rfl
      have ih := parseElems_dumps (y :: r) f rest (List.cons_ne_nil _ _) (by omega) hw.2
      rw [dumpsElems, List.append_assoc, List.cons_append, List.cons_append, parseElems_elem h1, skipWs_cons_of_not_ws (by decide)]
      dsimp only
      rw [if_neg (by decide), if_pos rfl, skipWs_space, dumpsElems_cons, List.append_assoc, skipWs_dumps, ← List.append_assoc,
        ← dumpsElems_cons, ih]
      rfl
  theorem parsePairs_dumps : ∀ (ps : List (Str × Doc)) (fuel : Nat) (rest : Str), ps ≠ [] → (dumpsPairs ps).length + 1 ≤ fuel → WFp ps = true →
      parsePairs fuel (dumpsPairs ps ++ '}' :: rest) = some (ps, rest)
    | [], _, _, h, _, _ => absurd rfl h
    | [(k, v)], f + 1, rest, _, hf, hw => by
      rw [WFp, Bool.and_eq_true] at hw
      rw [dumpsPairs_cons] at hf ⊢
      simp only [List.length_cons, List.length_append, List.append_nil] at hf
      simp only [List.cons_append, List.append_assoc, List.nil_append]
      rw [parsePairs_pair (parseValue_dumps v f ('}' :: rest) (by omega) hw.1 rfl), skipWs_cons_of_not_ws (by decide)]
      rfl
    | (k, v) :: q :: r, f + 1, rest, _, hf, hw => by
      rw [WFp, Bool.and_eq_true] at hw
      rw [dumpsPairs_cons] at hf ⊢
      simp only [List.length_cons, List.length_append] at hf
      simp only [List.cons_append, List.append_assoc]
      have ih := parsePairs_dumps (q :: r) f rest (List.cons_ne_nil _ _) (by omega) hw.2
      have hq : skipWs (' ' :: (dumpsPairs (q :: r) ++ '}' :: rest)) = dumpsPairs (q :: r) ++ '}' :: rest := by
        rw [skipWs_space, dumpsPairs_cons, List.cons_append, skipWs_cons_of_not_ws (by decide)]
      rw [parsePairs_pair (parseValue_dumps v f _ (by omega) hw.1 rfl), skipWs_cons_of_not_ws (by decide)]
      dsimp only
      rw [if_neg (by decide), if_pos rfl, hq, ih]
      rfl
end

theorem skipWs_ws_append : ∀ (w t : Str), (∀ c ∈ w, isWs c = true) → skipWs (w ++ t) = skipWs t
  | [], _, _ => rfl
  | c :: w, t, h => by
    rw [List.cons_append, skipWs, if_pos (h c List.mem_cons_self)]
    exact skipWs_ws_append w t (fun x hx => h x (List.mem_cons_of_mem _ hx))

theorem numEnd_ws : ∀ (w : Str), (∀ c ∈ w, isWs c = true) → numEnd w = true
  | [], _ => rfl
  | c :: w, h => by
    have hc := h c List.mem_cons_self
    simp only [isWs, Bool.or_eq_true, decide_eq_true_eq] at hc
    rcases hc with ((hc | hc) | hc) | hc <;> subst hc <;> rfl

/-- **round trip, text level, with surrounding whitespace**: what `dumps` writes for a well-formed document, framed by any
    JSON whitespace, is read back by `loads` as that document -/
theorem loads_ws_dumps_ws (d : Doc) (hw : WF d = true) (w1 w2 : Str) (h1 : ∀ c ∈ w1, isWs c = true) (h2 : ∀ c ∈ w2, isWs c = true) :
    loads (w1 ++ dumps d ++ w2) = some d := by
  have hf : (dumps d).length ≤ 2 * (w1 ++ (dumps d ++ w2)).length + 2 := by
    rw [List.length_append, List.length_append]
    omega
  have h2' := skipWs_ws_append w2 [] h2
  rw [List.append_nil] at h2'
  rw [List.append_assoc, loads, skipWs_ws_append _ _ h1, skipWs_dumps, parseValue_dumps d _ w2 hf hw (numEnd_ws w2 h2)]
  simp only [h2', skipWs, if_true]

/-- **round trip, text level**: `json.loads(json.dumps(d, ensure_ascii=False)) == d` -/
theorem loads_dumps (d : Doc) (hw : WF d = true) : loads (dumps d) = some d := by
  have := loads_ws_dumps_ws d hw [] [] (fun _ h => nomatch h) (fun _ h => nomatch h)
  rwa [List.nil_append, List.append_nil] at this

/-- **round trip, byte level**: `json.loads(json.dumps(d, ensure_ascii=False).encode().decode()) == d`
    (`JSONHandler.deserialize ∘ JSONHandler.serialize`) -/
theorem loadsBytes_dumpsBytes (d : Doc) (hw : WF d = true) : loadsBytes (dumpsBytes d) = some d := by
  unfold loadsBytes dumpsBytes
  show (match (dumps d).utf8Encode.utf8Decode? with | some cs => loads cs.toList | none => none) = some d
  rw [List.utf8Decode?_utf8Encode]
  exact loads_dumps d hw

example : WF (.obj [("a\"\n😀".toList, .arr [.int (-12), .null, .bool true, .str "é\x01".toList, .obj []]), ([], .int (10 ^ 100))]) = true := by decide +kernel

/-- necessity of distinct keys: a serialized "dict" with a repeated key reads back as a different document (last value wins) -/
theorem dup_keys_do_not_round_trip :
    loads (dumps (.obj [(['a'], .int 1), (['b'], .null), (['a'], .int 2)])) = some (.obj [(['a'], .int 2), (['b'], .null)]) := by
  rfl

/-- necessity of the digit bound: an int with more than 4300 decimal digits is written by the model's `dumps` but rejected by
    `loads` (CPython: ValueError "Exceeds the limit (4300 digits) for integer string conversion"; the real `dumps` raises too) -/
theorem loads_dumps_int_over_limit (i : Int) (hl : maxStrDigits < (Nat.toDigits 10 i.natAbs).length) :
    loads (dumps (.int i)) = none := by
  obtain ⟨c, t, hct, hc⟩ := dumpsInt_head i
  have hn := parseNumber_dumpsInt_append i [] rfl
  rw [List.append_nil, finishNum, isFloatTail, if_neg Bool.false_ne_true, if_pos hl] at hn
  have hs := skipWs_dumps (.int i) []
  rw [List.append_nil] at hs
  rw [loads, hs, dumps, hct, List.length_cons, Nat.mul_succ, parseValue_number hc, ← hct, hn]

theorem wf_int_iff (i : Int) : WF (.int i) = true ↔ i.natAbs < 10 ^ 4300 := by
  rw [WF, decide_eq_true_eq]
  exact Nat.length_toDigits_le_iff (b := 10) (k := 4300) (by decide) (by decide)

theorem skipWs_length_le : ∀ (s : Str), (skipWs s).length ≤ s.length
  | [] => Nat.le_refl _
  | c :: r => by
    rw [skipWs]
    split
    · exact Nat.le_succ_of_le (skipWs_length_le r)
    · exact Nat.le_refl _

theorem skipWs_eq_cons {s r : Str} {c : Char} (h : skipWs s = c :: r) : r.length < s.length := by
  have := skipWs_length_le s
  rwa [h] at this

theorem hex4_length {s r : Str} {n : Nat} (h : hex4 s = some (n, r)) : r.length + 4 = s.length := by
  revert h
  fun_cases hex4 s <;> intro h
  · cases h; rfl
  · cases h
  · cases h

theorem consTo_some {c : Char} {o : Option (Str × Str)} {k r : Str} (h : consTo c o = some (k, r)) : ∃ k', o = some (k', r) := by
  cases o with
  | none => cases h
  | some p => cases h; exact ⟨_, rfl⟩

theorem scanString_length : ∀ (f : Nat) (s k r : Str), scanString f s = some (k, r) → r.length < s.length := by
  intro f s
  fun_induction scanString f s <;> intro k r h
  -- case 3: the closing quote; 7, 12, 14, 16: a surrogate pair, a `\u` escape, a one-letter escape, a plain character
  -- was decoded and the scan goes on; all other cases are rejections
  case case3 => cases h; exact Nat.lt_succ_self _
  case case7 h2 _ _ h1 ih =>
    obtain ⟨_, hk⟩ := consTo_some h
    have := ih _ _ hk
    have := hex4_length h1
    have := hex4_length h2
    simp only [List.length_cons] at *
    omega
  case case12 h1 _ _ _ ih =>
    obtain ⟨_, hk⟩ := consTo_some h
    have := ih _ _ hk
    have := hex4_length h1
    simp only [List.length_cons] at *
    omega
  case case14 ih =>
    obtain ⟨_, hk⟩ := consTo_some h
    exact Nat.lt_succ_of_lt (Nat.lt_succ_of_lt (ih _ _ hk))
  case case16 ih =>
    obtain ⟨_, hk⟩ := consTo_some h
    exact Nat.lt_succ_of_lt (ih _ _ hk)
  all_goals cases h

theorem stripPrefix_length : ∀ (p s r : Str), stripPrefix p s = some r → r.length ≤ s.length
  | [], s, r, h => by cases h; exact Nat.le_refl _
  | _ :: _, [], r, h => by cases h
  | p :: ps, c :: t, r, h => by
    rw [stripPrefix] at h
    split at h
    · exact Nat.le_succ_of_le (stripPrefix_length ps t r h)
    · cases h

theorem finishNum_rest {neg : Bool} {ds rest r : Str} {v : Doc} (h : finishNum neg ds rest = some (v, r)) : r = rest := by
  revert h
  fun_cases finishNum neg ds rest <;> intro h <;> cases h
  rfl

theorem parseDigits_length {neg : Bool} {s r : Str} {v : Doc} (h : parseDigits neg s = some (v, r)) : r.length < s.length := by
  revert h
  fun_cases parseDigits neg s <;> intro h
  · cases h
  · cases finishNum_rest h; exact Nat.lt_succ_self _
  · cases finishNum_rest h; exact Nat.lt_succ_of_le (List.dropWhile_sublist _).length_le
  · cases h

theorem parseNumber_length {s r : Str} {v : Doc} (h : parseNumber s = some (v, r)) : r.length < s.length := by
  revert h
  fun_cases parseNumber s <;> intro h
  · cases h
  · exact Nat.lt_succ_of_lt (parseDigits_length h)
  · exact parseDigits_length h

theorem consElem_some {v : Doc} {o : Option (List Doc × Str)} {vs : List Doc} {r : Str} (h : consElem v o = some (vs, r)) : ∃ vs', o = some (vs', r) := by
  cases o with
  | none => cases h
  | some p => cases h; exact ⟨_, rfl⟩

theorem consPair_some {p : Str × Doc} {o : Option (List (Str × Doc) × Str)} {ps : List (Str × Doc)} {r : Str} (h : consPair p o = some (ps, r)) : ∃ ps', o = some (ps', r) := by
  cases o with
  | none => cases h
  | some q => cases h; exact ⟨_, rfl⟩

theorem parse_length (f : Nat) :
    (∀ s v r, parseValue f s = some (v, r) → r.length < s.length) ∧
    (∀ s vs r, parseElems f s = some (vs, r) → r.length < s.length) ∧
    (∀ s ps r, parsePairs f s = some (ps, r) → r.length < s.length) := by
  induction f using Nat.strongRecOn with | _ f ih => ?_
  refine ⟨fun s v r => ?_, fun s vs r => ?_, fun s ps r => ?_⟩
  -- in each part the cases not named are rejections
  · fun_cases parseValue f s <;> intro h
    case case3 hs => cases h; exact Nat.lt_succ_of_lt (scanString_length _ _ _ _ hs)
    case case6 hs | case10 hs => cases h; exact Nat.lt_succ_of_lt (skipWs_eq_cons hs)
    case case7 hs _ _ _ hp _ =>
      cases h
      exact Nat.lt_succ_of_lt (Nat.lt_of_lt_of_le ((ih _ (Nat.lt_succ_self _)).2.2 _ _ _ hp) (hs ▸ skipWs_length_le _))
    case case11 hs _ _ _ hp _ _ =>
      cases h
      exact Nat.lt_succ_of_lt (Nat.lt_of_lt_of_le ((ih _ (Nat.lt_succ_self _)).2.1 _ _ _ hp) (hs ▸ skipWs_length_le _))
    case case13 hs _ _ _ | case15 hs _ _ _ _ | case17 hs _ _ _ _ _ =>
      cases h
      exact Nat.lt_succ_of_le (stripPrefix_length _ _ _ hs)
    case case19 => exact parseNumber_length h
    all_goals cases h
  · fun_cases parseElems f s <;> intro h
    case case4 hs hv =>
      cases h
      exact Nat.lt_trans (skipWs_eq_cons hs) ((ih _ (Nat.lt_succ_self _)).1 _ _ _ hv)
    case case5 hs _ hv =>
      obtain ⟨_, hk⟩ := consElem_some h
      have := (ih _ (Nat.lt_succ_self _)).2.1 _ _ _ hk
      exact Nat.lt_trans (Nat.lt_of_lt_of_le this (Nat.le_trans (skipWs_length_le _) (Nat.le_of_lt (skipWs_eq_cons hs))))
        ((ih _ (Nat.lt_succ_self _)).1 _ _ _ hv)
    all_goals cases h
  · fun_cases parsePairs f s <;> intro h
    case case7 hk r2 _ _ hv _ hs1 hs2 =>
      cases h
      have h1 := scanString_length _ _ _ _ hk
      have h2 := skipWs_eq_cons hs1
      have h3 := (ih _ (Nat.lt_succ_self _)).1 _ _ _ hv
      have h4 := skipWs_length_le r2
      have h5 := skipWs_eq_cons hs2
      simp only [List.length_cons]
      omega
    case case8 hk r2 _ _ hv r4 hs1 hs2 _ =>
      obtain ⟨_, hk'⟩ := consPair_some h
      have h1 := scanString_length _ _ _ _ hk
      have h2 := skipWs_eq_cons hs1
      have h3 := (ih _ (Nat.lt_succ_self _)).1 _ _ _ hv
      have h4 := skipWs_length_le r2
      have h5 := skipWs_eq_cons hs2
      have h6 := (ih _ (Nat.lt_succ_self _)).2.2 _ _ _ hk'
      have h7 := skipWs_length_le r4
      simp only [List.length_cons]
      omega
    all_goals cases h

theorem consTo_congr {c : Char} {o o' : Option (Str × Str)} {x : Str × Str} (h : consTo c o = some x)
    (ho : ∀ y, o = some y → o' = some y) : consTo c o' = some x := by
  cases o with
  | none => cases h
  | some y => rw [ho y rfl]; exact h

theorem scanString_some_fuel : ∀ (f : Nat) (s : Str) (x : Str × Str), scanString f s = some x →
    ∀ g, s.length < g → scanString g s = some x := by
  intro f s
  fun_induction scanString f s <;> intro x h g hg
  -- the rejecting cases are vacuous; in the others (see `scanString_length`) `scanString (g + 1)` takes the same branch
  all_goals cases g with
    | zero => cases hg
    | succ g => ?_
  case case3 => rw [scanString_quote, ← h]
  case case7 hh2 _ _ hh1 ih =>
    have l1 := hex4_length hh1
    have l2 := hex4_length hh2
    simp only [List.length_cons] at hg l1
    simp only [scanString, *, and_self, if_true, if_false]
    exact consTo_congr h fun y hy => ih y hy g (by omega)
  case case12 hh _ _ _ ih =>
    have l1 := hex4_length hh
    simp only [List.length_cons] at hg
    simp only [scanString, *, if_true, if_false]
    exact consTo_congr h fun y hy => ih y hy g (by omega)
  case case14 ih =>
    simp only [scanString, *, if_true, if_false]
    exact consTo_congr h fun y hy => ih y hy g (Nat.lt_of_succ_lt (Nat.lt_of_succ_lt_succ hg))
  case case16 ih =>
    simp only [scanString, *, if_false]
    exact consTo_congr h fun y hy => ih y hy g (Nat.lt_of_succ_lt_succ hg)
  all_goals cases h

theorem scanString_fuel : ∀ (f f' : Nat) (s : Str), s.length < f → s.length < f' → scanString f s = scanString f' s := by
  intro f f' s h1 h2
  cases h : scanString f s with
  | some x => exact (scanString_some_fuel f s x h f' h2).symm
  | none =>
    cases h' : scanString f' s with
    | none => rfl
    | some y => exact (h ▸ scanString_some_fuel f' s y h' f h1 : none = some y)

theorem fuel_after_open {c c1 : Char} {r r1 : Str} (hs : skipWs r = c1 :: r1) {n : Nat} (hn : 2 * (c :: r).length + 1 ≤ n + 1) :
    2 * (c1 :: r1).length + 2 ≤ n := by
  have := skipWs_length_le r
  rw [hs] at this
  simp only [List.length_cons] at hn this ⊢
  omega

theorem fuel_after_value {f : Nat} {t s r0 r' : Str} {v : Doc} {c : Char} (hv : parseValue f t = some (v, r0))
    (hs : skipWs r0 = c :: r') (ht : t.length ≤ s.length) {n : Nat} (hn : 2 * s.length + 2 ≤ n + 1) :
    2 * (skipWs r').length + 2 ≤ n := by
  have := (parse_length f).1 _ _ _ hv
  have := skipWs_eq_cons hs
  have := skipWs_length_le r'
  omega

/-- with fuel at least `2 * length + 1` (values) / `2 * length + 2` (the loops) the parsers' answers do not depend on the fuel -/
theorem parse_fuel : ∀ (f f' : Nat),
    (∀ s, 2 * s.length + 1 ≤ f → 2 * s.length + 1 ≤ f' → parseValue f s = parseValue f' s) ∧
    (∀ s, 2 * s.length + 2 ≤ f → 2 * s.length + 2 ≤ f' → parseElems f s = parseElems f' s) ∧
    (∀ s, 2 * s.length + 2 ≤ f → 2 * s.length + 2 ≤ f' → parsePairs f s = parsePairs f' s)
  | 0, _ => ⟨fun _ h _ => absurd h (Nat.not_succ_le_zero _), fun _ h _ => absurd h (Nat.not_succ_le_zero _),
      fun _ h _ => absurd h (Nat.not_succ_le_zero _)⟩
  | _ + 1, 0 => ⟨fun _ _ h => absurd h (Nat.not_succ_le_zero _), fun _ _ h => absurd h (Nat.not_succ_le_zero _),
      fun _ _ h => absurd h (Nat.not_succ_le_zero _)⟩
  | f + 1, f' + 1 => by
    obtain ⟨ihv, ihe, ihp⟩ := parse_fuel f f'
    refine ⟨fun s h1 h2 => ?_, fun s h1 h2 => ?_, fun s h1 h2 => ?_⟩
    -- a value: the fuel is passed on only behind `{` and `[`
    · match s with
      | [] => rfl
      | c :: r =>
        by_cases hb : c = '{'
        · subst hb
          rw [parseValue_lbrace, parseValue_lbrace]
          cases hs : skipWs r with
          | nil => rfl
          | cons c1 r1 =>
            dsimp only
            rw [ihp (c1 :: r1) (fuel_after_open hs h1) (fuel_after_open hs h2)]
        by_cases hk : c = '['
        · subst hk
          rw [parseValue_lbrack, parseValue_lbrack]
          cases hs : skipWs r with
          | nil => rfl
          | cons c1 r1 =>
            dsimp only
            rw [ihe (c1 :: r1) (fuel_after_open hs h1) (fuel_after_open hs h2)]
        · simp only [parseValue, if_neg hb, if_neg hk]
    · rw [parseElems, parseElems, ihv s (Nat.le_of_succ_le_succ h1) (Nat.le_of_succ_le_succ h2)]
      cases hv : parseValue f' s with
      | none => rfl
      | some p =>
        obtain ⟨v, r0⟩ := p
        dsimp only
        cases hs : skipWs r0 with
        | nil => rfl
        | cons c r' =>
          dsimp only
          rw [ihe (skipWs r') (fuel_after_value hv hs (Nat.le_refl _) h1) (fuel_after_value hv hs (Nat.le_refl _) h2)]
    · match s with
      | [] => rfl
      | c :: r =>
        rw [parsePairs, parsePairs]
        cases hk : scanString (r.length + 1) r with
        | none => rfl
        | some p =>
          obtain ⟨k, r1⟩ := p
          dsimp only
          cases hs1 : skipWs r1 with
          | nil => rfl
          | cons c1 r2 =>
            have l2 : (skipWs r2).length + 2 ≤ (c :: r).length := by
              have := scanString_length _ _ _ _ hk
              have := skipWs_eq_cons hs1
              have := skipWs_length_le r2
              simp only [List.length_cons]
              omega
            dsimp only
            rw [ihv (skipWs r2) (by omega) (by omega)]
            cases hv : parseValue f' (skipWs r2) with
            | none => rfl
            | some q =>
              obtain ⟨v, r3⟩ := q
              dsimp only
              cases hs3 : skipWs r3 with
              | nil => rfl
              | cons c2 r4 =>
                have l3 := Nat.le_of_succ_le (Nat.le_of_succ_le l2)
                dsimp only
                rw [ihp (skipWs r4) (fuel_after_value hv hs3 l3 h1) (fuel_after_value hv hs3 l3 h2)]

/-- `loads` is the unbounded recursive-descent parser: any larger fuel gives the same answer -/
theorem loads_fuel_irrelevant (s : Str) (f : Nat) (hf : 2 * s.length + 2 ≤ f) :
    loads s = (match parseValue f (skipWs s) with
      | some (d, r) => if skipWs r = [] then some d else none
      | none => none) := by
  have := skipWs_length_le s
  rw [loads, (parse_fuel (2 * s.length + 2) f).1 (skipWs s) (by omega) (by omega)]
  cases parseValue f (skipWs s) with
  | none => rfl
  | some p => rfl

theorem digitChar_ge_space : ∀ k : Fin 16, 0x20 ≤ (Nat.digitChar k.val).toNat := by decide +kernel

def NoCtl (s : Str) : Prop := ∀ x, x ∈ s → 0x20 ≤ x.toNat

theorem NoCtl.nil : NoCtl [] := fun _ h => nomatch h

theorem NoCtl.cons {c : Char} {s : Str} (hc : 0x20 ≤ c.toNat) (hs : NoCtl s) : NoCtl (c :: s) := fun x h => by
  rcases List.mem_cons.mp h with h | h
  · exact h ▸ hc
  · exact hs x h

theorem NoCtl.append {s t : Str} (hs : NoCtl s) (ht : NoCtl t) : NoCtl (s ++ t) := fun x h =>
  (List.mem_append.mp h).elim (hs x) (ht x)

theorem escChar_no_control (c : Char) : NoCtl (escChar c) := by
  obtain ⟨e, he, _, _, hx⟩ | ⟨hc, he⟩ | ⟨_, _, hc, he⟩ := escChar_cases c <;> rw [he]
  · exact .cons (by decide) (.cons hx .nil)
  · exact .cons (by decide) (.cons (by decide) (.cons (by decide) (.cons (by decide)
      (.cons (digitChar_ge_space ⟨c.toNat / 16, Nat.div_lt_of_lt_mul (Nat.lt_trans hc (by decide))⟩)
        (.cons (digitChar_ge_space ⟨c.toNat % 16, Nat.mod_lt _ (by decide)⟩) .nil)))))
  · exact .cons (Nat.le_of_not_lt hc) .nil

theorem escape_no_control : ∀ (s : Str), NoCtl (escape s)
  | [] => .nil
  | c :: s => .append (escChar_no_control c) (escape_no_control s)

theorem dumpsStr_no_control (s : Str) : NoCtl (dumpsStr s) :=
  .cons (by decide) (.append (escape_no_control s) (.cons (by decide) .nil))

theorem dumpsInt_no_control (i : Int) : NoCtl (dumpsInt i) := by
  have hd : NoCtl (Nat.toDigits 10 i.natAbs) := fun c hc => by
    have := toDigits_all_digits _ c hc
    simp only [Char.isDigit, Bool.and_eq_true, decide_eq_true_eq] at this
    have : (48 : UInt32) ≤ c.val := this.1
    exact Nat.le_trans (by decide) (UInt32.le_iff_toNat_le.mp this)
  unfold dumpsInt
  split
  · exact .cons (by decide) hd
  · exact hd

mutual
  /-- the serialized text contains no raw control character (in particular no newline): all of them are escaped -/
  theorem dumps_no_control : ∀ (d : Doc) (x : Char), x ∈ dumps d → 0x20 ≤ x.toNat
    | .null => by decide
    | .bool true => by decide
    | .bool false => by decide
    | .int i => dumpsInt_no_control i
    | .str s => dumpsStr_no_control s
    | .arr xs => NoCtl.cons (by decide) (.append (dumpsElems_no_control xs) (.cons (by decide) .nil))
    | .obj kvs => NoCtl.cons (by decide) (.append (dumpsPairs_no_control kvs) (.cons (by decide) .nil))
  theorem dumpsElems_no_control : ∀ (xs : List Doc) (x : Char), x ∈ dumpsElems xs → 0x20 ≤ x.toNat
    | [] => nofun
    | [d] => dumps_no_control d
    | d :: y :: r => NoCtl.append (dumps_no_control d) (.cons (by decide) (.cons (by decide) (dumpsElems_no_control (y :: r))))
  theorem dumpsPairs_no_control : ∀ (ps : List (Str × Doc)) (x : Char), x ∈ dumpsPairs ps → 0x20 ≤ x.toNat
    | [] => nofun
    | [(k, v)] => NoCtl.append (dumpsStr_no_control k) (.cons (by decide) (.cons (by decide) (dumps_no_control v)))
    | (k, v) :: p :: r => NoCtl.append (dumpsStr_no_control k) (.cons (by decide) (.cons (by decide)
        (.append (dumps_no_control v) (.cons (by decide) (.cons (by decide) (dumpsPairs_no_control (p :: r)))))))
end

theorem handler_round_trip (d : Doc) (hw : WF d = true) : handlerDes (dumpsBytes d) = .ok d := by
  have hl := loadsBytes_dumpsBytes d hw
  unfold handlerDes Mc.jsonDeserialize
  rw [hl]
  cases h : (dumpsBytes d).data.toList with
  | cons b r => rfl
  | nil =>
    -- the body is not empty: `loadsBytes` rejects the empty body
    have he : dumpsBytes d = ByteArray.empty := by
      cases hb : dumpsBytes d with
      | mk data => rw [hb] at h; cases Array.toList_eq_nil_iff.mp h; rfl
    rw [he, loadsBytes, ByteArray.utf8Decode?_empty] at hl
    cases hl

/-- **C12 end to end in the model**: a request whose body is the serialization of a well-formed float-free document `d`
    answers `d` on every `get_media()` / `media` call, whatever the call sequence, and deserializes at most once -/
theorem media_round_trip (d : Doc) (hw : WF d = true) (ex : Bool) (ds : List Bool) :
    (Mc.runCalls (handlerDes (dumpsBytes d)) ex ({} : Mc.St Doc) ds).1 = ds.map (fun _ => Mc.Out.value d) ∧
    (Mc.runCalls (handlerDes (dumpsBytes d)) ex ({} : Mc.St Doc) ds).2.desCalls ≤ 1 := by
  rw [handler_round_trip d hw]
  refine ⟨?_, Mc.deserialize_at_most_once _ ex ds⟩
  rw [(Mc.runCalls_spec (.ok d) ex ds _ (Mc.inv_init _)).1]
  rfl

end Js
