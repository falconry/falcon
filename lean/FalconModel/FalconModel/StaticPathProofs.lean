import FalconModel.Static

/-! C16: properties of the native POSIX `normpath` model (`St.normpath`) that make containment unconditional. -/

namespace St

abbrev dd : List Char := ['.', '.']

theorem splitOn_nil (sep : Char) : splitOn sep [] = [[]] := rfl

theorem splitOn_cons (sep c : Char) (s : List Char) :
    splitOn sep (c :: s) =
      if c == sep then [] :: splitOn sep s
      else match splitOn sep s with
        | [] => [[c]]
        | h :: t => (c :: h) :: t := rfl

theorem splitOn_ne_nil (sep : Char) (s : List Char) : splitOn sep s ≠ [] := by
  induction s with
  | nil => simp [splitOn_nil]
  | cons c s ih =>
    rw [splitOn_cons]
    split
    · simp
    · split <;> simp

theorem splitOn_cons_ne (sep c : Char) (s : List Char) (h : (c == sep) = false) :
    ∃ hd tl, splitOn sep s = hd :: tl ∧ splitOn sep (c :: s) = (c :: hd) :: tl := by
  cases hs : splitOn sep s with
  | nil => exact absurd hs (splitOn_ne_nil sep s)
  | cons hd tl =>
    refine ⟨hd, tl, rfl, ?_⟩
    rw [splitOn_cons, hs]; simp [h]

/-- no component contains the separator -/
theorem splitOn_no_sep (sep : Char) (s : List Char) : ∀ c ∈ splitOn sep s, sep ∉ c := by
  induction s with
  | nil => intro c hc; simp [splitOn_nil] at hc; subst hc; simp
  | cons x s ih =>
    intro c hc
    by_cases hx : (x == sep) = true
    · rw [splitOn_cons] at hc; simp only [hx, if_true] at hc
      rcases List.mem_cons.mp hc with h | h
      · subst h; simp
      · exact ih c h
    · have hx' : (x == sep) = false := by simpa using hx
      obtain ⟨hd, tl, h1, h2⟩ := splitOn_cons_ne sep x s hx'
      rw [h2] at hc
      rcases List.mem_cons.mp hc with h | h
      · subst h
        have := ih hd (by rw [h1]; simp)
        intro hm
        rcases List.mem_cons.mp hm with e | e
        · subst e; simp at hx'
        · exact this e
      · exact ih c (by rw [h1]; simp [h])

/-- `(a + sep + b).split(sep) = a.split(sep) + b.split(sep)` -/
theorem splitOn_append (sep : Char) (a b : List Char) :
    splitOn sep (a ++ sep :: b) = splitOn sep a ++ splitOn sep b := by
  induction a with
  | nil => simp [splitOn_cons, splitOn_nil]
  | cons x a ih =>
    by_cases hx : (x == sep) = true
    · simp only [List.cons_append, splitOn_cons, hx, if_true, ih]
    · have hx' : (x == sep) = false := by simpa using hx
      obtain ⟨hd, tl, h1, h2⟩ := splitOn_cons_ne sep x a hx'
      obtain ⟨hd', tl', h1', h2'⟩ := splitOn_cons_ne sep x (a ++ sep :: b) hx'
      rw [List.cons_append, h2', h2]
      rw [ih, h1] at h1'
      simp only [List.cons_append, List.cons.injEq] at h1'
      obtain ⟨e1, e2⟩ := h1'
      subst e1; subst e2; rfl

theorem splitOn_single (sep : Char) (a : List Char) (h : sep ∉ a) : splitOn sep a = [a] := by
  induction a with
  | nil => rfl
  | cons x a ih =>
    have hx' : (x == sep) = false := by
      cases hx : (x == sep) with
      | false => rfl
      | true => exfalso; apply h; have : x = sep := by simpa using hx
                subst this; simp
    obtain ⟨hd, tl, h1, h2⟩ := splitOn_cons_ne sep x a hx'
    rw [h2]
    have := ih (fun hm => h (List.mem_cons_of_mem _ hm))
    rw [this] at h1
    simp only [List.cons.injEq] at h1
    obtain ⟨e1, e2⟩ := h1
    subst e1; subst e2; rfl

theorem joinSlash_cons_cons (a b : List Char) (r : List (List Char)) :
    joinSlash (a :: b :: r) = a ++ '/' :: joinSlash (b :: r) := by
  simp [joinSlash]

/-- `'/'.join(l).split('/') = l` for a non-empty list of slash-free components -/
theorem splitOn_joinSlash (l : List (List Char)) (hne : l ≠ []) (h : ∀ c ∈ l, '/' ∉ c) :
    splitOn '/' (joinSlash l) = l := by
  induction l with
  | nil => exact absurd rfl hne
  | cons a r ih =>
    cases r with
    | nil => simp only [joinSlash]; exact splitOn_single '/' a (h a (by simp))
    | cons b r =>
      rw [joinSlash_cons_cons, splitOn_append, splitOn_single '/' a (h a (by simp)),
        ih (by simp) (fun c hc => h c (List.mem_cons_of_mem _ hc))]
      rfl

/-- one iteration of the `for comp in comps:` loop of `posixpath.normpath` -/
def normStep (initial : Nat) (acc : List (List Char)) (comp : List Char) : List (List Char) :=
  if comp.isEmpty || comp == ['.'] then acc
  else if comp != ['.', '.'] || (initial == 0 && acc.isEmpty) || (acc.getLast? == some ['.', '.']) then acc ++ [comp]
  else acc.dropLast

def initialSlashes (path : List Char) : Nat :=
  if startsWith path ['/'] then (if startsWith path ['/', '/'] && !startsWith path ['/', '/', '/'] then 2 else 1) else 0

def normComps (path : List Char) : List (List Char) :=
  (splitOn '/' path).foldl (normStep (initialSlashes path)) []

theorem normpath_eq (path : List Char) :
    normpath path =
      if path.isEmpty then ['.'] else
      let p := List.replicate (initialSlashes path) '/' ++ joinSlash (normComps path)
      if p.isEmpty then ['.'] else p := rfl

/-- a path component that is a real name: not empty, not `.`, not `..` -/
def Clean (c : List Char) : Prop := c ≠ [] ∧ c ≠ ['.'] ∧ c ≠ dd

/-- the shape `['..'] * k + names` -/
def Shape (acc : List (List Char)) : Prop :=
  ∃ (k : Nat) (rest : List (List Char)), acc = List.replicate k dd ++ rest ∧ ∀ c ∈ rest, Clean c

theorem getLast?_replicate_dd (k : Nat) (hk : 0 < k) : (List.replicate k dd).getLast? = some dd := by
  cases k with
  | zero => exact absurd hk (Nat.lt_irrefl 0)
  | succ n => simp [List.getLast?_replicate]

theorem normStep_shape (acc : List (List Char)) (comp : List Char) (h : Shape acc) :
    Shape (normStep 0 acc comp) := by
  obtain ⟨k, rest, hacc, hclean⟩ := h
  unfold normStep
  split
  · exact ⟨k, rest, hacc, hclean⟩
  · rename_i h1
    simp only [Bool.or_eq_true, not_or, Bool.not_eq_true, List.isEmpty_eq_false_iff] at h1
    have hne : comp ≠ [] := by
      intro h; apply h1.1; simp [h]
    have hnd : comp ≠ ['.'] := by
      intro h; have := h1.2; simp [h] at this
    split
    · rename_i h2
      by_cases hdd : comp = dd
      · -- `..` is appended: the list was all `..`
        subst hdd
        have hrest : rest = [] := by
          simp only [bne_self_eq_false, Bool.false_or, beq_self_eq_true, Bool.true_and, Bool.or_eq_true,
            List.isEmpty_iff, beq_iff_eq] at h2
          rcases h2 with h2 | h2
          · rw [hacc] at h2
            have := List.append_eq_nil_iff.mp h2
            exact this.2
          · cases hr : rest.getLast? with
            | none => exact List.getLast?_eq_none_iff.mp hr
            | some l =>
              exfalso
              have hmem : l ∈ rest := List.mem_of_getLast? hr
              have : acc.getLast? = some l := by
                rw [hacc, List.getLast?_append, hr]; rfl
              rw [this] at h2
              have : l = dd := by simpa using h2
              exact (hclean l hmem).2.2 this
        subst hrest
        refine ⟨k + 1, [], ?_, by simp⟩
        rw [hacc]; simp [List.replicate_succ']
      · refine ⟨k, rest ++ [comp], by rw [hacc]; simp, ?_⟩
        intro c hc
        rcases List.mem_append.mp hc with h | h
        · exact hclean c h
        · have : c = comp := by simpa using h
          subst this; exact ⟨hne, hnd, hdd⟩
    · rename_i h2
      simp only [Bool.or_eq_true, not_or, Bool.not_eq_true, bne_eq_false_iff_eq, beq_iff_eq, Bool.and_eq_true,
        beq_self_eq_true, true_and, List.isEmpty_iff] at h2
      obtain ⟨⟨_, hnonempty⟩, hlast⟩ := h2
      -- the last element is a name: drop it
      have hrne : rest ≠ [] := by
        intro hr
        subst hr
        simp only [List.append_nil] at hacc
        cases k with
        | zero => exact hnonempty (by simpa using hacc)
        | succ n =>
          apply hlast
          rw [hacc]; exact getLast?_replicate_dd (n + 1) (Nat.succ_pos n)
      refine ⟨k, rest.dropLast, ?_, fun c hc => hclean c (List.dropLast_subset _ hc)⟩
      rw [hacc, List.dropLast_append_of_ne_nil hrne]

theorem foldl_shape (l : List (List Char)) (acc : List (List Char)) (h : Shape acc) :
    Shape (l.foldl (normStep 0) acc) := by
  induction l generalizing acc with
  | nil => exact h
  | cons c l ih => exact ih _ (normStep_shape acc c h)

/-- every element of the accumulator came from the component list -/
theorem foldl_subset (init : Nat) (l acc : List (List Char)) :
    ∀ c ∈ l.foldl (normStep init) acc, c ∈ acc ∨ c ∈ l := by
  induction l generalizing acc with
  | nil => intro c hc; exact Or.inl hc
  | cons x l ih =>
    intro c hc
    rcases ih (normStep init acc x) c hc with h | h
    · unfold normStep at h
      split at h
      · exact Or.inl h
      · split at h
        · rcases List.mem_append.mp h with h | h
          · exact Or.inl h
          · right; have : c = x := by simpa using h
            subst this; simp
        · exact Or.inl (List.dropLast_subset _ h)
    · exact Or.inr (List.mem_cons_of_mem _ h)

theorem normComps_no_slash (path : List Char) : ∀ c ∈ normComps path, '/' ∉ c := by
  intro c hc
  rcases foldl_subset _ _ _ c hc with h | h
  · simp at h
  · exact splitOn_no_sep '/' path c h

theorem initialSlashes_rel (path : List Char) (h : startsWith path ['/'] = false) : initialSlashes path = 0 := by
  simp [initialSlashes, h]

theorem normComps_shape (path : List Char) (hrel : startsWith path ['/'] = false) : Shape (normComps path) := by
  unfold normComps
  rw [initialSlashes_rel path hrel]
  exact foldl_shape _ _ ⟨0, [], rfl, by simp⟩

/-- `normpath` of a relative path is `.` or its components joined by slashes -/
theorem normpath_rel (path : List Char) (hrel : startsWith path ['/'] = false) :
    normpath path = ['.'] ∨ (normpath path = joinSlash (normComps path) ∧ normComps path ≠ []) := by
  rw [normpath_eq]
  by_cases he : path.isEmpty = true
  · rw [if_pos he]; exact Or.inl rfl
  · rw [if_neg he]
    simp only [initialSlashes_rel path hrel, List.replicate_zero, List.nil_append]
    by_cases hj : (joinSlash (normComps path)).isEmpty = true
    · rw [if_pos hj]; exact Or.inl rfl
    · rw [if_neg hj]
      exact Or.inr ⟨rfl, fun h => hj (by rw [h]; rfl)⟩

/-- **`normpath` of a relative path: `..` components occur only as a leading run**, every other component is a
    real name (never empty, `.` or `..`) -/
theorem normpath_no_dotdot_inside (path : List Char) (hrel : startsWith path ['/'] = false) :
    normpath path = ['.'] ∨
    ∃ (k : Nat) (rest : List (List Char)),
      splitOn '/' (normpath path) = List.replicate k dd ++ rest ∧ (∀ c ∈ rest, Clean c) := by
  rcases normpath_rel path hrel with h | ⟨h, hne⟩
  · exact Or.inl h
  · obtain ⟨k, rest, hacc, hclean⟩ := normComps_shape path hrel
    exact Or.inr ⟨k, rest, by rw [h, splitOn_joinSlash _ hne (normComps_no_slash path), hacc], hclean⟩

theorem startsWith_slash_iff (p : List Char) : startsWith p ['/'] = true ↔ ∃ r, p = '/' :: r := by
  cases p with
  | nil => simp [startsWith]
  | cons c r => simp [startsWith]

theorem normpath_abs (path : List Char) (h : startsWith path ['/'] = true) :
    startsWith (normpath path) ['/'] = true := by
  obtain ⟨r, hr⟩ := (startsWith_slash_iff path).mp h
  rw [normpath_eq]
  have hi : ∃ m, initialSlashes path = m + 1 := by
    unfold initialSlashes; rw [h]; simp only [if_true]
    split
    · exact ⟨1, rfl⟩
    · exact ⟨0, rfl⟩
  obtain ⟨m, hm⟩ := hi
  subst hr
  simp only [List.isEmpty_cons, Bool.false_eq_true, if_false, hm, List.replicate_succ, List.cons_append]
  simp [startsWith]

theorem joinSlash_dd_cons (t : List (List Char)) :
    joinSlash (dd :: t) = dd ∨ ∃ x, joinSlash (dd :: t) = '.' :: '.' :: '/' :: x := by
  cases t with
  | nil => left; rfl
  | cons b r => right; exact ⟨joinSlash (b :: r), by rw [joinSlash_cons_cons]; rfl⟩

/-- what `normpath` leaves of a relative path once the disallowed prefix `../` (and the bare `..`) are excluded:
    only real names -/
theorem prefix_check_suffices (s : List Char) (hrel : startsWith s ['/'] = false)
    (hp : startsWith (normpath s) ['.', '.', '/'] = false) (hdd : normpath s ≠ dd) :
    normpath s = ['.'] ∨ ∀ c ∈ splitOn '/' (normpath s), Clean c := by
  rcases normpath_rel s hrel with h | ⟨h1, hne⟩
  · exact Or.inl h
  · right
    obtain ⟨k, rest, hacc, hclean⟩ := normComps_shape s hrel
    cases k with
    | zero =>
      intro c hc
      rw [h1, splitOn_joinSlash _ hne (normComps_no_slash s), hacc] at hc
      exact hclean c (by simpa using hc)
    | succ k =>
      -- a leading `..` component: the normal form is `..` itself or starts with `../`
      exfalso
      rw [hacc, List.replicate_succ, List.cons_append] at h1
      rcases joinSlash_dd_cons (List.replicate k dd ++ rest) with h | ⟨x, h⟩
      · exact hdd (h1.trans h)
      · rw [h1, h] at hp; simp [startsWith] at hp

theorem isInfix_iff (n h : List Char) :
    isInfix n h = true ↔ ∃ i, i ≤ h.length ∧ (h.drop i).take n.length = n := by
  unfold isInfix
  simp only [List.any_eq_true, List.mem_range, beq_iff_eq]
  constructor
  · rintro ⟨i, hi, he⟩; exact ⟨i, Nat.le_of_lt_succ hi, he⟩
  · rintro ⟨i, hi, he⟩; exact ⟨i, Nat.lt_succ_of_le hi, he⟩

theorem isInfix_append_left (n a b : List Char) (h : isInfix n b = true) : isInfix n (a ++ b) = true := by
  obtain ⟨i, hi, he⟩ := (isInfix_iff n b).mp h
  refine (isInfix_iff n (a ++ b)).mpr ⟨a.length + i, by simp; omega, ?_⟩
  have : (a ++ b).drop (a.length + i) = b.drop i := by
    rw [List.drop_append, List.drop_eq_nil_of_le (by omega)]
    simp
  rw [this]; exact he

theorem isInfix_self_append (n b : List Char) : isInfix n (n ++ b) = true :=
  (isInfix_iff n (n ++ b)).mpr ⟨0, by simp, by simp⟩

/-- **lexical containment for the native `normpath`** (no assumption on `normpath` any more): whenever
    `StaticRoute.__call__` hands a path to `io.open`, the request suffix is relative, its normal form `n` is
    relative and is either `.` (the directory itself) or consists only of real names - no empty, `.` or `..`
    component -, and the components of the opened path are those of the directory followed by those of `n` -/
theorem serve_lexically_inside (fb : Bool) (dir s fp : List Char) (hd : dir ≠ [])
    (h : serve fb dir s = some fp) :
    startsWith s ['/'] = false ∧ startsWith (normpath s) ['/'] = false ∧
    (normpath s = ['.'] ∨ ∀ c ∈ splitOn '/' (normpath s), Clean c) ∧
    ∃ d', (dir = d' ∨ dir = d' ++ ['/']) ∧ splitOn '/' fp = splitOn '/' d' ++ splitOn '/' (normpath s) := by
  have hc := serve_contained fb dir s fp hd h
  obtain ⟨hfp, hinf, -⟩ := hc
  unfold serve at h
  split at h
  · unfold resolve at h
    split at h
    · cases h
    · rename_i hstart
      simp only [Bool.or_eq_true, not_or, Bool.not_eq_true] at hstart
      obtain ⟨hp1, hp2⟩ := hstart
      have hrel : startsWith s ['/'] = false := by
        cases hs : startsWith s ['/'] with
        | false => rfl
        | true => rw [normpath_abs s hs] at hp2; cases hp2
      have hndd : normpath s ≠ dd := by
        intro hn
        have : isInfix dd fp = true := by
          rcases hfp with e | ⟨_, e⟩
          · rw [e, hn]; exact isInfix_append_left dd (dir ++ ['/']) dd (isInfix_self_append dd [])
          · rw [e, hn]; exact isInfix_append_left dd dir dd (isInfix_self_append dd [])
        rw [hinf] at this; cases this
      refine ⟨hrel, hp2, prefix_check_suffices s hrel hp1 hndd, ?_⟩
      rcases hfp with e | ⟨hl, e⟩
      · refine ⟨dir, Or.inl rfl, ?_⟩
        rw [e, List.append_assoc, List.singleton_append, splitOn_append]
      · obtain ⟨d', hd'⟩ : ∃ d', dir = d' ++ ['/'] := by
          have := List.getLast?_eq_some_iff.mp hl
          obtain ⟨ys, hys⟩ := this
          exact ⟨ys, hys⟩
        refine ⟨d', Or.inr hd', ?_⟩
        rw [e, hd', List.append_assoc, List.singleton_append, splitOn_append]
  · cases h

/-- the "final sanity check" of `__call__` is reachable: `../` passes the textual tests, normalises to `..`,
    which is *not* one of the disallowed normalised prefixes (`../`, `/`); only the `'..' in file_path` test
    turns it into a 404 -/
example : sanitise false "../".toList = true ∧ normpath "../".toList = dd ∧
    startsWith dd ['.', '.', '/'] = false ∧ startsWith dd ['/'] = false ∧ serve false "/srv/pub".toList "../".toList = none := by
  decide +kernel

example : serve false "/srv/pub".toList "sub/./deep/../b.bin".toList = some "/srv/pub/sub/b.bin".toList := by decide +kernel

end St
