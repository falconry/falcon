import FalconModel.WsgiStreamFixed
/-! C07 (WSGI): the repaired `BoundedStream` is a cursor over the declared body — every operation returns the next
    bytes of `raw[:Content-Length]`, consumes from the raw stream exactly what it returns, and never asks it for more
    than what is still declared. -/
namespace Ws7F
open Ws7 (Bytes Raw S lineLen capOf)

/-- what is still declared and not yet handed out -/
def absS (s : S) : Bytes := s.raw.data.take s.remaining.toNat

/-- "this step handed out `o`": it is the next part of the declared body, the raw stream advanced by exactly that much,
    and the budget stays non-negative -/
structure Step (s : S) (o : Bytes) (s' : S) : Prop where
  out : o = (absS s).take o.length
  rest : absS s' = (absS s).drop o.length
  raw : s'.raw.data = s.raw.data.drop o.length
  rem : s'.remaining = s.remaining - o.length
  nonneg : 0 ≤ s'.remaining

/-- the common core: the raw stream returned its first `k` bytes, `k` within the budget -/
theorem step_of_prefix (s : S) (k : Nat) (raw' : Raw) (h0 : 0 ≤ s.remaining) (hk : (k : Int) ≤ s.remaining)
    (hkd : k ≤ s.raw.data.length) (hraw : raw'.data = s.raw.data.drop k) :
    Step s (s.raw.data.take k) { remaining := s.remaining - ((s.raw.data.take k).length : Nat), raw := raw' } := by
  obtain ⟨r, hr⟩ := Int.eq_ofNat_of_zero_le h0
  rw [hr] at hk
  have hkr : k ≤ r := Int.ofNat_le.mp hk
  have hl : (s.raw.data.take k).length = k := by rw [List.length_take]; exact Nat.min_eq_left hkd
  refine ⟨?_, ?_, ?_, rfl, ?_⟩
  · rw [hl, absS, hr, Int.toNat_natCast, List.take_take, Nat.min_eq_left hkr]
  · rw [hl, absS, absS, hraw]
    dsimp only
    rw [hr, Int.toNat_sub, Int.toNat_natCast, List.drop_take]
  · rw [hl]; exact hraw
  · rw [hl]; dsimp only; rw [hr]; exact Int.sub_nonneg_of_le hk

theorem clamp_bounds (s : S) (size : Option Int) (h0 : 0 ≤ s.remaining) :
    0 ≤ clamp s size ∧ clamp s size ≤ s.remaining := by
  unfold clamp
  cases size with
  | none => exact ⟨h0, Int.le_refl _⟩
  | some n =>
    simp only
    split
    · exact ⟨h0, Int.le_refl _⟩
    · rename_i h; simp at h; exact h

theorem capOf_le (sh : List Nat) (n : Nat) : capOf sh n ≤ n := by
  unfold capOf; split
  · exact Nat.le_refl n
  · split
    · exact Nat.le_refl n
    · exact Nat.min_le_right _ _

/-- `read(size)` -/
theorem read_step (s : S) (size : Option Int) (h0 : 0 ≤ s.remaining) :
    Step s (read s size).1 (read s size).2 ∧ ((read s size).1.length : Int) ≤ clamp s size := by
  obtain ⟨c0, c1⟩ := clamp_bounds s size h0
  rw [read, Raw.read, if_neg (Int.not_lt.mpr c0)]
  obtain ⟨c, hc⟩ := Int.eq_ofNat_of_zero_le c0
  rw [hc] at c1 ⊢
  rw [Int.toNat_natCast]
  have hk : min (capOf s.raw.shorts c) s.raw.data.length ≤ c :=
    Nat.le_trans (Nat.min_le_left _ _) (capOf_le s.raw.shorts c)
  refine ⟨step_of_prefix s _ _ h0 (Int.le_trans (Int.ofNat_le.mpr hk) c1) (Nat.min_le_right _ _) rfl, ?_⟩
  dsimp only
  rw [List.length_take, Nat.min_eq_left (Nat.min_le_right _ _)]
  exact Int.ofNat_le.mpr hk

theorem lineLen_le (l : Bytes) : lineLen l ≤ l.length := by
  induction l with
  | nil => simp [lineLen]
  | cons c rest ih => unfold lineLen; split <;> simp <;> omega

/-- `readline(limit)` -/
theorem readline_step (s : S) (limit : Option Int) (h0 : 0 ≤ s.remaining) :
    Step s (readline s limit).1 (readline s limit).2 ∧
    (readline s limit).1 = s.raw.data.take (min (lineLen s.raw.data) (clamp s limit).toNat) := by
  obtain ⟨c0, c1⟩ := clamp_bounds s limit h0
  rw [readline, Raw.readline, if_neg (Int.not_lt.mpr c0)]
  obtain ⟨c, hc⟩ := Int.eq_ofNat_of_zero_le c0
  rw [hc] at c1 ⊢
  rw [Int.toNat_natCast]
  exact ⟨step_of_prefix s _ _ h0 (Int.le_trans (Int.ofNat_le.mpr (Nat.min_le_right _ _)) c1)
    (Nat.le_trans (Nat.min_le_left _ _) (lineLen_le _)) rfl, rfl⟩

/-- steps compose: handing out `o₁` and then `o₂` is handing out `o₁ ++ o₂` -/
theorem Step.trans {s s1 s2 : S} {o1 o2 : Bytes} (h1 : Step s o1 s1) (h2 : Step s1 o2 s2) :
    Step s (o1 ++ o2) s2 := by
  refine ⟨?_, ?_, ?_, ?_, h2.nonneg⟩
  · rw [List.length_append, List.take_add]
    rw [← h1.out, ← h1.rest, ← h2.out]
  · rw [h2.rest, h1.rest, List.length_append, List.drop_drop]
  · rw [h2.raw, h1.raw, List.length_append, List.drop_drop]
  · rw [h2.rem, h1.rem, List.length_append, Int.natCast_add, Int.sub_sub]

theorem Step.refl (s : S) (h0 : 0 ≤ s.remaining) : Step s [] s :=
  ⟨by simp, by simp, by simp, by simp, h0⟩

/-- `readlines(hint)`: the lines returned are consecutive pieces of the declared body -/
theorem readlinesLoop_step : ∀ (fuel : Nat) (s : S) (hint total : Int) (acc : List Bytes) (s0 : S),
    Step s0 acc.flatten s → Step s0 (readlinesLoop fuel s hint total acc).1.flatten (readlinesLoop fuel s hint total acc).2 := by
  intro fuel
  induction fuel with
  | zero => intro s hint total acc s0 h; exact h
  | succ n ih =>
    intro s hint total acc s0 h
    unfold readlinesLoop
    split
    · have hl := (readline_step s none h.nonneg).1
      rcases hr : readline s none with ⟨line, s1⟩
      rw [hr] at hl
      simp only
      split
      · rename_i he
        have hnil : line = [] := by simpa using he
        have := h.trans hl
        rw [hnil, List.append_nil] at this
        exact this
      · apply ih
        rw [List.flatten_append]
        simpa using h.trans hl
    · exact h

theorem readlines_step (s : S) (hint : Option Int) (h0 : 0 ≤ s.remaining) :
    Step s (readlines s hint).1.flatten (readlines s hint).2 :=
  readlinesLoop_step _ s _ 0 [] s (Step.refl s h0)

/-- iteration (`__next__`) is bounded like every other read -/
theorem next_step (s : S) (h0 : 0 ≤ s.remaining) :
    Step s ((next s).1.getD []) (next s).2 := by
  unfold next
  have hl := (readline_step s none h0).1
  rcases hr : readline s none with ⟨line, s1⟩
  rw [hr] at hl
  simp only
  split
  · rename_i he
    have : line = [] := by simpa using he
    subst this; simpa using hl
  · simpa using hl

/-- one operation of the file-like API -/
inductive Op where
  | read (size : Option Int) | readline (limit : Option Int) | readlines (hint : Option Int) | next
deriving Repr

def runOp (s : S) : Op → Bytes × S
  | .read n => read s n
  | .readline n => readline s n
  | .readlines n => let (ls, s) := readlines s n; (ls.flatten, s)
  | .next => let (l, s) := next s; (l.getD [], s)

theorem runOp_step (s : S) (o : Op) (h0 : 0 ≤ s.remaining) : Step s (runOp s o).1 (runOp s o).2 := by
  cases o with
  | read n => exact (read_step s n h0).1
  | readline n => exact (readline_step s n h0).1
  | readlines n => exact readlines_step s n h0
  | next => exact next_step s h0

def runOps : S → List Op → Bytes × S
  | s, [] => ([], s)
  | s, o :: rest => let (d, s1) := runOp s o; let (d2, s2) := runOps s1 rest; (d ++ d2, s2)

/-- **C07 (WSGI) `history_refines_cursor`**: after any history of reads, everything handed out so far is a prefix of
    `raw[:Content-Length]`, the raw stream was advanced by exactly that many bytes — never past the declared length —
    and what the stream will still hand out is exactly the rest. -/
theorem history_refines_cursor (ops : List Op) : ∀ (s : S), 0 ≤ s.remaining →
    Step s (runOps s ops).1 (runOps s ops).2 := by
  induction ops with
  | nil => intro s h0; exact Step.refl s h0
  | cons o rest ih =>
    intro s h0
    rcases hr : runOp s o with ⟨d, s1⟩
    rcases hr2 : runOps s1 rest with ⟨d2, s2⟩
    have h1 := runOp_step s o h0
    rw [hr] at h1
    have h2 := ih s1 h1.nonneg
    rw [hr2] at h2
    simp only [runOps, hr, hr2]
    exact h1.trans h2

/-- corollary: the raw stream is never read past the declared length -/
theorem never_overreads (ops : List Op) (s : S) (h0 : 0 ≤ s.remaining) :
    ((runOps s ops).1.length : Int) ≤ s.remaining ∧
    (runOps s ops).2.raw.data = s.raw.data.drop (runOps s ops).1.length := by
  have h := history_refines_cursor ops s h0
  refine ⟨?_, h.raw⟩
  exact Int.le_of_sub_nonneg (h.rem ▸ h.nonneg)

theorem capOf_pos (sh : List Nat) (n : Nat) (h : 0 < n) : 0 < capOf sh n := by
  unfold capOf; split
  · exact h
  · rename_i c _
    by_cases hc : c = 0
    · simp [hc]; exact h
    · rw [if_neg (by simpa using hc)]
      exact Nat.lt_min.mpr ⟨Nat.pos_of_ne_zero hc, h⟩

theorem capOf_eq_zero {sh : List Nat} {n : Nat} (h : capOf sh n = 0) : n = 0 :=
  Nat.eq_zero_of_not_pos fun hp => Nat.ne_of_gt (capOf_pos sh n hp) h

/-- a read of positive size that returns nothing: the budget is used up or the raw stream is at its end -/
theorem absS_of_read_empty (s : S) (chunk : Int) (hch : 0 < chunk) (h0 : 0 ≤ s.remaining)
    (he : (read s (some chunk)).1 = []) : absS s = [] := by
  obtain ⟨c0, c1⟩ := clamp_bounds s (some chunk) h0
  rw [read, Raw.read, if_neg (Int.not_lt.mpr c0)] at he
  rw [absS]
  rcases List.take_eq_nil_iff.mp he with hk | hd
  · rcases Nat.min_eq_zero_iff.mp hk with hcap | hlen
    · have hcl : (clamp s (some chunk)).toNat = 0 := capOf_eq_zero hcap
      have hrem : s.remaining = 0 := by
        rw [clamp] at hcl c1
        split at hcl <;> omega
      rw [hrem]; rfl
    · rw [List.eq_nil_of_length_eq_zero hlen]; exact List.take_nil
  · rw [hd]; exact List.take_nil

/-- `exhaust(chunk_size)`: discards the next bytes of the declared body until nothing is left of it (or the raw stream
    ends early), never reading past the declared length -/
theorem exhaustLoop_step (chunk : Int) (hch : 0 < chunk) : ∀ (fuel : Nat) (s0 s : S) (acc : Bytes),
    Step s0 acc s → s.raw.data.length < fuel →
    (∃ X, Step s0 X (exhaustLoop fuel s chunk)) ∧ absS (exhaustLoop fuel s chunk) = [] := by
  intro fuel
  induction fuel with
  | zero => intro s0 s acc h hf; exact absurd hf (Nat.not_lt_zero _)
  | succ n ih =>
    intro s0 s acc h hf
    obtain ⟨hs, -⟩ := read_step s (some chunk) h.nonneg
    rw [exhaustLoop]
    dsimp only
    by_cases hd : (read s (some chunk)).1 = []
    · have hrest := hs.rest
      rw [hd] at hs hrest
      rw [hd, List.isEmpty_nil, if_pos rfl]
      refine ⟨⟨acc, by simpa using h.trans hs⟩, ?_⟩
      rw [hrest]; exact absS_of_read_empty s chunk hch h.nonneg hd
    · rw [if_neg (by simpa using hd)]
      have hpos : 0 < (read s (some chunk)).1.length := List.length_pos_iff.mpr hd
      have hle : (read s (some chunk)).1.length ≤ s.raw.data.length := by
        rw [hs.out, List.length_take, absS, List.length_take]
        exact Nat.le_trans (Nat.min_le_right _ _) (Nat.min_le_right _ _)
      exact ih s0 _ _ (h.trans hs) (by
        rw [hs.raw, List.length_drop]
        exact Nat.lt_of_lt_of_le (Nat.sub_lt (Nat.lt_of_lt_of_le hpos hle) hpos) (Nat.le_of_lt_succ hf))

theorem exhaust_step (s : S) (chunk : Int) (hch : 0 < chunk) (h0 : 0 ≤ s.remaining) :
    (∃ X, Step s X (exhaust s chunk)) ∧ absS (exhaust s chunk) = [] :=
  exhaustLoop_step chunk hch _ s s [] (Step.refl s h0) (Nat.lt_succ_of_lt (Nat.lt_succ_self _))

#print axioms exhaust_step
#print axioms history_refines_cursor
#print axioms never_overreads

/-- non-vacuity and the F02/F03 inputs on the repaired model: `readline` leaves the budget right, iteration stops at
    the declared length -/
example :
    let s : S := { remaining := 4, raw := { data := [97, 10, 98, 10, 69, 88, 84, 82, 65, 10] } }
    (readline s none).1 = [97, 10] ∧ eof (readline s none).2 = false ∧
    (runOps s [.next, .next, .next]).1 = [97, 10, 98, 10] := by decide
end Ws7F

namespace Ws7
/-- F02 on the pinned model: after the first line the stream claims end-of-file with half the body unread -/
theorem f02_witness :
    let s : S := { remaining := 4, raw := { data := [97, 10, 98, 10, 69, 88, 84, 82, 65, 10] } }
    (readline s none).1 = [97, 10] ∧ eof (readline s none).2 = true ∧ (read (readline s none).2 none).1 = [] := by decide
/-- F03 on the pinned model: iteration hands out bytes beyond the declared length -/
theorem f03_witness :
    let s : S := { remaining := 4, raw := { data := [97, 10, 98, 10, 69, 88, 84, 82, 65, 10] } }
    (next (next (next s).2).2).1 = some [69, 88, 84, 82, 65, 10] := by decide
end Ws7
