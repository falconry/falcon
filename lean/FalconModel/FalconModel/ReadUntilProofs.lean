import FalconModel.ReaderProofs
import FalconModel.FindLemmas
/-! C14: the pieces of "`_read_until` refines the flat cursor". How `_perform_read` and `_fill_buffer` rearrange the buffer
    without changing `abs`; the loop invariant `LInv` (relative to the text `A0` the cursor saw when the call started);
    `_finalize_read_until` without consumption as one `_read` plus putting the look-ahead chunk back (`finishRU_plain`, `putBack`);
    and the ways the loop finishes, each an instance of `finish_general` plus a fact about `stopAt`, except `finish_next` (enough
    accumulated, the look-ahead chunk is put back). The loop theorem of RULoop assembles them. -/
namespace Rd
variable {σ : Type} [Source σ] [LawfulSource σ]
open LawfulSource (data readLen)

theorem pos_toNat_le (r : R σ) (h : Inv r) (hpl : r.pos ≤ r.len) : r.pos.toNat ≤ r.buf.length :=
  Int.toNat_le.mpr (h.len_eq ▸ hpl)

theorem append_chunk_abs (r : R σ) (size : Int) (nc : Bytes) (r1 : R σ) (hinv : Inv r) (hpl : r.pos ≤ r.len)
    (h : performRead r size = (nc, r1)) :
    let r2 : R σ := { r1 with len := r1.len + nc.length, buf := r1.buf ++ nc }
    abs r2 = abs r ∧ Inv r2 ∧ r2.pos ≤ r2.len := by
  obtain ⟨s1, s2, s3, s4, s5, s6, s7⟩ := performRead_split r size nc r1 hinv hpl h
  have hle : r1.pos ≤ r1.len + nc.length := Int.le_trans s7 (Int.le_add_of_nonneg_right (Int.natCast_nonneg _))
  refine ⟨?_, ⟨?_, s6.pos_nonneg, s6.rem_nonneg, s6.chunk_pos, Or.inl hle⟩, hle⟩
  · show sliceFrom (r1.buf ++ nc) r1.pos ++ avail r1 = abs r
    rw [abs_eq r hinv hpl, ← s1, sliceFrom_nonneg _ _ s6.pos_nonneg, s2, s3,
      List.drop_append_of_le_length (pos_toNat_le r hinv hpl), List.append_assoc]
  · show r1.len + nc.length = ((r1.buf ++ nc).length : Int)
    rw [List.length_append, Int.natCast_add, s6.len_eq]

theorem replace_chunk (r : R σ) (size : Int) (nc : Bytes) (r1 : R σ) (hinv : Inv r) (hpl : r.pos ≤ r.len)
    (h : performRead r size = (nc, r1)) :
    let r2 : R σ := { r1 with len := nc.length, pos := 0, buf := nc }
    abs r2 = avail r ∧ Inv r2 ∧ r2.pos ≤ r2.len := by
  obtain ⟨s1, _, _, _, _, s6, _⟩ := performRead_split r size nc r1 hinv hpl h
  have hle : (0 : Int) ≤ nc.length := Int.natCast_nonneg _
  refine ⟨?_, ⟨rfl, Int.le_refl 0, s6.rem_nonneg, s6.chunk_pos, Or.inl hle⟩, hle⟩
  show sliceFrom nc 0 ++ avail r1 = avail r
  rw [sliceFrom_nonneg _ _ (Int.le_refl 0), ← s1]; rfl

#print axioms replace_chunk

/-- `_fill_buffer()` is invisible to the cursor; afterwards a whole chunk is buffered or the source has nothing more within
    the declared length -/
theorem fillBuffer_spec (r : R σ) (hinv : Inv r) (hpl : r.pos ≤ r.len) :
    abs (fillBuffer r) = abs r ∧ Inv (fillBuffer r) ∧ (fillBuffer r).pos ≤ (fillBuffer r).len ∧
      (fillBuffer r).chunk = r.chunk ∧
      (r.chunk ≤ (fillBuffer r).len - (fillBuffer r).pos ∨ avail (fillBuffer r) = []) := by
  unfold fillBuffer
  split
  · dsimp only
    generalize hp : performRead r (r.chunk - (r.len - r.pos)) = p
    obtain ⟨s1, s2, s3, _, s5, s6, _⟩ := performRead_split r _ p.1 p.2 hinv hpl hp
    obtain ⟨h1, h2, _⟩ := performRead_spec r _ p.1 p.2 hinv.rem_nonneg hp
    have hnn : ∀ b : Bytes, (0 : Int) ≤ b.length := fun b => Int.natCast_nonneg _
    have hfull : r.chunk - (r.len - r.pos) ≤ p.1.length ∨ avail p.2 = [] := by
      rcases Nat.le_total (avail r).length (r.chunk - (r.len - r.pos)).toNat with hle | hle
      · exact Or.inr (by rw [h2]; exact List.drop_eq_nil_iff.mpr hle)
      · exact Or.inl (Int.toNat_le.mp (by rw [h1, List.length_take, Nat.min_eq_left hle]; exact Nat.le_refl _))
    split
    · rename_i hz
      have hp0 : r.pos = 0 := eq_of_beq hz
      refine ⟨?_, ⟨rfl, s6.pos_nonneg, s6.rem_nonneg, s6.chunk_pos, Or.inl ?_⟩, ?_, s5, hfull.imp_left fun hf => ?_⟩
      · show sliceFrom (p.2.buf ++ p.1) p.2.pos ++ avail p.2 = abs r
        rw [abs, ← s1, s3, hp0, s2, sliceFrom_nonneg _ _ (Int.le_refl 0), sliceFrom_nonneg _ _ (Int.le_refl 0)]
        exact List.append_assoc _ _ _
      · show p.2.pos ≤ _; rw [s3, hp0]; exact hnn _
      · show p.2.pos ≤ _; rw [s3, hp0]; exact hnn _
      · show r.chunk ≤ ((p.2.buf ++ p.1).length : Int) - p.2.pos
        rw [s3, hp0, s2, List.length_append, Int.natCast_add, ← hinv.len_eq]
        omega
    · refine ⟨?_, ⟨rfl, Int.le_refl 0, s6.rem_nonneg, s6.chunk_pos, Or.inl (hnn _)⟩, hnn _, s5,
        hfull.imp_left fun hf => ?_⟩
      · show sliceFrom (sliceFrom r.buf r.pos ++ p.1) 0 ++ avail p.2 = abs r
        rw [abs, ← s1, sliceFrom_nonneg _ _ (Int.le_refl 0)]
        exact List.append_assoc _ _ _
      · show r.chunk ≤ ((sliceFrom r.buf r.pos ++ p.1).length : Int) - 0
        rw [List.length_append, Int.natCast_add, sliceFrom_nonneg _ _ hinv.pos_nonneg, unread_length r hinv hpl]
        omega
  · exact ⟨rfl, hinv, hpl, rfl, Or.inl (by omega)⟩

theorem fillBuffer_abs (r : R σ) (hinv : Inv r) (hpl : r.pos ≤ r.len) :
    abs (fillBuffer r) = abs r ∧ Inv (fillBuffer r) ∧ (fillBuffer r).pos ≤ (fillBuffer r).len ∧
      (fillBuffer r).chunk = r.chunk :=
  let ⟨a, b, c, d, _⟩ := fillBuffer_spec r hinv hpl
  ⟨a, b, c, d⟩

#print axioms fillBuffer_abs

/-- `read'_fits`, with the hypothesis `hpl` that `hs` and `hfit` imply -/
theorem read'_from_buffer (r : R σ) (size : Int) (hinv : Inv r) (hpl : r.pos ≤ r.len) (hs : 0 ≤ size)
    (hfit : size ≤ r.len - r.pos) :
    (read' r size).1 = (r.buf.drop r.pos.toNat).take size.toNat ∧
    sliceFrom (read' r size).2.buf (read' r size).2.pos = (r.buf.drop r.pos.toNat).drop size.toNat ∧
    (read' r size).2.src = r.src ∧ (read' r size).2.rem = r.rem ∧ (read' r size).2.chunk = r.chunk ∧
    Inv (read' r size).2 ∧ (read' r size).2.pos ≤ (read' r size).2.len :=
  read'_fits r size hinv hs hfit

#print axioms read'_from_buffer

/-- loop invariant of `_read_until` relative to the text `A0` the cursor saw when the call started -/
structure LInv (d : Bytes) (A0 : Bytes) (r : R σ) (result : List Bytes) (have_ : Int) (size : Int) : Prop where
  inv : Inv r
  pl : r.pos ≤ r.len
  h0 : 0 ≤ have_
  hsz : have_ ≤ size
  hA : have_.toNat ≤ A0.length
  res : result.flatten = A0.take have_.toNat
  ab : abs r = A0.drop have_.toNat
  noocc : ∀ j, j < have_.toNat → ¬ occ d A0 j

section
variable {d A0 : Bytes} {r : R σ} {result : List Bytes} {have_ size : Int}

theorem LInv.occ_shift (h : LInv d A0 r result have_ size) (j : Nat) :
    occ d A0 (have_.toNat + j) ↔ occ d (r.buf.drop r.pos.toNat ++ avail r) j := by
  rw [← abs_eq r h.inv h.pl, h.ab, occ_drop]

theorem LInv.occ_buf (h : LInv d A0 r result have_ size) (hd : d ≠ []) (j : Nat)
    (hfit : (j : Int) + d.length ≤ r.len - r.pos) :
    occ d A0 (have_.toNat + j) ↔ occ d r.buf (r.pos.toNat + j) := by
  have hB := unread_length r h.inv h.pl
  rw [h.occ_shift j, occ_append_left _ _ _ _ hd (by omega), occ_drop]

#print axioms LInv.occ_buf

theorem LInv.no_occ_before (h : LInv d A0 r result have_ size) (n : Nat)
    (hno : ∀ j, have_.toNat + j < n → ¬ occ d (r.buf.drop r.pos.toNat ++ avail r) j) :
    ∀ j, j < n → ¬ occ d A0 j := by
  intro j hj
  by_cases hjh : j < have_.toNat
  · exact h.noocc j hjh
  · obtain ⟨k, rfl⟩ := Nat.exists_eq_add_of_le (Nat.le_of_not_lt hjh)
    rw [h.occ_shift]
    exact hno k hj

theorem LInv.A0_length (h : LInv d A0 r result have_ size) :
    (A0.length : Int) = have_ + (r.len - r.pos) + (avail r).length := by
  have hB := unread_length r h.inv h.pl
  have hl := congrArg List.length h.ab
  rw [abs_eq r h.inv h.pl, List.length_append, List.length_drop (l := A0)] at hl
  have := h.h0; have := h.hA
  omega

theorem LInv.take_add (h : LInv d A0 r result have_ size)
    (k : Nat) :
    A0.take (have_.toNat + k) = result.flatten ++ (abs r).take k ∧ A0.drop (have_.toNat + k) = (abs r).drop k := by
  rw [h.res, h.ab, List.take_add, List.drop_drop]
  exact ⟨rfl, rfl⟩
end

theorem resolveDpos_given (r : R σ) (p : Nat) : resolveDpos r none (p : Int) = (p : Int) :=
  if_neg (Int.not_lt.mpr (Int.natCast_nonneg p))
theorem resolveDpos_search (r : R σ) (d : Bytes) : resolveDpos r (some d) (-1) = find r.buf d r.pos := rfl

/-- the part of `_finalize_read_until` that puts a look-ahead chunk back in front of what the source still holds -/
def putBack (r : R σ) : Option Bytes → R σ
  | some nc =>
    if nc.length > 0 then
      if r.len == 0 then { r with buf := nc, len := nc.length }
      else { r with buf := sliceFrom r.buf r.pos ++ nc, len := r.len - r.pos + nc.length, pos := 0 }
    else r
  | none => r

theorem finishRU_plain (r : R σ) (sz : Int) (bl : List Bytes) (h : Int) (delim : Option Bytes) (dpos : Int)
    (next : Option Bytes) (hbl : h = 0 → bl.flatten = []) :
    finishRU r sz bl h 0 delim dpos next
      = (.ok (bl.flatten ++ (read' r (sz - h)).1), putBack (read' r (sz - h)).2 next) := by
  unfold finishRU
  by_cases hz : h = 0
  · subst hz
    simp only [beq_self_eq_true, if_true, bne_self_eq_false, Bool.false_eq_true, if_false, Int.sub_zero, hbl rfl,
      List.nil_append]
    cases next <;> rfl
  · simp only [beq_false_of_ne hz, Bool.false_eq_true, if_false, bne_self_eq_false, List.flatten_append,
      List.flatten_singleton]
    cases next <;> rfl

theorem putBack_spec (r : R σ) (nc : Bytes) (h : Inv r) (hpl : r.pos ≤ r.len) :
    abs (putBack r (some nc)) = sliceFrom r.buf r.pos ++ (nc ++ avail r) ∧ Inv (putBack r (some nc)) ∧
      (putBack r (some nc)).pos ≤ (putBack r (some nc)).len ∧ (putBack r (some nc)).chunk = r.chunk := by
  have hs := sliceFrom_nonneg r.buf r.pos h.pos_nonneg
  unfold putBack
  dsimp only
  split
  · split
    · rename_i hz
      have hl0 : r.len = 0 := eq_of_beq hz
      have hp0 : r.pos = 0 := Int.le_antisymm (hl0 ▸ hpl) h.pos_nonneg
      have hb : r.buf = [] := List.eq_nil_of_length_eq_zero (Int.ofNat_eq_zero.mp (h.len_eq ▸ hl0))
      refine ⟨?_, ⟨rfl, h.pos_nonneg, h.rem_nonneg, h.chunk_pos, Or.inl ?_⟩, ?_, rfl⟩
      · show sliceFrom nc r.pos ++ avail r = _
        rw [hs, hb, hp0, sliceFrom_nonneg _ _ (Int.le_refl 0)]; rfl
      · show r.pos ≤ (nc.length : Int); rw [hp0]; exact Int.natCast_nonneg _
      · show r.pos ≤ (nc.length : Int); rw [hp0]; exact Int.natCast_nonneg _
    · have hl : r.len - r.pos + nc.length = ((sliceFrom r.buf r.pos ++ nc).length : Int) := by
        rw [List.length_append, Int.natCast_add, hs, unread_length r h hpl]
      have hnn : (0 : Int) ≤ r.len - r.pos + nc.length := hl ▸ Int.natCast_nonneg _
      refine ⟨?_, ⟨hl, Int.le_refl 0, h.rem_nonneg, h.chunk_pos, Or.inl hnn⟩, hnn, rfl⟩
      show sliceFrom (sliceFrom r.buf r.pos ++ nc) 0 ++ avail r = _
      rw [sliceFrom_nonneg _ _ (Int.le_refl 0)]
      exact List.append_assoc _ _ _
  · rename_i hnc
    obtain rfl : nc = [] := List.eq_nil_of_length_eq_zero (Nat.eq_zero_of_not_pos hnc)
    exact ⟨rfl, h, hpl, rfl⟩


/-- finishing a `_read_until` without look-ahead chunk (the read may continue into the source) -/
theorem finish_general (d A0 : Bytes) (r : R σ) (result : List Bytes) (have_ size sz : Int)
    (delim : Option Bytes) (dpos : Int) (h : LInv d A0 r result have_ size) (hsz1 : have_ ≤ sz) :
    ∃ r', finishRU r sz result have_ 0 delim dpos none = (.ok (A0.take sz.toNat), r') ∧
      abs r' = A0.drop sz.toNat ∧ Inv r' ∧ r'.pos ≤ r'.len ∧ r'.chunk = r.chunk := by
  have hk0 : 0 ≤ sz - have_ := Int.sub_nonneg.mpr hsz1
  obtain ⟨o1, o2, o3, o4⟩ := read'_spec r (sz - have_) h.inv h.pl hk0
  have hk : sz.toNat = have_.toNat + (sz - have_).toNat := by
    rw [← Int.toNat_add h.h0 hk0]; congr 1; omega
  obtain ⟨t1, t2⟩ := h.take_add (sz - have_).toNat
  have hout : result.flatten ++ (read' r (sz - have_)).1 = A0.take sz.toNat := by rw [o1, hk, t1]
  refine ⟨_, ?_, by rw [o2, hk, t2], o3, o4, read'_chunk _ _⟩
  rw [finishRU_plain r sz result have_ delim dpos none (fun hz => by rw [h.res, hz]; rfl), hout]
  rfl

#print axioms finish_general


theorem finalizeRU_eq (r : R σ) (size : Int) (bl : List Bytes) (h c : Int) (delim : Option Bytes) (dp : Int)
    (next : Option Bytes) :
    finalizeRU r size bl h c delim dp next
      = finishRU r (capSize r size h (resolveDpos r delim dp)) bl h c delim (resolveDpos r delim dp) next := rfl

theorem capSize_found (r : R σ) (size h : Int) (q : Nat) : capSize r size h q = min size (h + q - r.pos) :=
  if_pos (Int.natCast_nonneg q)

theorem capSize_notfound (r : R σ) (size h : Int) : capSize r size h (-1) = size := if_neg (by decide)

theorem exit_found_at (d A0 : Bytes) (r : R σ) (result : List Bytes) (have_ size : Int) (q : Nat)
    (hd : d ≠ []) (h : LInv d A0 r result have_ size)
    (hq1 : r.pos.toNat ≤ q) (hq2 : occ d r.buf q) (hq3 : ∀ j, r.pos.toNat ≤ j → j < q → ¬ occ d r.buf j)
    (delim : Option Bytes) (dp : Int) (hres : resolveDpos r delim dp = (q : Int)) :
    ∃ r', finalizeRU r size result have_ 0 delim dp none
        = (.ok (A0.take (stopAt d A0 size.toNat)), r') ∧
      abs r' = A0.drop (stopAt d A0 size.toNat) ∧ Inv r' ∧ r'.pos ≤ r'.len ∧ r'.chunk = r.chunk := by
  have hfit := ((occ_iff d r.buf q hd).mp hq2).2
  have hB := unread_length r h.inv h.pl
  have hp := Int.toNat_of_nonneg h.inv.pos_nonneg
  have hH := Int.toNat_of_nonneg h.h0
  have hlen := h.inv.len_eq
  obtain ⟨j0, rfl⟩ := Nat.exists_eq_add_of_le hq1
  -- the occurrence at buffer offset `q` is the first one in `A0`, at `have_ + (q - pos)`
  have hocc : occ d A0 (have_.toNat + j0) := (h.occ_buf hd j0 (by omega)).mpr hq2
  have hfirst : ∀ j, j < have_.toNat + j0 → ¬ occ d A0 j := by
    refine h.no_occ_before _ fun k hk => ?_
    rw [occ_append_left _ _ _ _ hd (by omega), occ_drop]
    exact hq3 _ (Nat.le_add_right _ _) (by omega)
  have hcap : have_ + ((r.pos.toNat + j0 : Nat) : Int) - r.pos = ((have_.toNat + j0 : Nat) : Int) := by omega
  obtain ⟨r', hr1, hr'⟩ := finish_general d A0 r result have_ size (min size (have_ + (r.pos.toNat + j0 : Nat) - r.pos))
    delim (r.pos.toNat + j0 : Nat) h (by have := h.hsz; omega)
  rw [hcap, toNat_min, Int.toNat_natCast, ← stopAt_of_occ d A0 _ _ hd hocc hfirst] at hr1 hr'
  exact ⟨r', by rw [finalizeRU_eq, hres, capSize_found, hcap, hr1], hr'⟩

/-- exit 1 of the loop: the delimiter is found inside the current buffer -/
theorem exit_found_in_buffer (d A0 : Bytes) (r : R σ) (result : List Bytes) (have_ size : Int) (p : Nat)
    (hd : d ≠ []) (h : LInv d A0 r result have_ size)
    (hfind : find r.buf d r.pos = (p : Int)) (delim : Option Bytes) (dp : Int)
    (hres : resolveDpos r delim dp = (p : Int)) :
    ∃ r', finalizeRU r size result have_ 0 delim dp none
        = (.ok (A0.take (stopAt d A0 size.toNat)), r') ∧
      abs r' = A0.drop (stopAt d A0 size.toNat) ∧ Inv r' ∧ r'.pos ≤ r'.len ∧ r'.chunk = r.chunk := by
  rcases find_spec r.buf d r.pos hd h.inv.pos_nonneg (h.inv.len_eq ▸ h.pl) with ⟨hm, _⟩ | ⟨q, hq, hq1, hq2, hq3⟩
  · rw [hfind] at hm; omega
  · obtain rfl : q = p := by rw [hfind] at hq; omega
    exact exit_found_at d A0 r result have_ size q hd h hq1 hq2 hq3 delim dp hres

#print axioms exit_found_in_buffer

/-- exit 2 of the loop: no delimiter in the buffer and the buffer already holds more than `size` bytes
    (minus a delimiter's worth at the border) -/
theorem exit_enough_data (d A0 : Bytes) (r : R σ) (result : List Bytes) (have_ size : Int)
    (hd : d ≠ []) (h : LInv d A0 r result have_ size)
    (hfind : find r.buf d r.pos = -1)
    (henough : size < have_ + r.len - r.pos - ((d.length : Int) - 1)) :
    ∃ r', finalizeRU r size result have_ 0 (some d) (-1) none
        = (.ok (A0.take (stopAt d A0 size.toNat)), r') ∧
      abs r' = A0.drop (stopAt d A0 size.toNat) ∧ Inv r' ∧ r'.pos ≤ r'.len ∧ r'.chunk = r.chunk := by
  rcases find_spec r.buf d r.pos hd h.inv.pos_nonneg (h.inv.len_eq ▸ h.pl) with ⟨_, hno⟩ | ⟨q, hq, _⟩
  · have hB := unread_length r h.inv h.pl
    have hH := Int.toNat_of_nonneg h.h0
    have hsz := h.hsz
    have hfirst : ∀ j, j < size.toNat → ¬ occ d A0 j := by
      refine h.no_occ_before _ fun k hk => ?_
      rw [occ_append_left _ _ _ _ hd (by omega), occ_drop]
      exact hno _ (Nat.le_add_right _ _)
    have hle : size.toNat ≤ A0.length := by have := h.A0_length; omega
    obtain ⟨r', hr1, hr'⟩ := finish_general d A0 r result have_ size size (some d) (-1) h hsz
    rw [← stopAt_no_occ_before d A0 _ hd hfirst hle] at hr1 hr'
    exact ⟨r', by rw [finalizeRU_eq, resolveDpos_search, hfind, capSize_notfound, hr1], hr'⟩
  · rw [hfind] at hq; omega

#print axioms exit_enough_data

/-- exit 3 of the loop (end of the declared data): everything left is in the buffer; search it once more -/
theorem exit_all_buffered (d A0 : Bytes) (r : R σ) (result : List Bytes) (have_ size : Int)
    (hd : d ≠ []) (h : LInv d A0 r result have_ size) (hav : avail r = []) :
    ∃ r', finalizeRU r size result have_ 0 (some d) (-1) none
        = (.ok (A0.take (stopAt d A0 size.toNat)), r') ∧
      abs r' = A0.drop (stopAt d A0 size.toNat) ∧ Inv r' ∧ r'.pos ≤ r'.len ∧ r'.chunk = r.chunk := by
  rcases find_spec r.buf d r.pos hd h.inv.pos_nonneg (h.inv.len_eq ▸ h.pl) with ⟨hm, hno⟩ | ⟨q, hq, _⟩
  · have hnone : ∀ j, ¬ occ d A0 j := fun j =>
      h.no_occ_before (j + 1) (fun k _ => by
        rw [hav, List.append_nil, occ_drop]; exact hno _ (Nat.le_add_right _ _)) j (Nat.lt_succ_self j)
    have hmin : min (min size.toNat A0.length) A0.length = min size.toNat A0.length := by
      rw [Nat.min_assoc, Nat.min_self]
    obtain ⟨r', hr1, hr'⟩ := finish_general d A0 r result have_ size size (some d) (-1) h h.hsz
    rw [← List.take_eq_take_iff.mpr hmin, ← stopAt_none d A0 _ hd hnone] at hr1
    rw [← List.drop_eq_drop_iff.mpr hmin, ← stopAt_none d A0 _ hd hnone] at hr'
    exact ⟨r', by rw [finalizeRU_eq, resolveDpos_search, hm, capSize_notfound, hr1], hr'⟩
  · exact exit_found_in_buffer d A0 r result have_ size q hd h hq (some d) (-1) (by rw [resolveDpos_search, hq])

#print axioms exit_all_buffered

/-- finishing with a pending look-ahead chunk: the result lies in the buffer, the source has already been
    advanced past `nc`, and `nc` is spliced back in front of what the source still holds -/
theorem finish_next (d A0 : Bytes) (r : R σ) (result : List Bytes) (have_ size : Int) (nc : Bytes) (r1 : R σ)
    (delim : Option Bytes) (dpos : Int) (h : LInv d A0 r result have_ size)
    (hpr : performRead r r.chunk = (nc, r1)) (hfit : size - have_ ≤ r.len - r.pos) :
    ∃ r', finishRU r1 size result have_ 0 delim dpos (some nc) = (.ok (A0.take size.toNat), r') ∧
      abs r' = A0.drop size.toNat ∧ Inv r' ∧ r'.pos ≤ r'.len ∧ r'.chunk = r.chunk := by
  obtain ⟨s1, s2, s3, s4, s5, s6, s7⟩ := performRead_split r r.chunk nc r1 h.inv h.pl hpr
  have hk0 : 0 ≤ size - have_ := Int.sub_nonneg.mpr h.hsz
  obtain ⟨o1, o2, o3, o4, o5, o6, o7⟩ := read'_fits r1 (size - have_) s6 hk0 (by rw [s3, s4]; exact hfit)
  obtain ⟨p1, p2, p3, p4⟩ := putBack_spec (read' r1 (size - have_)).2 nc o6 o7
  have hk : size.toNat = have_.toNat + (size - have_).toNat := by
    rw [← Int.toNat_add h.h0 hk0]; congr 1; omega
  have hkl : (size - have_).toNat ≤ (r.buf.drop r.pos.toNat).length :=
    Int.toNat_le.mpr (unread_length r h.inv h.pl ▸ hfit)
  obtain ⟨t1, t2⟩ := h.take_add (size - have_).toNat
  rw [abs_eq r h.inv h.pl] at t1 t2
  rw [s2, s3] at o1 o2
  refine ⟨_, ?_, ?_, p2, p3, by rw [p4, o5, s5]⟩
  · rw [finishRU_plain r1 size result have_ delim dpos _ (fun hz => by rw [h.res, hz]; rfl), o1, hk, t1,
      List.take_append_of_le_length hkl]
  · rw [p1, o2, avail_congr r1 _ o3 o4, s1, hk, t2, List.drop_append_of_le_length hkl]

#print axioms finish_next
end Rd
