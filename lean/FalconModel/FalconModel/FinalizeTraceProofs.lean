import FalconModel.FinalizeTrace
import FalconModel.FinalizeProofs2
/-! C05: theorems about the event-level ASGI emission model (`FinalizeTrace.lean`), for **every** response state,
    every failing stream call and every failing `send` index: ASGI framing of what was sent, `close()` exactly once iff
    streaming began, and - without a `send` fault - agreement with `Fz.asgi` (ties the trace model to the model the other
    theorems are about). -/
namespace Fz

def bodiesOpen (bs : List Ev) : Prop := ∀ e ∈ bs, ∃ d, e = Ev.body d true

def Complete (evs : List Ev) : Prop :=
  ∃ s h bs d, evs = Ev.start s h :: (bs ++ [Ev.body d false]) ∧ bodiesOpen bs

/-- what may have been sent when an exception cut the exchange short -/
def CutShort (evs : List Ev) : Prop :=
  evs = [] ∨ ∃ s h bs, evs = Ev.start s h :: bs ∧ bodiesOpen bs

theorem bodiesOpen_nil : bodiesOpen [] := by intro e he; cases he

theorem bodiesOpen_cons (d : Bytes) (bs : List Ev) (h : bodiesOpen bs) : bodiesOpen (Ev.body d true :: bs) := by
  intro e he
  cases he with
  | head => exact ⟨d, rfl⟩
  | tail _ h' => exact h e h'

theorem loopIter_open (chunks : List Bytes) : ∀ (i : Nat) (sf : Option Nat) (k : Nat) (xf : Option Nat),
    bodiesOpen (loopIter chunks i sf k xf).1 := by
  intro i sf k xf
  fun_induction loopIter chunks i sf k xf with
  | case1 => exact bodiesOpen_nil
  | case2 => exact bodiesOpen_nil
  | case3 => exact bodiesOpen_nil
  -- `hcall`: the recursive call returned `(evs, _, _)`; `ih` speaks of its first component
  | case4 c _ _ _ _ _ _ _ evs _ _ hcall ih => rw [hcall] at ih; exact bodiesOpen_cons c evs ih

theorem loopFile_open (chunks : List Bytes) : ∀ (i : Nat) (sf : Option Nat) (k : Nat) (xf : Option Nat),
    bodiesOpen (loopFile chunks i sf k xf).1 := by
  intro i sf k xf
  fun_induction loopFile chunks i sf k xf with
  | case1 => exact bodiesOpen_nil
  | case2 => exact bodiesOpen_nil
  | case3 => exact bodiesOpen_nil
  | case4 => exact bodiesOpen_nil
  | case5 c _ _ _ _ _ _ _ _ evs _ _ hcall ih => rw [hcall] at ih; exact bodiesOpen_cons c evs ih

theorem streamLoop_open (kind : StreamKind) (chunks : List Bytes) (sf : Option Nat) (k : Nat) (xf : Option Nat) :
    bodiesOpen (streamLoop kind chunks sf k xf).1 := by
  unfold streamLoop
  cases kind
  · exact loopFile_open chunks 0 sf k xf
  · exact loopIter_open chunks 0 sf k xf

/-- "streaming of a response stream has begun": a body-bearing, non-HEAD response whose body comes from the stream, and
    the start event went out -/
def Begun (r : Resp) (c : Cfg) (xf : Option Nat) : Prop :=
  c.head = false ∧ bodiless r.status = false ∧ rendered r = none ∧ r.stream.isSome = true ∧ xf ≠ some 0

/-! `asgiTrace`, `Fn.asgiTraceN` and `Fc.asgiTraceC` differ only in the streaming loop and in whether `close()` can
    fail: each is `dispatch` with its own `stream` argument, and what follows the loop is `finish`. -/

/-- ASGI framing: a run that returned sent a complete exchange, one ended by an exception a prefix of one -/
def Framed (t : Trace) : Prop :=
  (t.raised = false → Complete t.events) ∧ (t.raised = true → CutShort t.events)

/-- after the streaming loop has returned `l`: `finally: close()` (raising when `cf`), then the final body event -/
def finish (st : Ev) (closes : Nat) (xf : Option Nat) (cf : Bool) (l : List Ev × Bool × Nat) : Trace :=
  let (evs, failed, k) := l
  if cf then { events := st :: evs, closes := closes, raised := true }
  else if failed then { events := st :: evs, closes := closes, raised := true }
  else if xf == some k then { events := st :: evs, closes := closes, raised := true }
  else { events := st :: evs ++ [Ev.body [] false], closes := closes, raised := false }

/-- the choice between the two-event exchange and streaming, with the start event `st` and the streaming branch
    (entered once the start event has been sent) as parameters -/
def dispatch (r : Resp) (c : Cfg) (xf : Option Nat) (st : Ev) (stream : StreamKind → List Bytes → Option Nat → Trace) :
    Trace :=
  let (data, r1) := renderBody r c
  if c.head || bodiless r1.status then twoEvents st (Ev.body [] false) xf
  else
    match data with
    | some d => twoEvents st (Ev.body d false) xf
    | none =>
      match r1.stream with
      | none => twoEvents st (Ev.body [] false) xf
      | some (kind, chunks) =>
        if xf == some 0 then { events := [], closes := 0, raised := true }
        else stream kind chunks r1.streamFail

theorem asgiTrace_eq (r : Resp) (c : Cfg) (hasClose : Bool) (xf : Option Nat) :
    asgiTrace r c hasClose xf = dispatch r c xf (Ev.start (asgi r c).status (asgi r c).headers)
      (fun kind chunks sf => finish (Ev.start (asgi r c).status (asgi r c).headers) (if hasClose then 1 else 0) xf false
        (streamLoop kind chunks sf 1 xf)) := rfl

theorem dispatch_eq (r : Resp) (c : Cfg) (xf : Option Nat) (st : Ev)
    (stream : StreamKind → List Bytes → Option Nat → Trace) :
    dispatch r c xf st stream =
      if c.head || bodiless r.status then twoEvents st (Ev.body [] false) xf
      else
        match rendered r with
        | some d => twoEvents st (Ev.body d false) xf
        | none =>
          match r.stream with
          | none => twoEvents st (Ev.body [] false) xf
          | some (kind, chunks) =>
            if xf == some 0 then { events := [], closes := 0, raised := true }
            else stream kind chunks r.streamFail := by
  obtain ⟨f1, f2, f3, _⟩ := renderBody_frame r c
  rw [← renderBody_fst r c, ← f1, ← f2, ← f3]
  rfl

theorem dispatch_begun (r : Resp) (c : Cfg) (xf : Option Nat) (st : Ev)
    (stream : StreamKind → List Bytes → Option Nat → Trace) (hb : Begun r c xf) :
    ∃ kind chunks, r.stream = some (kind, chunks) ∧ dispatch r c xf st stream = stream kind chunks r.streamFail := by
  obtain ⟨hh, hbl, hrd, hst, hx⟩ := hb
  rw [dispatch_eq, hh, hbl, hrd]
  cases hs : r.stream with
  | none => rw [hs] at hst; cases hst
  | some s =>
    have hx0 : (xf == some 0) = false := Bool.eq_false_iff.mpr fun h => hx (eq_of_beq h)
    exact ⟨s.1, s.2, rfl, by simp only [hx0]; rfl⟩

theorem dispatch_not_begun (r : Resp) (c : Cfg) (xf : Option Nat) (st : Ev)
    (stream : StreamKind → List Bytes → Option Nat → Trace) (hb : ¬ Begun r c xf) :
    ∃ d, dispatch r c xf st stream = twoEvents st (Ev.body d false) xf := by
  rw [dispatch_eq]
  by_cases hnb : (c.head || bodiless r.status) = true
  · rw [if_pos hnb]; exact ⟨_, rfl⟩
  · rw [if_neg hnb]
    cases hrd : rendered r with
    | some d => exact ⟨_, rfl⟩
    | none =>
      cases hs : r.stream with
      | none => exact ⟨_, rfl⟩
      | some s =>
        by_cases hx : xf = some 0
        · rw [hx]; exact ⟨[], rfl⟩
        · rw [Bool.or_eq_true, not_or, Bool.not_eq_true, Bool.not_eq_true] at hnb
          exact absurd ⟨hnb.1, hnb.2, hrd, by rw [hs]; rfl, hx⟩ hb

/-- only what the streaming branch does on the stream the response has matters -/
theorem dispatch_congr (r : Resp) (c : Cfg) (xf : Option Nat) (st : Ev)
    (s1 s2 : StreamKind → List Bytes → Option Nat → Trace)
    (h : ∀ kind chunks, r.stream = some (kind, chunks) → s1 kind chunks r.streamFail = s2 kind chunks r.streamFail) :
    dispatch r c xf st s1 = dispatch r c xf st s2 := by
  rw [dispatch_eq, dispatch_eq]
  cases hs : r.stream with
  | none => rfl
  | some s =>
    obtain ⟨kind, chunks⟩ := s
    dsimp only
    rw [h kind chunks hs]

theorem twoEvents_wf (s : Nat) (h : List (String × String)) (d : Bytes) (xf : Option Nat) :
    Framed (twoEvents (Ev.start s h) (Ev.body d false) xf) := by
  unfold twoEvents
  split
  · exact ⟨fun hh => (by cases hh), fun _ => Or.inl rfl⟩
  · split
    · exact ⟨fun hh => (by cases hh), fun _ => Or.inr ⟨s, h, [], rfl, bodiesOpen_nil⟩⟩
    · exact ⟨fun _ => ⟨s, h, [], d, rfl, bodiesOpen_nil⟩, fun hh => by cases hh⟩

theorem finish_eq (st : Ev) (n : Nat) (xf : Option Nat) (cf : Bool) (l : List Ev × Bool × Nat) :
    finish st n xf cf l =
      { events := if cf || l.2.1 || xf == some l.2.2 then st :: l.1 else st :: l.1 ++ [Ev.body [] false],
        closes := n, raised := cf || l.2.1 || xf == some l.2.2 } := by
  obtain ⟨evs, failed, k⟩ := l
  unfold finish
  dsimp only
  cases cf <;> cases failed <;> cases xf == some k <;> rfl

theorem finish_wf (s : Nat) (h : List (String × String)) (n : Nat) (xf : Option Nat) (cf : Bool)
    (l : List Ev × Bool × Nat) (ho : bodiesOpen l.1) : Framed (finish (Ev.start s h) n xf cf l) := by
  rw [finish_eq]
  cases cf || l.2.1 || xf == some l.2.2
  · exact ⟨fun _ => ⟨s, h, l.1, [], rfl, ho⟩, fun hh => by cases hh⟩
  · exact ⟨fun hh => (by cases hh), fun _ => Or.inr ⟨s, h, l.1, rfl, ho⟩⟩

theorem dispatch_wf (r : Resp) (c : Cfg) (xf : Option Nat) (s : Nat) (h : List (String × String))
    (stream : StreamKind → List Bytes → Option Nat → Trace) (hs : ∀ kind chunks sf, Framed (stream kind chunks sf)) :
    Framed (dispatch r c xf (Ev.start s h) stream) := by
  by_cases hb : Begun r c xf
  · obtain ⟨kind, chunks, _, e⟩ := dispatch_begun r c xf (Ev.start s h) stream hb
    rw [e]
    exact hs kind chunks _
  · obtain ⟨d, e⟩ := dispatch_not_begun r c xf (Ev.start s h) stream hb
    rw [e]
    exact twoEvents_wf s h d xf

theorem finish_closes (st : Ev) (n : Nat) (xf : Option Nat) (cf : Bool) (l : List Ev × Bool × Nat) :
    (finish st n xf cf l).closes = n := by
  rw [finish_eq]

theorem finish_head (st : Ev) (n : Nat) (xf : Option Nat) (cf : Bool) (l : List Ev × Bool × Nat) :
    (finish st n xf cf l).events.head? = some st := by
  rw [finish_eq]
  cases cf || l.2.1 || xf == some l.2.2 <;> rfl

theorem twoEvents_closes (a b : Ev) (xf : Option Nat) : (twoEvents a b xf).closes = 0 := by
  unfold twoEvents
  split
  · rfl
  · split <;> rfl

/-- **ASGI framing under every fault**: exactly one start event first; then body events of which only the last has
    `more_body = false`; nothing afterwards; if an exception (of the stream or of `send`) ended the run, what was sent
    is the start event followed only by body events with `more_body = true` (or nothing at all). -/
theorem trace_wellformed (r : Resp) (c : Cfg) (hasClose : Bool) (xf : Option Nat) :
    Framed (asgiTrace r c hasClose xf) := by
  rw [asgiTrace_eq]
  exact dispatch_wf r c xf _ _ _ fun kind chunks sf => finish_wf _ _ _ _ _ _ (streamLoop_open kind chunks sf 1 xf)

/-- **close() exactly once, once streaming has begun** - whether streaming completes, the stream raises at any call or
    `send` fails at any index (a stream object without a `close` method is, of course, not closed) -/
theorem closed_exactly_once (r : Resp) (c : Cfg) (hasClose : Bool) (xf : Option Nat) (hb : Begun r c xf) :
    (asgiTrace r c hasClose xf).closes = if hasClose then 1 else 0 := by
  obtain ⟨_, _, _, h⟩ := dispatch_begun r c xf _ _ hb
  rw [asgiTrace_eq, h]
  exact finish_closes _ _ _ _ _

/-- and `close()` is never called when streaming did not begin -/
theorem closes_zero_otherwise (r : Resp) (c : Cfg) (hasClose : Bool) (xf : Option Nat) (hb : ¬ Begun r c xf) :
    (asgiTrace r c hasClose xf).closes = 0 := by
  obtain ⟨_, h⟩ := dispatch_not_begun r c xf _ _ hb
  rw [asgiTrace_eq, h]
  exact twoEvents_closes _ _ _

theorem closes_le_one (r : Resp) (c : Cfg) (hasClose : Bool) (xf : Option Nat) :
    (asgiTrace r c hasClose xf).closes ≤ 1 := by
  by_cases hb : Begun r c xf
  · rw [closed_exactly_once r c hasClose xf hb]; cases hasClose <;> decide
  · rw [closes_zero_otherwise r c hasClose xf hb]; decide

theorem twoEvents_head (st fin : Ev) (xf : Option Nat) (h : (twoEvents st fin xf).events ≠ []) :
    (twoEvents st fin xf).events.head? = some st := by
  unfold twoEvents at h ⊢
  split
  · rename_i h0; rw [if_pos h0] at h; exact absurd rfl h
  · split <;> rfl

theorem trace_start (r : Resp) (c : Cfg) (hasClose : Bool) (xf : Option Nat)
    (hne : (asgiTrace r c hasClose xf).events ≠ []) :
    (asgiTrace r c hasClose xf).events.head? = some (Ev.start (asgi r c).status (asgi r c).headers) := by
  rw [asgiTrace_eq] at hne ⊢
  by_cases hb : Begun r c xf
  · obtain ⟨_, _, _, h⟩ := dispatch_begun r c xf _ _ hb
    rw [h]
    exact finish_head _ _ _ _ _
  · obtain ⟨d, h⟩ := dispatch_not_begun r c xf _ _ hb
    rw [h] at hne ⊢
    exact twoEvents_head _ _ _ hne

def evBodies : List Ev → List Bytes
  | [] => []
  | Ev.body d _ :: r => d :: evBodies r
  | Ev.start _ _ :: r => evBodies r

theorem evBodies_map (l : List Bytes) : evBodies (l.map fun d => Ev.body d true) = l := by
  induction l with
  | nil => rfl
  | cons x xs ih => simp only [List.map_cons, evBodies, ih]

theorem evBodies_append (a b : List Ev) : evBodies (a ++ b) = evBodies a ++ evBodies b := by
  induction a with
  | nil => rfl
  | cons x xs ih =>
    cases x with
    | start s h => simp only [List.cons_append, evBodies, ih]
    | body d m => simp only [List.cons_append, evBodies, ih, List.cons_append]

theorem loopIter_drain (chunks : List Bytes) : ∀ (i : Nat) (sf : Option Nat) (k : Nat),
    (loopIter chunks i sf k none).1 = (drainIter chunks sf i).1.map (fun d => Ev.body d true) ∧
    (loopIter chunks i sf k none).2.1 = (drainIter chunks sf i).2 := by
  intro i sf k
  fun_induction drainIter chunks sf i generalizing k with
  | case1 => exact ⟨rfl, rfl⟩
  | case2 c rest sf i hf => unfold loopIter; rw [if_pos hf]; exact ⟨rfl, rfl⟩
  | case3 c rest sf i hf o e hd ih =>
    unfold loopIter
    rw [if_neg hf, if_neg (by exact Bool.false_ne_true)]
    rw [hd] at ih
    exact ⟨congrArg _ (ih (k + 1)).1, (ih (k + 1)).2⟩

theorem loopFile_drain (chunks : List Bytes) : ∀ (fuel i : Nat) (sf : Option Nat) (k : Nat), chunks.length < fuel →
    (loopFile chunks i sf k none).1 = (drainFile fuel chunks sf i).1.map (fun d => Ev.body d true) ∧
    (loopFile chunks i sf k none).2.1 = (drainFile fuel chunks sf i).2 := by
  intro fuel i sf k hlt
  fun_induction drainFile fuel chunks sf i generalizing k with
  | case1 => cases hlt
  | case2 fuel chunks sf i hf =>
    cases chunks with
    | nil => unfold loopFile; rw [hf]; exact ⟨rfl, rfl⟩
    | cons c rest => unfold loopFile; rw [if_pos hf]; exact ⟨rfl, rfl⟩
  | case3 fuel sf i hf =>
    unfold loopFile
    rw [Bool.not_eq_true] at hf
    exact ⟨rfl, hf⟩
  | case4 fuel sf i hf c rest he => unfold loopFile; rw [if_neg hf, if_pos he]; exact ⟨rfl, rfl⟩
  | case5 fuel sf i hf c rest he o e hd ih =>
    unfold loopFile
    rw [if_neg hf, if_neg he, if_neg (by exact Bool.false_ne_true)]
    rw [hd] at ih
    exact ⟨congrArg _ (ih (k + 1) (Nat.lt_of_succ_lt_succ hlt)).1, (ih (k + 1) (Nat.lt_of_succ_lt_succ hlt)).2⟩

/-- a loop that sent one open body event per drained chunk and failed exactly when the drain did, followed by
    `finish` without a `send` fault, is the chunk list of `Fz.asgi` for that drain -/
theorem finish_refines (s : Nat) (h : List (String × String)) (n : Nat) (l : List Ev × Bool × Nat)
    (p : List Bytes × Bool) (h1 : l.1 = p.1.map fun d => Ev.body d true) (h2 : l.2.1 = p.2) :
    evBodies (finish (Ev.start s h) n none false l).events = (if p.2 then p.1 else p.1 ++ [[]]) ∧
    (finish (Ev.start s h) n none false l).raised = p.2 := by
  obtain ⟨evs, failed, k⟩ := l
  obtain ⟨o, e⟩ := p
  dsimp only at h1 h2
  subst h1 h2
  rw [finish_eq]
  cases failed
  · exact ⟨(evBodies_append _ _).trans (congrArg (· ++ [[]]) (evBodies_map o)), rfl⟩
  · exact ⟨evBodies_map o, rfl⟩

/-- **without a `send` fault the trace is `Fz.asgi`**: the bodies of the body events are its chunk list, and an
    exception leaves `__call__` exactly when the stream failed -/
theorem trace_refines_asgi (r : Resp) (c : Cfg) (hasClose : Bool) :
    evBodies (asgiTrace r c hasClose none).events = (asgi r c).body ∧
    (asgiTrace r c hasClose none).raised = (asgi r c).iterErr := by
  rw [asgiTrace_eq]
  generalize (asgi r c).status = s0
  generalize (asgi r c).headers = h0
  unfold dispatch asgi
  rcases renderBody r c with ⟨data, r1⟩
  dsimp only
  by_cases hb : (c.head || bodiless r1.status) = true
  · rw [if_pos hb, if_pos hb]; exact ⟨rfl, rfl⟩
  · rw [if_neg hb, if_neg hb]
    cases data with
    | some d => exact ⟨rfl, rfl⟩
    | none =>
      cases r1.stream with
      | none => exact ⟨rfl, rfl⟩
      | some s =>
        obtain ⟨kind, chunks⟩ := s
        cases kind with
        | fileLike =>
          obtain ⟨h1, h2⟩ := loopFile_drain chunks (chunks.length + 1) 0 r1.streamFail 1 (Nat.lt_succ_self _)
          exact finish_refines _ _ _ _ _ h1 h2
        | iter =>
          obtain ⟨h1, h2⟩ := loopIter_drain chunks 0 r1.streamFail 1
          exact finish_refines _ _ _ _ _ h1 h2

end Fz
