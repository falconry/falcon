import FalconModel.MediaCache
/-! C12 proofs: the caching contract of `get_media`, for every handler outcome and every sequence of calls. -/
namespace Mc

variable {α : Type}

/-- states reachable from a fresh request: nothing cached and the handler never ran, or exactly the handler's outcome is cached and it ran once -/
def Inv (h : Des α) (s : St α) : Prop :=
  (s.media = none ∧ s.mediaErr = none ∧ s.desCalls = 0) ∨
  (s.desCalls = 1 ∧ ((∃ v, h = .ok v ∧ s.media = some v ∧ s.mediaErr = none) ∨ (∃ e, h = .err e ∧ s.media = none ∧ s.mediaErr = some e)))

theorem inv_init (h : Des α) : Inv h ({} : St α) := Or.inl ⟨rfl, rfl, rfl⟩

/-- after the first call nothing touches the handler or the stream again -/
theorem getMedia_cached_untouched (h : Des α) (ex : Bool) (s : St α) (d : Bool) (hc : s.desCalls = 1) (hi : Inv h s) :
    (getMedia h ex s d).2 = s := by
  rcases hi with ⟨_, _, h0⟩ | ⟨_, ⟨v, _, hm, _⟩ | ⟨e, _, hm, he⟩⟩
  · rw [h0] at hc; cases hc
  · unfold getMedia; rw [hm]
  · unfold getMedia; rw [hm, he]; simp only; split <;> rfl

/-- one call: answers what the specification says, re-establishes the invariant, and the default is never cached -/
theorem getMedia_spec (h : Des α) (ex : Bool) (s : St α) (d : Bool) (hi : Inv h s) :
    (getMedia h ex s d).1 = specOut h d ∧ Inv h (getMedia h ex s d).2 := by
  rcases hi with ⟨hm, he, hc⟩ | ⟨hc, hcase⟩
  · have h1 : s.desCalls + 1 = 1 := congrArg (· + 1) hc
    unfold getMedia specOut
    rw [hm, he]
    cases h with
    | ok v => exact ⟨rfl, .inr ⟨h1, .inl ⟨v, rfl, rfl, rfl⟩⟩⟩
    | err e =>
      simp only
      split <;> exact ⟨rfl, .inr ⟨h1, .inr ⟨e, rfl, rfl, rfl⟩⟩⟩
  · refine ⟨?_, by rw [getMedia_cached_untouched h ex s d hc (.inr ⟨hc, hcase⟩)]; exact .inr ⟨hc, hcase⟩⟩
    unfold getMedia specOut
    rcases hcase with ⟨v, rfl, hm, _⟩ | ⟨e, rfl, hm, he⟩
    · rw [hm]
    · rw [hm, he]
      simp only
      split <;> rfl

/-- **every sequence of calls**: each call answers `specOut` (the same object / the same error; the caller's default only
    for media-not-found and only for that call), and the invariant still holds -/
theorem runCalls_spec (h : Des α) (ex : Bool) : ∀ (ds : List Bool) (s : St α), Inv h s →
    (runCalls h ex s ds).1 = ds.map (specOut h) ∧ Inv h (runCalls h ex s ds).2
  | [], s, hi => ⟨rfl, hi⟩
  | d :: ds, s, hi => by
    have h1 := getMedia_spec h ex s d hi
    have h2 := runCalls_spec h ex ds (getMedia h ex s d).2 h1.2
    simp only [runCalls, List.map_cons]
    exact ⟨by rw [h1.1, h2.1], h2.2⟩

/-- the handler's deserialize runs at most once over any call sequence on a fresh request -/
theorem deserialize_at_most_once (h : Des α) (ex : Bool) (ds : List Bool) :
    (runCalls h ex ({} : St α) ds).2.desCalls ≤ 1 := by
  rcases (runCalls_spec h ex ds _ (inv_init h)).2 with ⟨_, _, h0⟩ | ⟨h1, _⟩
  · rw [h0]; exact Nat.zero_le 1
  · exact Nat.le_of_eq h1

theorem getMedia_fresh_calls (h : Des α) (ex : Bool) (d : Bool) : (getMedia h ex ({} : St α) d).2.desCalls = 1 := by
  cases h with
  | ok v => rfl
  | err e => unfold getMedia; simp only; split <;> rfl

/-- once the outcome is cached, no sequence of calls changes the state -/
theorem runCalls_cached (h : Des α) (ex : Bool) : ∀ (ds : List Bool) (s : St α), Inv h s → s.desCalls = 1 →
    (runCalls h ex s ds).2 = s
  | [], _, _, _ => rfl
  | d :: ds, s, hi, hc => by
    simp only [runCalls, getMedia_cached_untouched h ex s d hc hi]
    exact runCalls_cached h ex ds s hi hc

theorem runCalls_cons_fresh (h : Des α) (ex : Bool) (d : Bool) (ds : List Bool) :
    (runCalls h ex ({} : St α) (d :: ds)).2 = (getMedia h ex ({} : St α) d).2 := by
  simp only [runCalls]
  exact runCalls_cached h ex ds _ (getMedia_spec h ex _ d (inv_init h)).2 (getMedia_fresh_calls h ex d)

/-- … exactly once if there is at least one call -/
theorem deserialize_exactly_once (h : Des α) (ex : Bool) (d : Bool) (ds : List Bool) :
    (runCalls h ex ({} : St α) (d :: ds)).2.desCalls = 1 := by
  rw [runCalls_cons_fresh, getMedia_fresh_calls]

/-- the stream is not touched after the first call -/
theorem stream_untouched_after_first_call (h : Des α) (ex : Bool) (d : Bool) (ds : List Bool) :
    (runCalls h ex ({} : St α) (d :: ds)).2.streamOps = (getMedia h ex ({} : St α) d).2.streamOps := by
  rw [runCalls_cons_fresh]

theorem empty_body_json_is_not_found (loads : Loads α) : jsonDeserialize [] loads = .err .notFound := rfl

/-- an undecodable non-empty body is the 400-class malformed-media error (for `ValueError` and — the F10 repair — `RecursionError`) -/
theorem undecodable_is_malformed (body : List UInt8) (hb : body ≠ []) :
    jsonDeserialize (α := α) body .valueError = .err .malformed ∧ jsonDeserialize (α := α) body .recursionError = .err .malformed := by
  cases body with
  | nil => exact absurd rfl hb
  | cons b r => exact ⟨rfl, rfl⟩

/-- the caller's default is returned only for media-not-found -/
theorem default_only_for_not_found (h : Des α) : specOut h true = .dflt ↔ h = .err .notFound := by
  cases h with
  | ok v => simp [specOut]
  | err e => cases e <;> simp [specOut]

variable {β : Type}

/-- rendering twice serializes once and returns the same bytes; re-assigning media resets the cache -/
theorem render_once_until_reassigned (ser : β → List UInt8) (r : Resp β) (m : β) :
    let r1 := setMedia r (some m)
    let (d1, r2) := renderBody ser r1
    let (d2, r3) := renderBody ser r2
    d1 = some (ser m) ∧ d2 = some (ser m) ∧ r3.serCalls = r.serCalls + 1 ∧ (setMedia r3 (some m)).rendered = none := by
  simp [setMedia, renderBody]

end Mc
