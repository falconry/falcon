import FalconModel.Multipart
import FalconModel.PeekProofs
/-! C13: facts about `Mp.next` (the model of `MultipartForm.__iter__`) that do not depend on the reader at all
    (part counting, generator termination flags, delimiter evolution), and prime-free names for the reader refinement
    theorems `Mp.next` relies on (the audit of the harness cannot print names containing `'`). -/
namespace Mp
open Rd
variable {σ : Type} [Source σ]

section readerAliases
variable [LawfulSource σ]

/-- `_read(size)` refines the flat cursor (= `Rd.read'_refines`) -/
theorem reader_read_refines (r : R σ) (size : Int) (out : Bytes) (r' : R σ) (hinv : Inv r)
    (hpl : r.pos ≤ r.len) (hs : 0 ≤ size) (h : read' r size = (out, r')) :
    out = (abs r).take size.toNat ∧ abs r' = (abs r).drop size.toNat ∧ Inv r' :=
  read'_refines r size out r' hinv hpl hs h

/-- `_read(size)` leaves the position inside the buffer (= `Rd.read'_pos_le`, the F21 repair) -/
theorem reader_read_pos_le (r : R σ) (size : Int) (hinv : Inv r) (hpl : r.pos ≤ r.len) (hs : 0 ≤ size) :
    (read' r size).2.pos ≤ (read' r size).2.len :=
  read'_pos_le r size hinv hpl hs

/-- `_read_until(d, size)` refines the flat cursor for every chunking (= `Rd.readUntil'_refines`); every read of a part
    stream `delimit(CRLF ++ "--" ++ boundary)` is such a call on the parent, so a part never contains its delimiter -/
theorem reader_readUntil_refines (r : R σ) (d : Bytes) (size : Int) (hinv : Inv r) (hpl : r.pos ≤ r.len) (hs : 0 ≤ size)
    (hd : d ≠ []) (hdc : (d.length : Int) ≤ r.chunk) :
    ∃ r', readUntil' r d size false = (.ok ((abs r).take (stopAt d (abs r) size.toNat)), r') ∧
      abs r' = (abs r).drop (stopAt d (abs r) size.toNat) ∧ Inv r' ∧ r'.pos ≤ r'.len ∧ r'.chunk = r.chunk :=
  readUntil'_refines r d size hinv hpl hs hd hdc

end readerAliases

/-! ### what resuming the generator does to its frame, whatever the streams hold

    `Mp.next` is the body of `MultipartForm.__iter__` between two `yield`s. The facts below do not depend on the reader
    (they hold for every stream state the application may have left behind): part counting, the final form of the
    delimiter, and that the generator is finished after `return`/`raise`. -/

theorem _root_.Mf.parseHeaders_err_cte : ∀ (ls : List Bytes) (acc : List (Bytes × Bytes)) (e : Err),
    parseHeaders ls acc = .error e → e = .cte
  | [], acc, e, h => by cases h
  | line :: rest, acc, e, h => by
    unfold parseHeaders at h
    simp only at h
    repeat' split at h
    all_goals first
      | (simp only [Except.error.injEq] at h; exact h.symm)
      | exact Mf.parseHeaders_err_cte rest _ e h

theorem parseHeaders_not_tooMany (ls : List Bytes) (acc : List (Bytes × Bytes)) :
    parseHeaders ls acc ≠ .error .tooManyParts :=
  fun h => nomatch Mf.parseHeaders_err_cte ls acc _ h

theorem resErr_ne_tooMany (r : Res) : resErr r ≠ .tooManyParts := by
  cases r <;> nofun

/-- the frame after the delimiter has been found: from the first part on it is `CRLF ++ "--" ++ boundary` -/
def afterDelim (f : Form) : Form :=
  { f with delim := if f.prologue then crlf ++ f.delim else f.delim, prologue := false }

theorem prologue_step (f : Form) :
    (if f.prologue = true then { f with delim := crlf ++ f.delim, prologue := false } else f) = afterDelim f := by
  cases f with | mk p d r mh mc fi => cases p <;> rfl

/-- the three ways `Mp.next` can end: it yields a part (count not exceeded), raises the count error (budget used up and a
    limit set; finished), or returns / raises anything else (finished) -/
inductive Ends (f : Form) : Form × Out σ → Prop
  | part (h : List (Bytes × Bytes)) (p : R σ) : ¬ (f.remaining - 1 < 0 ∧ 0 < f.maxCount) →
      Ends f ({ afterDelim f with remaining := f.remaining - 1 }, .part h (delimit p (afterDelim f).delim))
  | tooMany (f' : Form) (p : R σ) : f'.finished = true → f.remaining - 1 < 0 → 0 < f.maxCount →
      Ends f (f', .err .tooManyParts p)
  | other (f' : Form) (o : Out σ) : f'.finished = true → (∀ h c, o ≠ .part h c) → (∀ p, o ≠ .err .tooManyParts p) →
      Ends f (f', o)

theorem next_ends (f : Form) (s : R σ) : Ends f (next f s) := by
  unfold next
  rw [prologue_step]
  rcases h1 : pipeUntil s f.delim true none with ⟨res1, s1⟩
  cases res1 with
  | delimErr => exact .other _ _ rfl (fun _ _ => nofun) (fun _ => nofun)
  | valueErr => exact .other _ _ rfl (fun _ _ => nofun) (fun _ => nofun)
  | ok b1 =>
    simp only
    by_cases hd : ((peek s1 2).1 == dashes) = true
    · rw [if_pos hd]; exact .other _ _ rfl (fun _ _ => nofun) (fun _ => nofun)
    rw [if_neg hd]
    rcases h2 : readUntil (peek s1 2).2 crlf (some 0) true with ⟨res2, s2⟩
    cases res2 with
    | delimErr => exact .other _ _ rfl (fun _ _ => nofun) (fun _ => nofun)
    | valueErr => exact .other _ _ rfl (fun _ _ => nofun) (fun _ => nofun)
    | ok b2 =>
      simp only
      rcases h3 : readUntil s2 crlfcrlf (some (afterDelim f).maxHdr) true with ⟨res3, s3⟩
      cases res3 with
      | delimErr => exact .other _ _ rfl (fun _ _ => nofun) (fun _ => nofun)
      | valueErr => exact .other _ _ rfl (fun _ _ => nofun) (fun _ => nofun)
      | ok blk =>
        simp only
        cases h4 : parseHeaders (split blk crlf) [] with
        | error e =>
          rw [Mf.parseHeaders_err_cte _ _ e h4]
          exact .other _ _ rfl (fun _ _ => nofun) (fun _ => nofun)
        | ok hs =>
          simp only
          by_cases hlim : (afterDelim f).remaining - 1 < 0 ∧ 0 < (afterDelim f).maxCount
          · rw [← Bool.decide_and, if_pos (decide_eq_true hlim)]
            exact .tooMany _ _ rfl hlim.1 hlim.2
          · rw [← Bool.decide_and, if_neg fun h => hlim (of_decide_eq_true h)]
            exact .part hs s3 hlim

theorem next_part (f : Form) (s : R σ) (f' : Form) (h : List (Bytes × Bytes)) (c : R (Delim σ))
    (hn : next f s = (f', .part h c)) :
    f'.remaining = f.remaining - 1 ∧ f'.maxCount = f.maxCount ∧ f'.maxHdr = f.maxHdr ∧ f'.finished = f.finished ∧
    f'.prologue = false ∧ f'.delim = (if f.prologue then crlf ++ f.delim else f.delim) ∧
    ¬ (f.remaining - 1 < 0 ∧ 0 < f.maxCount) ∧ c.src.d = f'.delim ∧ c.chunk = c.src.parent.chunk := by
  have e := next_ends f s
  rw [hn] at e
  cases e with
  | part _ _ hlim => exact ⟨rfl, rfl, rfl, rfl, rfl, rfl, hlim, rfl, rfl⟩
  | other _ _ _ hno _ => exact absurd rfl (hno _ _)

theorem next_tooMany (f : Form) (s : R σ) (f' : Form) (p : R σ)
    (hn : next f s = (f', .err .tooManyParts p)) :
    f.remaining - 1 < 0 ∧ 0 < f.maxCount ∧ f'.finished = true := by
  have e := next_ends f s
  rw [hn] at e
  cases e with
  | tooMany _ _ hfin h1 h2 => exact ⟨h1, h2, hfin⟩
  | other _ _ _ _ hno => exact absurd rfl (hno _)

/-- `Yields f0 k f`: starting with the frame `f0`, the generator has been resumed `k` times, each time yielding a part
    (the application may have done anything to the streams in between: the stream passed to each `next` is arbitrary) -/
inductive Yields (σ : Type) [Source σ] (f0 : Form) : Nat → Form → Prop
  | start : Yields σ f0 0 f0
  | step {k : Nat} {f f' : Form} {s : R σ} {h : List (Bytes × Bytes)} {c : R (Delim σ)} :
      Yields σ f0 k f → next f s = (f', .part h c) → Yields σ f0 (k + 1) f'

theorem yields_count (f0 : Form) (h0 : f0.remaining = f0.maxCount) (k : Nat) (f : Form) (hy : Yields σ f0 k f) :
    f.remaining = f0.maxCount - k ∧ f.maxCount = f0.maxCount ∧ f.maxHdr = f0.maxHdr ∧ f.finished = f0.finished ∧
    (0 < f0.maxCount → (k : Int) ≤ f0.maxCount) := by
  induction hy with
  | start => exact ⟨by omega, rfl, rfl, rfl, by intro h; omega⟩
  | @step k1 f1 f2 s1 h1 c1 _ hn ih =>
    obtain ⟨i1, i2, i3, i4, i5⟩ := ih
    obtain ⟨n1, n2, n3, n4, _, _, n7, _⟩ := next_part _ _ _ _ _ hn
    rw [i1, i2] at n7
    refine ⟨by rw [n1, i1, Int.natCast_succ, Int.sub_sub], n2.trans i2, n3.trans i3, n4.trans i4, fun hpos => ?_⟩
    have : ¬ (f0.maxCount - (k1 : Int) - 1 < 0) := fun hlt => n7 ⟨hlt, hpos⟩
    rw [Int.natCast_succ]
    omega

/-- **`max_body_part_count` is enforced exactly** (model level): with `remaining_parts` initialised to the limit `m`,
    (1) the `k`-th part is yielded only if `m = 0` (no limit) or `k ≤ m`;
    (2) the "maximum number of form body parts exceeded" error is raised only when resuming after exactly `m > 0`
        yielded parts, i.e. for part number `m + 1` - never earlier, and never when `m = 0`. -/
theorem part_count_limit_exact (f0 : Form) (h0 : f0.remaining = f0.maxCount) (k : Nat) (f : Form)
    (hy : Yields σ f0 k f) :
    (f0.maxCount ≤ 0 ∨ (k : Int) ≤ f0.maxCount) ∧
    (∀ (s p : R σ) (f' : Form), next f s = (f', .err .tooManyParts p) → 0 < f0.maxCount ∧ (k : Int) = f0.maxCount) := by
  obtain ⟨i1, i2, _, _, i5⟩ := yields_count f0 h0 k f hy
  refine ⟨?_, ?_⟩
  · by_cases hm : 0 < f0.maxCount
    · exact Or.inr (i5 hm)
    · exact Or.inl (Int.not_lt.mp hm)
  · intro s p f' hn
    obtain ⟨t1, t2, _⟩ := next_tooMany f s f' p hn
    rw [i2] at t2
    have := i5 t2
    exact ⟨t2, by omega⟩

/-- **the inter-part delimiter is `CRLF ++ "--" ++ boundary` from the first part on** (RFC 7578 4.1): whatever the streams
    hold, after at least one yielded part the frame's delimiter is the initial dash-boundary with CRLF prepended exactly
    once, and every part stream handed out is the parent delimited by exactly that byte string -/
theorem yields_delim (f0 : Form) (hp0 : f0.prologue = true) (k : Nat) (f : Form) (hy : Yields σ f0 k f) :
    (k = 0 → f = f0) ∧ (0 < k → f.prologue = false ∧ f.delim = crlf ++ f0.delim) := by
  induction hy with
  | start => exact ⟨fun _ => rfl, fun h => (Nat.lt_irrefl 0 h).elim⟩
  | @step k1 f1 f2 s1 h1 c1 _ hn ih =>
    obtain ⟨_, _, _, _, n5, n6, _, _⟩ := next_part _ _ _ _ _ hn
    refine ⟨fun h => (Nat.succ_ne_zero _ h).elim, fun _ => ⟨n5, ?_⟩⟩
    by_cases hk : k1 = 0
    · rw [ih.1 hk, hp0] at n6; exact n6.trans (if_pos rfl)
    · obtain ⟨p1, p2⟩ := ih.2 (Nat.pos_of_ne_zero hk)
      rw [p1, p2] at n6; exact n6.trans (if_neg Bool.false_ne_true)

theorem part_stream_delimiter (f0 : Form) (hp0 : f0.prologue = true) (k : Nat) (f f' : Form) (hy : Yields σ f0 k f)
    (s : R σ) (h : List (Bytes × Bytes)) (c : R (Delim σ)) (hn : next f s = (f', .part h c)) :
    c.src.d = crlf ++ f0.delim := by
  have hy' : Yields σ f0 (k + 1) f' := .step hy hn
  obtain ⟨_, _, _, _, _, _, _, n8, _⟩ := next_part _ _ _ _ _ hn
  rw [n8]; exact ((yields_delim f0 hp0 (k + 1) f' hy').2 (Nat.succ_pos k)).2

/-- whenever the generator returns (`done`) or raises (`err`), it is finished: a later `next` is `StopIteration` -/
theorem next_finished (f : Form) (s : R σ) (f' : Form) (o : Out σ) (hn : next f s = (f', o))
    (hno : ∀ h c, o ≠ .part h c) : f'.finished = true := by
  have e := next_ends f s
  rw [hn] at e
  cases e with
  | part _ _ _ => exact absurd rfl (hno _ _)
  | tooMany _ _ hfin _ _ => exact hfin
  | other _ _ hfin _ _ => exact hfin
end Mp
