/-! Prototype for C16: static route — containment for ANY normpath, and exact range arithmetic. -/
namespace St

/-- posixpath.join(a, b) for two arguments -/
def join (a b : List Char) : List Char :=
  if b.head? == some '/' then b
  else if a.isEmpty || a.getLast? == some '/' then a ++ b
  else a ++ ['/'] ++ b

def isInfix (needle hay : List Char) : Bool :=
  (List.range (hay.length + 1)).any (fun i => (hay.drop i).take needle.length == needle)

def startsWith (s p : List Char) : Bool := s.take p.length == p

/-- the tail of `StaticRoute.__call__` after the textual rejections, for an arbitrary `normpath` result `n` -/
def resolve (dir n : List Char) : Option (List Char) :=
  if startsWith n ['.', '.', '/'] || startsWith n ['/'] then none
  else if isInfix ['.', '.'] (join dir n) || !startsWith (join dir n) dir then none
  else some (join dir n)

/-- **containment, independent of what `normpath` computes**: an accepted request opens `dir ++ "/" ++ n`
    (or `dir ++ n` if `dir` ends with a slash) and that string contains no ".." at all -/
theorem resolve_contained (dir n fp : List Char) (hd : dir ≠ []) (h : resolve dir n = some fp) :
    (fp = dir ++ ['/'] ++ n ∨ (dir.getLast? = some '/' ∧ fp = dir ++ n)) ∧ isInfix ['.', '.'] fp = false := by
  unfold resolve at h
  split at h
  · simp at h
  · rename_i hstart
    simp only [Bool.or_eq_true, not_or] at hstart
    split at h
    · simp at h
    · rename_i hchk
      simp only [Bool.or_eq_true, not_or, Bool.not_eq_true'] at hchk
      have hfp : fp = join dir n := by simpa using h.symm
      have habs : (n.head? == some '/') = false := by
        have h2 := hstart.2
        cases n with
        | nil => rfl
        | cons c cs =>
          simp only [startsWith, List.length_singleton, List.take_succ_cons, List.take_zero] at h2
          simp only [List.head?_cons]
          cases hc : (c == '/') with
          | false => simp [hc]
          | true =>
            have : c = '/' := by simpa using hc
            subst this; simp at h2
      refine ⟨?_, ?_⟩
      · rw [hfp]; unfold join
        simp only [habs, Bool.false_eq_true, if_false]
        have hne : dir.isEmpty = false := by
          cases dir with
          | nil => exact absurd rfl hd
          | cons _ _ => rfl
        simp only [hne, Bool.false_or]
        by_cases hl : (dir.getLast? == some '/') = true
        · simp only [hl, if_true]; right
          exact ⟨by simpa using hl, by first | rfl | trivial⟩
        · simp only [hl]; left; first | rfl | trivial
      · rw [hfp]; simpa using hchk.1

#print axioms resolve_contained

/-! ### `_set_range` -/
inductive RangeOut where
  | whole (len : Nat)                               -- 200, whole file
  | partial_ (first last len : Nat)                 -- 206, Content-Range first-last/size
  | unsatisfiable (size : Nat)                      -- 416
deriving Repr, DecidableEq

/-- `_set_range(fh, st, req_range)` with `req_range = (start, end_)`; `end_ = -1` means open; `start < 0` is a suffix -/
def setRange (size : Nat) (start end_ : Int) : RangeOut :=
  if size == 0 then .whole 0
  else if start < 0 && end_ == -1 then
    let s := max start (-(size : Int))
    .partial_ ((size : Int) + s).toNat (size - 1) (-s).toNat
  else if start ≥ size then .unsatisfiable size
  else if end_ == -1 then .partial_ start.toNat (size - 1) ((size : Int) - start).toNat
  else
    let e := min end_ ((size : Int) - 1)
    .partial_ start.toNat e.toNat (e - start + 1).toNat

theorem max_neg_cast (n size : Nat) : max (-(n : Int)) (-(size : Int)) = -((min n size : Nat) : Int) := by
  by_cases h : n ≤ size
  · rw [Nat.min_eq_left h, Int.max_eq_left (Int.neg_le_neg (Int.ofNat_le.mpr h))]
  · rw [Nat.min_eq_right (Nat.le_of_not_le h), Int.max_eq_right (Int.neg_le_neg (Int.ofNat_le.mpr (Nat.le_of_not_le h)))]

theorem min_cast_pred (last size : Nat) (hs : 0 < size) : min (last : Int) ((size : Int) - 1) = ((min last (size - 1) : Nat) : Int) := by
  have e : (size : Int) - 1 = ((size - 1 : Nat) : Int) := (Int.natCast_sub hs).symm
  rw [e]
  by_cases h : last ≤ size - 1
  · rw [Nat.min_eq_left h, Int.min_eq_left (Int.ofNat_le.mpr h)]
  · rw [Nat.min_eq_right (Nat.le_of_not_le h), Int.min_eq_right (Int.ofNat_le.mpr (Nat.le_of_not_le h))]

theorem size_ne (size : Nat) (hs : 0 < size) : ¬ (size == 0) = true := by simp; omega

/-- RFC 9110 reading of `bytes=first-last` on a representation of `size > 0` bytes -/
theorem range_closed (size : Nat) (first last : Nat) (hs : 0 < size) (hfl : first ≤ last) :
    setRange size first last =
      if first ≥ size then .unsatisfiable size
      else .partial_ first (min last (size - 1)) (min last (size - 1) - first + 1) := by
  have h1 : ¬ (decide ((first : Int) < 0) && ((last : Int) == -1)) = true := by simp
  have h2 : ¬ ((last : Int) == -1) = true := by simp
  rw [setRange, if_neg (size_ne size hs), if_neg h1]
  by_cases hge : first ≥ size
  · rw [if_pos hge, if_pos (Int.ofNat_le.mpr hge)]
  · rw [if_neg hge, if_neg (fun h => hge (Int.ofNat_le.mp h)), if_neg h2]
    dsimp only
    have hfm : first ≤ min last (size - 1) := Nat.le_min.mpr ⟨hfl, Nat.le_sub_one_of_lt (Nat.lt_of_not_le hge)⟩
    have e : ((min last (size - 1) : Nat) : Int) - first + 1 = ((min last (size - 1) - first + 1 : Nat) : Int) := by
      rw [Int.natCast_add, Int.natCast_sub hfm]; rfl
    rw [min_cast_pred last size hs, e, Int.toNat_natCast, Int.toNat_natCast, Int.toNat_natCast]

theorem range_open (size : Nat) (first : Nat) (hs : 0 < size) :
    setRange size first (-1) =
      if first ≥ size then .unsatisfiable size else .partial_ first (size - 1) (size - first) := by
  have h1 : ¬ (decide ((first : Int) < 0) && ((-1 : Int) == -1)) = true := by simp
  rw [setRange, if_neg (size_ne size hs), if_neg h1]
  by_cases hge : first ≥ size
  · rw [if_pos hge, if_pos (Int.ofNat_le.mpr hge)]
  · rw [if_neg hge, if_neg (fun h => hge (Int.ofNat_le.mp h)), if_pos (beq_self_eq_true _), Int.toNat_natCast, Int.toNat_sub]

theorem range_suffix (size : Nat) (n : Nat) (hs : 0 < size) (hn : 0 < n) :
    setRange size (-(n : Int)) (-1) = .partial_ (size - min n size) (size - 1) (min n size) := by
  have h1 : (decide (-(n : Int) < 0) && ((-1 : Int) == -1)) = true := by simp; omega
  rw [setRange, if_neg (size_ne size hs), if_pos h1]
  dsimp only
  rw [max_neg_cast, ← Int.sub_eq_add_neg, Int.toNat_sub, Int.neg_neg, Int.toNat_natCast]

/-- the served slice always lies inside the file and Content-Length matches Content-Range -/
theorem range_wellformed (size : Nat) (start end_ : Int) (first last len : Nat)
    (hse : start < 0 → end_ = -1) (he : end_ = -1 ∨ start ≤ end_)
    (h : setRange size start end_ = .partial_ first last len) :
    first ≤ last ∧ last < size ∧ len = last - first + 1 := by
  have hs : 0 < size := by
    cases size with
    | zero => cases h
    | succ n => exact Nat.succ_pos n
  have fin : ∀ {f l n}, RangeOut.partial_ f l n = .partial_ first last len → f ≤ l ∧ l < size ∧ n = l - f + 1 →
      first ≤ last ∧ last < size ∧ len = last - first + 1 := by
    intro f l n e hwf
    injection e with e1 e2 e3
    subst e1 e2 e3
    exact hwf
  by_cases hneg : start < 0
  · obtain ⟨n, rfl⟩ := Int.eq_negSucc_of_lt_zero hneg
    rw [hse hneg, Int.negSucc_eq, ← Int.natCast_succ, range_suffix size (n + 1) hs (Nat.succ_pos n)] at h
    have h1 : 1 ≤ min (n + 1) size := Nat.le_min.mpr ⟨Nat.succ_pos n, hs⟩
    have h2 : min (n + 1) size ≤ size := Nat.min_le_right _ _
    generalize min (n + 1) size = m at h h1 h2
    exact fin h ⟨Nat.sub_le_sub_left h1 size, Nat.sub_lt hs Nat.one_pos,
      by rw [Nat.sub_right_comm, Nat.sub_sub_self h2, Nat.sub_add_cancel h1]⟩
  · obtain ⟨f, rfl⟩ := Int.eq_ofNat_of_zero_le (Int.not_lt.mp hneg)
    rcases he with he | he
    · rw [he, range_open size f hs] at h
      by_cases hge : f ≥ size
      · rw [if_pos hge] at h; cases h
      · rw [if_neg hge] at h
        have hlt : f < size := Nat.lt_of_not_le hge
        exact fin h ⟨Nat.le_sub_one_of_lt hlt, Nat.sub_lt hs Nat.one_pos,
          by rw [Nat.sub_right_comm, Nat.sub_add_cancel (Nat.sub_pos_of_lt hlt)]⟩
    · obtain ⟨l, rfl⟩ := Int.eq_ofNat_of_zero_le (Int.le_trans (Int.not_lt.mp hneg) he)
      have hfl : f ≤ l := Int.ofNat_le.mp he
      rw [range_closed size f l hs hfl] at h
      by_cases hge : f ≥ size
      · rw [if_pos hge] at h; cases h
      · rw [if_neg hge] at h
        have h1 : f ≤ min l (size - 1) := Nat.le_min.mpr ⟨hfl, Nat.le_sub_one_of_lt (Nat.lt_of_not_le hge)⟩
        have h2 : min l (size - 1) ≤ size - 1 := Nat.min_le_right _ _
        exact fin h ⟨h1, Nat.lt_of_le_of_lt h2 (Nat.sub_lt hs Nat.one_pos), rfl⟩

#print axioms range_wellformed
end St

/-! ### Round 1: the textual rejection tests of `StaticRoute.__call__`, POSIX `normpath`, and the whole path resolution -/
namespace St

/-- `_DISALLOWED_CHARS_PATTERN = '[\x00-\x1f\x80-\x9f�~?<>:*|\'"]'` -/
def disallowedChar (c : Char) : Bool :=
  c.toNat ≤ 0x1f || (0x80 ≤ c.toNat && c.toNat ≤ 0x9f) || c.toNat == 0xfffd ||
  c == '~' || c == '?' || c == '<' || c == '>' || c == ':' || c == '*' || c == '|' || c == '\'' || c == '"'

/-- `str.isspace` for one character (what `str.strip()` removes) -/
def isSpace (c : Char) : Bool :=
  let n := c.toNat
  (0x09 ≤ n && n ≤ 0x0d) || (0x1c ≤ n && n ≤ 0x20) || n == 0x85 || n == 0xa0 || n == 0x1680 ||
  (0x2000 ≤ n && n ≤ 0x200a) || n == 0x2028 || n == 0x2029 || n == 0x202f || n == 0x205f || n == 0x3000

def rstripBy (p : Char → Bool) (s : List Char) : List Char := (s.reverse.dropWhile p).reverse
/-- `s.strip().rstrip('.')` -/
def stripDots (s : List Char) : List Char := rstripBy (· == '.') (rstripBy isSpace (s.dropWhile isSpace))

/-- the six textual tests before `normpath`; `true` = the request goes on, `false` = 404 -/
def sanitise (hasFallback : Bool) (s : List Char) : Bool :=
  !( (s.isEmpty && !hasFallback)
     || stripDots s != s
     || s.any disallowedChar
     || s.contains '\\'
     || isInfix ['/', '/'] s
     || decide (s.length > 512))

def splitOn (sep : Char) (s : List Char) : List (List Char) :=
  s.foldr (fun c acc => if c == sep then [] :: acc else match acc with | [] => [[c]] | h :: t => (c :: h) :: t) [[]]

def joinSlash : List (List Char) → List Char
  | [] => []
  | [a] => a
  | a :: rest => a ++ ['/'] ++ joinSlash rest

/-- `posixpath.normpath` -/
def normpath (path : List Char) : List Char :=
  if path.isEmpty then ['.'] else
  let initial : Nat :=
    if startsWith path ['/'] then (if startsWith path ['/', '/'] && !startsWith path ['/', '/', '/'] then 2 else 1) else 0
  let comps := (splitOn '/' path).foldl (fun (acc : List (List Char)) comp =>
    if comp.isEmpty || comp == ['.'] then acc
    else if comp != ['.', '.'] || (initial == 0 && acc.isEmpty) || (acc.getLast? == some ['.', '.']) then acc ++ [comp]
    else acc.dropLast) []
  let p := List.replicate initial '/' ++ joinSlash comps
  if p.isEmpty then ['.'] else p

/-- everything `StaticRoute.__call__` does to the part of the request path after the prefix: `none` = 404 without
    touching the file system, `some fp` = the one path handed to `io.open` (the fallback file aside) -/
def serve (hasFallback : Bool) (dir s : List Char) : Option (List Char) :=
  if sanitise hasFallback s then resolve dir (normpath s) else none

/-- **containment for every request-path suffix**: whatever is opened is `dir + "/" + normpath(suffix)`, contains no
    `..` anywhere, and the suffix has no control / reserved character, no backslash, no `//`, at most 512 characters, and
    is non-empty unless a fallback is configured (that it also survives `strip().rstrip('.')` is not part of the statement) -/
theorem serve_contained (fb : Bool) (dir s fp : List Char) (hd : dir ≠ []) (h : serve fb dir s = some fp) :
    (fp = dir ++ ['/'] ++ normpath s ∨ (dir.getLast? = some '/' ∧ fp = dir ++ normpath s)) ∧
    isInfix ['.', '.'] fp = false ∧
    s.any disallowedChar = false ∧ s.contains '\\' = false ∧ isInfix ['/', '/'] s = false ∧ s.length ≤ 512 ∧
    (fb = false → s ≠ []) := by
  unfold serve at h
  split at h
  · rename_i hs
    have hr := resolve_contained dir (normpath s) fp hd h
    refine ⟨hr.1, hr.2, ?_⟩
    unfold sanitise at hs
    simp only [Bool.not_eq_true', Bool.or_eq_false_iff, Bool.and_eq_false_iff, decide_eq_false_iff_not] at hs
    obtain ⟨⟨⟨⟨⟨h1, _⟩, h3⟩, h4⟩, h5⟩, h6⟩ := hs
    refine ⟨h3, h4, h5, by omega, ?_⟩
    intro hfb hnil
    subst hfb; subst hnil
    simp at h1
  · cases h

/-- a rejected suffix opens nothing -/
theorem rejected_opens_nothing (fb : Bool) (dir s : List Char) (h : sanitise fb s = false) : serve fb dir s = none := by
  simp [serve, h]

#print axioms serve_contained
end St
