import FalconModel.ReadUntilProofs
/-! C14: the `while True` loop of `_read_until`, for both values of `consume_delimiter` at once. `Stops A d k chunk x0 x1` says
    that `x0`, the outcome without consumption, returns `A.take k` and leaves `A.drop k`, and that `x1`, the outcome with
    consumption, is `x0` followed by the peek-and-step tail `tailPeek`. `readUntilLoop_stops` proves it of the loop from any state
    satisfying `LInv`, by induction on the bytes still to come: at each exit the non-consuming statement is the exit lemma of
    ReadUntilProofs and the consuming one `found_consume` / `notfound_consume`. -/
namespace Rd
variable {σ : Type} [Source σ] [LawfulSource σ]
open LawfulSource (data readLen)

theorem peek_in_buffer (r : R σ) (n : Int) (h0 : 0 ≤ n) (hc : n ≤ r.chunk) (hin : n ≤ r.len - r.pos) :
    peek r n = (slice r.buf r.pos (r.pos + n), r) := by
  have h1 : (decide (n < 0) || decide (n > r.chunk)) = false := by
    rw [decide_eq_false (Int.not_lt.mpr h0), decide_eq_false (Int.not_lt.mpr hc)]; rfl
  unfold peek
  simp only [h1, Bool.false_eq_true, if_false, Int.not_lt.mpr hin]

/-- the `consume_delimiter=True` tail of `_finalize_read_until` when the delimiter was not located beforehand:
    `if self.peek(n) != delimiter: raise DelimiterError` else `self._buffer_pos += n` -/
def tailPeek (r0 : R σ) (d : Bytes) (ret : Bytes) : Res × R σ :=
  let (p, r) := peek r0 d.length
  if p != d then (.delimErr, r) else (.ok ret, { r with pos := r.pos + d.length })

theorem finishRU_zero_ok (r : R σ) (sz : Int) (bl : List Bytes) (h : Int) (delim : Option Bytes) (dpos : Int)
    (next : Option Bytes) : ∃ ret r0, finishRU r sz bl h 0 delim dpos next = (.ok ret, r0) := by
  unfold finishRU
  exact ⟨_, _, rfl⟩

theorem finishRU_consume_search (r : R σ) (sz : Int) (bl : List Bytes) (h : Int) (d : Bytes) (dpos : Int)
    (next : Option Bytes) (hdp : dpos < 0) (hdl : 0 < d.length) (ret : Bytes) (r0 : R σ)
    (h0 : finishRU r sz bl h 0 (some d) dpos next = (.ok ret, r0)) :
    finishRU r sz bl h (d.length : Int) (some d) dpos next = tailPeek r0 d ret := by
  have hc : ((d.length : Int) != 0) = true := bne_iff_ne.mpr (by omega)
  unfold finishRU at h0 ⊢
  simp only [bne_self_eq_false, Bool.false_eq_true, if_false] at h0
  simp only [hc, if_true, hdp]
  obtain ⟨h1, rfl⟩ := Prod.mk.inj h0
  rw [Res.ok.inj h1]; rfl

/-- the exits of `_read_until` that finish without having located the delimiter, with `consume_delimiter=True` -/
theorem notfound_consume (r r0 : R σ) (size : Int) (result : List Bytes) (have_ : Int) (d ret : Bytes)
    (next : Option Bytes) (hdl : 0 < d.length) (hfind : find r.buf d r.pos = -1)
    (h0 : finalizeRU r size result have_ 0 (some d) (-1) next = (.ok ret, r0)) :
    finalizeRU r size result have_ (d.length : Int) (some d) (-1) next = tailPeek r0 d ret := by
  rw [finalizeRU_eq, resolveDpos_search, hfind] at h0 ⊢
  exact finishRU_consume_search _ _ _ _ _ _ _ (by decide) hdl ret r0 h0

theorem read'_advance (r : R σ) (s : Int) (hfit : s ≤ r.len - r.pos) (hnot : ¬ (s = r.len ∧ r.pos = 0)) :
    (read' r s).2 = { r with pos := r.pos + s } := by
  have hb : (s == r.len && r.pos == 0) = false := by
    cases h1 : (s == r.len) <;> cases h2 : (r.pos == 0) <;> try rfl
    exact absurd ⟨eq_of_beq h1, eq_of_beq h2⟩ hnot
  unfold read'
  rw [if_pos hfit, hb, if_neg Bool.false_ne_true]

theorem finishRU_consume_at (r : R σ) (sz : Int) (bl : List Bytes) (h c : Int) (delim : Option Bytes) (q : Nat)
    (next : Option Bytes) (hc : c ≠ 0) (ret : Bytes) (r0 : R σ)
    (h0 : finishRU r sz bl h 0 delim q next = (.ok ret, r0)) :
    finishRU r sz bl h c delim q next
      = if r0.pos != (q : Int) then (.delimErr, r0) else (.ok ret, { r0 with pos := r0.pos + c }) := by
  have hq : ¬ ((q : Int) < 0) := Int.not_lt.mpr (Int.natCast_nonneg q)
  unfold finishRU at h0 ⊢
  simp only [bne_self_eq_false, Bool.false_eq_true, if_false] at h0
  simp only [bne_iff_ne.mpr hc, if_true, hq, if_false]
  obtain ⟨h1, rfl⟩ := Prod.mk.inj h0
  rw [Res.ok.inj h1]

/-- `s` is the amount the non-consuming finish reads when the delimiter sits at buffer offset `q` -/
theorem found_arith (size have_ pos len s : Int) (q n dl : Nat) (hs : min size (have_ + q - pos) - have_ = s)
    (hsz : have_ ≤ size) (hp0 : 0 ≤ pos) (hq1 : pos.toNat ≤ q) (hlen : len = n) (hfit : q + dl ≤ n) (hdl : 0 < dl) :
    0 ≤ s ∧ pos + s ≤ q ∧ (dl : Int) ≤ len - (pos + s) ∧ s ≤ len - pos ∧ ¬ (s = len ∧ pos = 0) := by
  have h0 : 0 ≤ s ∧ pos + s ≤ q := by omega
  have h1 : (dl : Int) ≤ len - (pos + s) := by omega
  exact ⟨h0.1, h0.2, h1, by omega, by omega⟩

/-- the two exits of `_read_until` that have located the delimiter (at buffer offset `q`), with `consume_delimiter=True`:
    comparing the position with `q` is the same as peeking for the delimiter -/
theorem found_consume (d A0 : Bytes) (r : R σ) (result : List Bytes) (have_ size : Int) (q : Nat)
    (hd : d ≠ []) (hdc : (d.length : Int) ≤ r.chunk) (h : LInv d A0 r result have_ size)
    (hq1 : r.pos.toNat ≤ q) (hq2 : occ d r.buf q) (hq3 : ∀ j, r.pos.toNat ≤ j → j < q → ¬ occ d r.buf j)
    (delim : Option Bytes) (dp : Int) (hres : resolveDpos r delim dp = (q : Int)) (ret : Bytes) (r0 : R σ)
    (h0 : finalizeRU r size result have_ 0 delim dp none = (.ok ret, r0)) :
    finalizeRU r size result have_ (d.length : Int) delim dp none = tailPeek r0 d ret := by
  have hdl : 0 < d.length := List.length_pos_iff.mpr hd
  obtain ⟨hq2a, hfit⟩ := (occ_iff d r.buf q hd).mp hq2
  rw [finalizeRU_eq, hres, capSize_found] at h0 ⊢
  rw [finishRU_consume_at _ _ _ _ _ _ _ _ (Int.natCast_ne_zero.mpr (Nat.ne_of_gt hdl)) ret r0 h0]
  -- the non-consuming finish read `s` bytes from the buffer, stopping at or before `q`
  rw [finishRU_plain _ _ _ _ _ _ _ (fun hz => by rw [h.res, hz]; rfl)] at h0
  generalize hs : min size (have_ + (q : Int) - r.pos) - have_ = s at h0
  obtain ⟨hs0, hsq, hin, hsfit, hnot⟩ :=
    found_arith size have_ r.pos r.len s q _ _ hs h.hsz h.inv.pos_nonneg hq1 h.inv.len_eq hfit hdl
  obtain ⟨t, ht⟩ := Int.eq_ofNat_of_zero_le (Int.add_nonneg h.inv.pos_nonneg hs0)
  have hp := Int.toNat_of_nonneg h.inv.pos_nonneg
  have hlen := h.inv.len_eq
  obtain rfl : r0 = { r with pos := r.pos + s } :=
    (Prod.mk.inj h0).2.symm.trans (read'_advance r s hsfit hnot)
  unfold tailPeek
  rw [peek_in_buffer { r with pos := r.pos + s } (d.length : Int) (Int.natCast_nonneg _) hdc hin]
  dsimp only
  rw [ht, slice_nonneg _ _ _ (Int.natCast_nonneg t) (Int.le_add_of_nonneg_right (Int.natCast_nonneg _)),
    ← Int.natCast_add, Int.toNat_natCast, Int.toNat_natCast, Nat.add_sub_cancel_left]
  have hcmp : ((t : Int) != (q : Int)) = ((r.buf.drop t).take d.length != d) := by
    rw [Bool.eq_iff_iff, bne_iff_ne, bne_iff_ne]
    refine not_congr ⟨fun heq => ?_, fun heq => ?_⟩
    · rw [Int.ofNat_inj.mp heq]; exact hq2a
    · refine Decidable.byContradiction fun hne => hq3 t (by omega) (by omega) ?_
      exact (occ_iff _ _ _ hd).mpr ⟨heq, by omega⟩
  rw [hcmp]

theorem LInv.append {d A0 : Bytes} {r : R σ} {result : List Bytes} {have_ size : Int} (h : LInv d A0 r result have_ size) (nc : Bytes) (r1 : R σ)
    (hpr : performRead r r.chunk = (nc, r1)) :
    LInv d A0 { r1 with len := r1.len + nc.length, buf := r1.buf ++ nc } result have_ size := by
  obtain ⟨a1, a2, a3⟩ := append_chunk_abs r r.chunk nc r1 h.inv h.pl hpr
  exact ⟨a2, a3, h.h0, h.hsz, h.hA, h.res, a1.trans h.ab, h.noocc⟩

theorem max_sub_cast (n k p : Nat) : max ((n : Int) - (k : Int)) (p : Int) = ((max (n - k) p : Nat) : Int) := by
  rcases Nat.le_total k n with h | h
  · rw [← Int.natCast_sub h]; omega
  · rw [Nat.sub_eq_zero_of_le h, Nat.zero_max, Int.max_eq_right]
    exact Int.le_trans (Int.sub_nonpos_of_le (Int.ofNat_le.mpr h)) (Int.natCast_nonneg p)

/-- the offset of the fragment, `max(len - (len(d) - 1), pos)`, is a position in the buffer -/
theorem offset_cast (r : R σ) (d : Bytes) (h : Inv r) (hdl : 0 < d.length) :
    (d.length : Int) - 1 = ((d.length - 1 : Nat) : Int) ∧
    max (r.len - ((d.length : Int) - 1)) r.pos = ((max (r.buf.length - (d.length - 1)) r.pos.toNat : Nat) : Int) := by
  have e1 : (d.length : Int) - 1 = ((d.length - 1 : Nat) : Int) := (Int.natCast_sub hdl).symm
  refine ⟨e1, ?_⟩
  rw [e1, h.len_eq, ← max_sub_cast, Int.toNat_of_nonneg h.pos_nonneg]

/-- what the code computes as `fragment`, in list terms -/
theorem fragment_eq (r : R σ) (d nc : Bytes) (h : Inv r) (hdl : 0 < d.length) :
    sliceFrom r.buf (max (r.len - ((d.length : Int) - 1)) r.pos) ++ sliceTo nc ((d.length : Int) - 1)
      = r.buf.drop (max (r.buf.length - (d.length - 1)) r.pos.toNat) ++ nc.take (d.length - 1) := by
  obtain ⟨e1, e2⟩ := offset_cast r d h hdl
  rw [e2, e1, sliceFrom_nonneg _ _ (Int.natCast_nonneg _), sliceTo_nonneg _ _ (Int.natCast_nonneg _),
    Int.toNat_natCast, Int.toNat_natCast]

theorem performRead_progress (r : R σ) (size : Int) (nc : Bytes) (r1 : R σ) (hinv : Inv r) (hs : 0 < size)
    (h : performRead r size = (nc, r1)) (hrem : r1.rem ≠ 0) : (avail r1).length < (avail r).length := by
  obtain ⟨p1, p2, p3, _, _, _, _, p8, p9⟩ := performRead_spec r size nc r1 hinv.rem_nonneg h
  have hncl : 0 < nc.length := by
    have : ¬ ((nc.length : Int) < min size r.rem) := fun hlt => hrem (p8 hlt)
    omega
  have h1 : nc.length ≤ (avail r).length := by rw [p1, List.length_take]; exact Nat.min_le_right _ _
  rw [p2, List.length_drop]; omega

theorem no_occ_through_buffer (d A0 : Bytes) (r : R σ) (result : List Bytes) (have_ size : Int) (nc : Bytes)
    (hd : d ≠ []) (hchunk : (d.length : Int) ≤ r.chunk) (h : LInv d A0 r result have_ size)
    (r1 : R σ) (hpr : performRead r r.chunk = (nc, r1))
    (hno : ∀ j, r.pos.toNat ≤ j → ¬ occ d r.buf j)
    (hfrag : ∀ j, ¬ occ d (r.buf.drop (max (r.buf.length - (d.length - 1)) r.pos.toNat) ++ nc.take (d.length - 1)) j) :
    ∀ j, j < have_.toNat + (r.buf.drop r.pos.toNat).length → ¬ occ d A0 j := by
  have hple := pos_toNat_le r h.inv h.pl
  -- the code's fragment uses the look-ahead chunk, which agrees with `avail` on its first |d|-1 bytes
  have htk : nc.take (d.length - 1) = (avail r).take (d.length - 1) := by
    rw [(performRead_spec r r.chunk nc r1 h.inv.rem_nonneg hpr).1, List.take_take, Nat.min_eq_left (by omega)]
  rw [htk] at hfrag
  refine h.no_occ_before _ fun k hk hocc => ?_
  rw [List.length_drop] at hk
  rw [← List.drop_append_of_le_length hple, occ_drop] at hocc
  exact hfrag _ (occ_in_fragment d r.buf (avail r) r.pos.toNat _ hd hple hno (Nat.le_add_right _ _) (by omega) hocc).2

#print axioms no_occ_through_buffer

section
variable {d A0 : Bytes} {r : R σ} {result : List Bytes} {have_ size : Int}

theorem LInv.replace (h : LInv d A0 r result have_ size)
    (nc : Bytes) (r1 : R σ) (hpr : performRead r r.chunk = (nc, r1)) (hempty : r.len ≤ r.pos) :
    LInv d A0 { r1 with len := nc.length, pos := 0, buf := nc } result have_ size := by
  obtain ⟨c1, c2, c3⟩ := replace_chunk r r.chunk nc r1 h.inv h.pl hpr
  have hB : r.buf.drop r.pos.toNat = [] :=
    List.eq_nil_of_length_eq_zero (Int.ofNat_eq_zero.mp (by rw [unread_length r h.inv h.pl]; have := h.pl; omega))
  refine ⟨c2, c3, h.h0, h.hsz, h.hA, h.res, ?_, h.noocc⟩
  rw [c1, ← h.ab, abs_eq r h.inv h.pl, hB, List.nil_append]

theorem LInv.accumulate (h : LInv d A0 r result have_ size)
    (nc : Bytes) (r1 : R σ) (hpr : performRead r r.chunk = (nc, r1)) (hlt : have_ + r.len - r.pos ≤ size)
    (hno : ∀ j, j < have_.toNat + (r.buf.drop r.pos.toNat).length → ¬ occ d A0 j) :
    LInv d A0 { r1 with len := nc.length, pos := 0, buf := nc }
      (result ++ [if r.pos > 0 then sliceFrom r.buf r.pos else r.buf]) (have_ + r.len - r.pos) size := by
  obtain ⟨c1, c2, c3⟩ := replace_chunk r r.chunk nc r1 h.inv h.pl hpr
  have hB := unread_length r h.inv h.pl
  have hp0 := h.inv.pos_nonneg
  have hx : (if r.pos > 0 then sliceFrom r.buf r.pos else r.buf) = r.buf.drop r.pos.toNat := by
    split
    · exact sliceFrom_nonneg _ _ hp0
    · rw [show r.pos = 0 by omega]; rfl
  have hH := Int.toNat_of_nonneg h.h0
  have hk : (have_ + r.len - r.pos).toNat = have_.toNat + (r.buf.drop r.pos.toNat).length := by
    rw [show have_ + r.len - r.pos = ((have_.toNat + (r.buf.drop r.pos.toNat).length : Nat) : Int) by omega,
      Int.toNat_natCast]
  obtain ⟨t1, t2⟩ := h.take_add (r.buf.drop r.pos.toNat).length
  rw [abs_eq r h.inv h.pl, List.take_left, ← hk] at t1
  rw [abs_eq r h.inv h.pl, List.drop_left, ← hk] at t2
  refine ⟨c2, c3, by omega, hlt, ?_, ?_, c1.trans t2.symm, fun j hj => hno j (hk ▸ hj)⟩
  · rw [hk]; have := h.A0_length; omega
  · rw [hx, List.flatten_append, List.flatten_singleton, t1]

theorem LInv.stop_at_size (h : LInv d A0 r result have_ size)
    (hd : d ≠ []) (hfull : have_ + r.len - r.pos ≥ size)
    (hno : ∀ j, j < have_.toNat + (r.buf.drop r.pos.toNat).length → ¬ occ d A0 j) :
    stopAt d A0 size.toNat = size.toNat := by
  have hB := unread_length r h.inv h.pl
  have := h.A0_length; have := h.h0
  exact stopAt_no_occ_before d A0 _ hd (fun j hj => hno j (by omega)) (by omega)
end

def Stops (A d : Bytes) (k : Nat) (chunk : Int) (x0 x1 : Res × R σ) : Prop :=
  ∃ r', x0 = (.ok (A.take k), r') ∧ abs r' = A.drop k ∧ Inv r' ∧ r'.pos ≤ r'.len ∧ r'.chunk = chunk ∧
    x1 = tailPeek r' d (A.take k)

theorem Stops.of_exit {A d : Bytes} {k : Nat} {chunk : Int} {x0 x1 : Res × R σ}
    (hex : ∃ r', x0 = (.ok (A.take k), r') ∧ abs r' = A.drop k ∧ Inv r' ∧ r'.pos ≤ r'.len ∧ r'.chunk = chunk)
    (hcons : ∀ r', x0 = (.ok (A.take k), r') → x1 = tailPeek r' d (A.take k)) : Stops A d k chunk x0 x1 :=
  let ⟨r', e1, e2, e3, e4, e5⟩ := hex
  ⟨r', e1, e2, e3, e4, e5, hcons r' e1⟩

theorem Stops.refines {A d : Bytes} {k : Nat} {chunk : Int} {x0 x1 : Res × R σ} (h : Stops A d k chunk x0 x1) :
    ∃ r', x0 = (.ok (A.take k), r') ∧ abs r' = A.drop k ∧ Inv r' ∧ r'.pos ≤ r'.len ∧ r'.chunk = chunk :=
  let ⟨r', e1, e2, e3, e4, e5, _⟩ := h
  ⟨r', e1, e2, e3, e4, e5⟩

theorem Stops.chunk_eq {A d : Bytes} {k : Nat} {c c' : Int} {x0 x1 : Res × R σ} (h : Stops A d k c x0 x1)
    (hc : c = c') : Stops A d k c' x0 x1 := hc ▸ h

/-- an exit of the loop that searches the buffer once more (`delimiter` given, position not): consuming is the tail -/
theorem search_consume (d A0 : Bytes) (r : R σ) (result : List Bytes) (have_ size : Int)
    (hd : d ≠ []) (hdc : (d.length : Int) ≤ r.chunk) (h : LInv d A0 r result have_ size) (ret : Bytes) (r0 : R σ)
    (h0 : finalizeRU r size result have_ 0 (some d) (-1) none = (.ok ret, r0)) :
    finalizeRU r size result have_ (d.length : Int) (some d) (-1) none = tailPeek r0 d ret := by
  rcases find_spec r.buf d r.pos hd h.inv.pos_nonneg (h.inv.len_eq ▸ h.pl) with ⟨hm, _⟩ | ⟨q, hq, hq1, hq2, hq3⟩
  · exact notfound_consume r r0 size result have_ d ret none (List.length_pos_iff.mpr hd) hm h0
  · exact found_consume d A0 r result have_ size q hd hdc h hq1 hq2 hq3 (some d) (-1)
      (by rw [resolveDpos_search, hq]) ret r0 h0

/-- **the `while True` loop of `_read_until`**, started in any state satisfying the loop invariant: without
    `consume_delimiter` it returns the text up to the first occurrence of the delimiter, `size` bytes or the end of the
    declared data, and with it the same followed by the peek-and-step tail. By induction on the bytes still to come, so the
    fuel of the model is never exhausted. -/
theorem readUntilLoop_stops (d A0 : Bytes) (size : Int) (hd : d ≠ []) :
    ∀ (fuel : Nat) (r : R σ) (result : List Bytes) (have_ : Int),
      LInv d A0 r result have_ size → (d.length : Int) ≤ r.chunk → (avail r).length < fuel →
      Stops A0 d (stopAt d A0 size.toNat) r.chunk (readUntilLoop fuel r d size 0 result have_)
        (readUntilLoop fuel r d size (d.length : Int) result have_) := by
  intro fuel
  induction fuel with
  | zero => intro r result have_ h hc hf; omega
  | succ fuel ih =>
    intro r result have_ h hc hf
    have hlen := h.inv.len_eq
    have hp0 := h.inv.pos_nonneg
    have hpl := h.pl
    have hdl : 0 < d.length := List.length_pos_iff.mpr hd
    have hneg : ¬ ((-1 : Int) ≥ 0) := by decide
    rw [readUntilLoop, readUntilLoop]
    rcases find_spec r.buf d r.pos hd hp0 (hlen ▸ hpl) with ⟨hm, hno⟩ | ⟨q, hq, hq1, hq2, hq3⟩
    · -- the delimiter is not (entirely) in the buffer
      have hdn : (if r.len > r.pos then find r.buf d r.pos else -1) = -1 := by
        split
        · exact hm
        · rfl
      simp only [hdn, hneg, decide_false, Bool.and_false, Bool.false_eq_true, if_false]
      by_cases henough : size < have_ + r.len - r.pos - ((d.length : Int) - 1)
      · simp only [henough, if_true]
        exact Stops.of_exit (exit_enough_data d A0 r result have_ size hd h hm henough)
          fun r' e1 => notfound_consume r r' size result have_ d _ none hdl hm e1
      · simp only [henough, if_false]
        rcases hpr : performRead r r.chunk with ⟨nc, r1⟩
        obtain ⟨_, p4, p5, p6, p7, hinv1, hpl1⟩ := performRead_split r r.chunk nc r1 h.inv hpl hpr
        have hL2 := h.append nc r1 hpr
        dsimp only
        by_cases hrem : r1.rem = 0
        · -- end of the declared data
          simp only [beq_iff_eq.mpr hrem, if_true]
          have hav : avail { r1 with len := r1.len + nc.length, buf := r1.buf ++ nc } = [] := by
            show (data r1.src).take r1.rem.toNat = []
            rw [hrem]; rfl
          exact (Stops.of_exit (exit_all_buffered d A0 _ result have_ size hd hL2 hav)
            fun r' e1 => search_consume d A0 _ result have_ size hd (p7 ▸ hc) hL2 _ r' e1).chunk_eq p7
        · simp only [beq_false_of_ne hrem, Bool.false_eq_true, if_false]
          have hfuel : (avail r1).length < fuel :=
            Nat.lt_of_lt_of_le (performRead_progress r r.chunk nc r1 h.inv h.inv.chunk_pos hpr hrem) (Nat.le_of_lt_succ hf)
          by_cases hempty : r1.len ≤ r1.pos
          · -- the buffer is used up: the look-ahead chunk becomes the buffer
            simp only [hempty, if_true]
            exact (ih _ result have_ (h.replace nc r1 hpr (p5 ▸ p6 ▸ hempty)) (p7 ▸ hc) hfuel).chunk_eq p7
          · simp only [hempty, if_false]
            have hno1 : ∀ j, r1.pos.toNat ≤ j → ¬ occ d r1.buf j := by rw [p4, p5]; exact hno
            have hple1 := pos_toNat_le r1 hinv1 hpl1
            rw [fragment_eq r1 d nc hinv1 hdl]
            rcases border_search d r1.buf nc _ r1.pos.toNat _ hd hple1 hno1 rfl rfl with ⟨hdp, hfrag⟩ | ⟨q', hdl1, hdp, g0, g1, g2⟩
            · -- nothing at the border either
              rw [hdp]
              simp only [hneg, decide_false, Bool.and_false, Bool.false_eq_true, if_false]
              have hthru := no_occ_through_buffer d A0 r result have_ size nc hd hc h r1 hpr hno
                (by rw [← p4, ← p5]; exact hfrag)
              rw [p5, p6]
              by_cases hfull : have_ + r.len - r.pos ≥ size
              · -- enough bytes accumulated: finish, keeping the look-ahead chunk
                simp only [hfull, if_true]
                have hfind1 : find r1.buf d r1.pos = -1 := by rw [p4, p5]; exact hm
                refine Stops.of_exit ?_ fun r' e1 => notfound_consume r1 r' size result have_ d _ (some nc) hdl hfind1 e1
                rw [finalizeRU_eq, resolveDpos_search, hfind1, capSize_notfound, h.stop_at_size hd hfull hthru]
                exact finish_next d A0 r result have_ size nc r1 (some d) (-1) h hpr (by omega)
              · -- accumulate the buffer and continue with the look-ahead chunk
                simp only [hfull, if_false]
                rw [p4]
                exact (ih _ _ _ (h.accumulate nc r1 hpr (Int.le_of_lt (Int.not_le.mp hfull)) hthru) (p7 ▸ hc) hfuel).chunk_eq p7
            · -- the delimiter straddles the border between buffer and look-ahead chunk
              rw [if_pos hdl1, hdp]
              simp only [hdl1, Int.natCast_nonneg q', ge_iff_le, decide_true, Bool.and_self, if_true]
              have hres : resolveDpos { r1 with len := r1.len + nc.length, buf := r1.buf ++ nc } (some d)
                  ((q' : Int) + max (r1.len - ((d.length : Int) - 1)) r1.pos)
                  = ((max (r1.buf.length - (d.length - 1)) r1.pos.toNat + q' : Nat) : Int) := by
                rw [(offset_cast r1 d hinv1 hdl).2, ← Int.natCast_add, Nat.add_comm]
                exact if_neg (Int.not_lt.mpr (Int.natCast_nonneg _))
              exact (Stops.of_exit (exit_found_at d A0 _ result have_ size _ hd hL2 g0 g1 g2 (some d) _ hres)
                fun r' e1 => found_consume d A0 _ result have_ size _ hd (p7 ▸ hc) hL2 g0 g1 g2 (some d) _ hres _ r'
                  e1).chunk_eq p7
    · -- the delimiter is in the buffer
      have hfit := ((occ_iff d r.buf q hd).mp hq2).2
      have hgt : r.len > r.pos := by omega
      simp only [hgt, if_true, hq, Int.natCast_nonneg q, ge_iff_le, decide_true, Bool.and_self]
      exact Stops.of_exit (exit_found_in_buffer d A0 r result have_ size q hd h hq none (q : Int) (resolveDpos_given r q))
        fun r' e1 => found_consume d A0 r result have_ size q hd hc h hq1 hq2 hq3 none (q : Int) (resolveDpos_given r q) _ r' e1

theorem readUntilLoop_refines (d A0 : Bytes) (size : Int) (hd : d ≠ []) :
    ∀ (fuel : Nat) (r : R σ) (result : List Bytes) (have_ : Int),
      LInv d A0 r result have_ size → (d.length : Int) ≤ r.chunk → (avail r).length < fuel →
      ∃ r', readUntilLoop fuel r d size 0 result have_ = (.ok (A0.take (stopAt d A0 size.toNat)), r') ∧
        abs r' = A0.drop (stopAt d A0 size.toNat) ∧ Inv r' ∧ r'.pos ≤ r'.len ∧ r'.chunk = r.chunk := by
  intro fuel r result have_ h hc hf
  exact (readUntilLoop_stops d A0 size hd fuel r result have_ h hc hf).refines

#print axioms readUntilLoop_refines

theorem avail_length_le (r : R σ) : (avail r).length ≤ Source.bound r.src :=
  Nat.le_trans (avail_length r ▸ Nat.min_le_right _ _) (LawfulSource.bound_ge r.src)

theorem LInv.start (d : Bytes) (r : R σ) (size : Int) (hinv : Inv r) (hpl : r.pos ≤ r.len) (hs : 0 ≤ size) :
    LInv d (abs r) r [] 0 size :=
  ⟨hinv, hpl, Int.le_refl 0, hs, Nat.zero_le _, rfl, rfl, fun _ hj => absurd hj (Nat.not_lt_zero _)⟩

/-- `_read_until(d, size, consume_delimiter)` for both values of the flag: the fuel the model passes to the loop suffices -/
theorem readUntil'_stops (r : R σ) (d : Bytes) (size : Int) (hinv : Inv r) (hpl : r.pos ≤ r.len) (hs : 0 ≤ size)
    (hd : d ≠ []) (hdc : (d.length : Int) ≤ r.chunk) :
    Stops (abs r) d (stopAt d (abs r) size.toNat) r.chunk (readUntil' r d size false) (readUntil' r d size true) := by
  have hdl : 0 < d.length := List.length_pos_iff.mpr hd
  have hok : (!(decide (0 ≤ (d.length : Int) - 1) && decide ((d.length : Int) - 1 < r.chunk))) = false := by
    rw [decide_eq_true (show (0 : Int) ≤ (d.length : Int) - 1 by omega),
      decide_eq_true (show (d.length : Int) - 1 < r.chunk by omega)]; rfl
  have hcons : (d.length : Int) - 1 + 1 = d.length := by omega
  have hfuel : ∀ r : R σ, (avail r).length < Source.bound r.src + r.buf.length + 3 := fun r =>
    Nat.lt_of_le_of_lt (avail_length_le r) (by omega)
  unfold readUntil'
  simp only [hok, Bool.false_eq_true, if_false, if_true, hcons]
  split
  · obtain ⟨f1, f2, f3, f4⟩ := fillBuffer_abs r hinv hpl
    exact (readUntilLoop_stops d (abs r) size hd _ (fillBuffer r) [] 0 (f1 ▸ LInv.start d _ size f2 f3 hs)
      (f4 ▸ hdc) (hfuel _)).chunk_eq f4
  · exact readUntilLoop_stops d (abs r) size hd _ r [] 0 (LInv.start d r size hinv hpl hs) hdc (hfuel r)

/-- **`_read_until(delimiter, size)` (delimiter not consumed) refines the flat cursor**: for every buffer state
    satisfying the invariant, every lawful source, every chunk size and every delimiter of
    length 1..chunk size, it returns the text up to the first occurrence of the delimiter or `size` bytes or the end of
    the declared data, whichever comes first, and leaves the cursor exactly after the returned bytes. -/
theorem readUntil'_refines (r : R σ) (d : Bytes) (size : Int) (hinv : Inv r) (hpl : r.pos ≤ r.len) (hs : 0 ≤ size)
    (hd : d ≠ []) (hdc : (d.length : Int) ≤ r.chunk) :
    ∃ r', readUntil' r d size false = (.ok ((abs r).take (stopAt d (abs r) size.toNat)), r') ∧
      abs r' = (abs r).drop (stopAt d (abs r) size.toNat) ∧ Inv r' ∧ r'.pos ≤ r'.len ∧ r'.chunk = r.chunk :=
  (readUntil'_stops r d size hinv hpl hs hd hdc).refines

#print axioms readUntil'_refines

/-- non-vacuity: a concrete reader state (2 unread bytes buffered, 5 more in a source with short reads 2, 1, 2)
    meets every hypothesis of `readUntil'_refines` -/
example :
    let r : R Src := { buf := [1, 2, 3], len := 3, pos := 1, rem := 5, chunk := 4,
                       src := Src.mk [4, 13, 10, 7, 8] [2, 1, 2] [] }
    Inv r ∧ r.pos ≤ r.len ∧ ([13, 10] : Bytes) ≠ [] ∧ (([13, 10] : Bytes).length : Int) ≤ r.chunk :=
  ⟨⟨rfl, by decide, by decide, by decide, Or.inl (by decide)⟩, by decide, by decide, by decide⟩
end Rd
