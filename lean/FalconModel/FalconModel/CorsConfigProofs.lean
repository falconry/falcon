import FalconModel.CorsConfig
import FalconModel.CorsProofs
import FalconModel.PipelineSpec
/-! C20: `CORSMiddleware.__init__` and the `cors_enable` wiring (model `CorsConfig.lean`, namespace `Cg`), connected to the policy
    theorems of `CorsProofs.lean` (namespace `Co`) and to the call discipline of `App.__call__` (`Pl.run_eq_spec`, C03).

    1. `normalise` — what each argument shape becomes; a single string is the one-element iterable (membership by equality);
       the policy depends only on the SET of configured strings; `'*'` inside an iterable is rejected; `expose_headers` join.
    2. the main policy theorems restated from the RAW constructor arguments.
    3. `cors_enable`: exactly one CORSMiddleware, last in the stack, and its `process_response` runs with the documented
       `req_succeeded` for routed / sink / static / unrouted / failed requests. -/
namespace Cg
open Co

/-! ## 1. normalisation -/

theorem mem_frozenset (l : List String) (x : String) : x ∈ frozenset l ↔ x ∈ l := by
  unfold frozenset; exact List.mem_eraseDups

theorem contains_frozenset (l : List String) (o : String) : (frozenset l).contains o = l.contains o := by
  rw [Bool.eq_iff_iff, List.contains_iff_mem, List.contains_iff_mem, mem_frozenset]

theorem has_frozenset (l : List String) (o : String) : (Origins.only (frozenset l)).has o = l.contains o := by
  simp only [Origins.has]; exact contains_frozenset l o

/-- what both `allow_origins` and `allow_credentials` go through: the literal `'*'` is kept, a string is the one-element
    iterable, an iterable becomes a `frozenset` unless it contains `'*'`; the two arguments differ in what `None` gives
    and in the error raised -/
def normArg (onNone : Except ConfigError Origins) (err : ConfigError) : Arg → Except ConfigError Origins
  | .none => onNone
  | .str s => if s = "*" then .ok .any else .ok (.only (frozenset [s]))
  | .iter l => if l.contains "*" then .error err else .ok (.only (frozenset l))

theorem normOrigins_eq (a : Arg) : normOrigins a = normArg (.error .originsNotIterable) .wildcardInOrigins a := by
  unfold normOrigins normArg
  cases a with
  | none => simp [bind, Except.bind, throw, throwThe, MonadExceptOf.throw]
  | str s =>
    by_cases h : s = "*"
    · subst h; simp [pure, Except.pure]
    · simp [h, Ne.symm h, mem_frozenset, bind, Except.bind, pure, Except.pure]
  | iter l =>
    by_cases h : "*" ∈ l <;> simp [mem_frozenset, h, bind, Except.bind, pure, Except.pure, throw, throwThe, MonadExceptOf.throw]

theorem normCredentials_eq (a : Arg) :
    normCredentials a = normArg (.ok (.only [])) .wildcardInCredentials a := by
  unfold normCredentials normArg
  cases a with
  | none => rfl
  | str s =>
    by_cases h : s = "*"
    · subst h; simp [pure, Except.pure]
    · simp [h, Ne.symm h, mem_frozenset, pure, Except.pure]
  | iter l =>
    by_cases h : "*" ∈ l <;> simp [mem_frozenset, h, pure, Except.pure, throw, throwThe, MonadExceptOf.throw]

/-- what `normOrigins` returns, by argument shape -/
theorem normOrigins_str (s : String) :
    normOrigins (.str s) = if s = "*" then .ok .any else .ok (.only (frozenset [s])) := normOrigins_eq _

theorem normOrigins_iter (l : List String) :
    normOrigins (.iter l) = if l.contains "*" then .error .wildcardInOrigins else .ok (.only (frozenset l)) :=
  normOrigins_eq _

theorem normOrigins_none : normOrigins .none = .error .originsNotIterable := normOrigins_eq _

theorem normCredentials_none : normCredentials .none = .ok (.only []) := rfl

theorem normCredentials_str (s : String) :
    normCredentials (.str s) = if s = "*" then .ok .any else .ok (.only (frozenset [s])) := normCredentials_eq _

theorem normCredentials_iter (l : List String) :
    normCredentials (.iter l) = if l.contains "*" then .error .wildcardInCredentials else .ok (.only (frozenset l)) :=
  normCredentials_eq _

theorem normalise_eq (raw : RawConfig) :
    normalise raw = match normOrigins raw.allowOrigins with
      | .error e => .error e
      | .ok ao => match normCredentials raw.allowCredentials with
        | .error e => .error e
        | .ok ac => .ok { allowOrigins := ao, allowCredentials := ac, exposeHeaders := normExpose raw.exposeHeaders } := by
  unfold normalise
  cases normOrigins raw.allowOrigins with
  | error e => rfl
  | ok ao => cases normCredentials raw.allowCredentials with
    | error e => rfl
    | ok ac => rfl

theorem normalise_ok_iff (raw : RawConfig) (c : Cfg) :
    normalise raw = .ok c ↔ normOrigins raw.allowOrigins = .ok c.allowOrigins ∧
      normCredentials raw.allowCredentials = .ok c.allowCredentials ∧ c.exposeHeaders = normExpose raw.exposeHeaders := by
  rw [normalise_eq]
  obtain ⟨ao, ac, ex⟩ := c
  cases normOrigins raw.allowOrigins <;> cases normCredentials raw.allowCredentials <;> simp [eq_comm]

def isAny : Origins → Bool
  | .any => true
  | .only _ => false

/-- the normalised value against the documented reading of the argument -/
theorem normArg_has {onNone : Except ConfigError Origins} {err : ConfigError} {a : Arg} {x : Origins}
    (hnone : ∀ y, onNone = .ok y → y = .only []) (h : normArg onNone err a = .ok x) :
    (∀ o, x.has o = a.names o) ∧ (isAny x = true ↔ a = .str "*") := by
  cases a with
  | none => cases hnone x h; exact ⟨fun _ => rfl, by simp [isAny]⟩
  | str s =>
    by_cases hs : s = "*"
    · subst hs; cases h; exact ⟨fun _ => rfl, by simp [isAny]⟩
    · simp only [normArg, if_neg hs, Except.ok.injEq] at h
      subst h
      refine ⟨fun o => ?_, by simp [isAny, hs]⟩
      rw [has_frozenset, Bool.eq_iff_iff]
      simp [Arg.names, hs]
  | iter l =>
    by_cases hc : l.contains "*" = true
    · simp only [normArg, if_pos hc, reduceCtorEq] at h
    · simp only [normArg, if_neg hc, Except.ok.injEq] at h
      subst h
      exact ⟨fun o => has_frozenset l o, by simp [isAny]⟩

theorem normOrigins_has (a : Arg) (ao : Origins) (h : normOrigins a = .ok ao) :
    (∀ o, ao.has o = a.names o) ∧ (isAny ao = true ↔ a = .str "*") :=
  normArg_has (fun _ e => by cases e) (normOrigins_eq a ▸ h)

theorem normCredentials_has (a : Arg) (ac : Origins) (h : normCredentials a = .ok ac) :
    ∀ o, ac.has o = a.names o :=
  (normArg_has (fun _ e => by cases e; rfl) (normCredentials_eq a ▸ h)).1

/-- **the normalised configuration means what the arguments say**: membership in the normalised `allow_origins` /
    `allow_credentials` is exactly "the argument is the literal `'*'`, or is that very string, or is an iterable containing
    that very string" -/
theorem normalise_has (raw : RawConfig) (c : Cfg) (h : normalise raw = .ok c) :
    (∀ o, c.allowOrigins.has o = raw.allowOrigins.names o) ∧
    (∀ o, c.allowCredentials.has o = raw.allowCredentials.names o) ∧
    (isAny c.allowOrigins = true ↔ raw.allowOrigins = .str "*") ∧
    c.exposeHeaders = normExpose raw.exposeHeaders := by
  obtain ⟨h1, h2, h3⟩ := (normalise_ok_iff raw c).mp h
  exact ⟨(normOrigins_has _ _ h1).1, normCredentials_has _ _ h2, (normOrigins_has _ _ h1).2, h3⟩


/-! ### the policy reads the configuration only through membership tests -/
/-- two configurations that `process_response` cannot tell apart -/
def CfgEquiv (c1 c2 : Cfg) : Prop :=
  (∀ o, c1.allowOrigins.has o = c2.allowOrigins.has o) ∧ isAny c1.allowOrigins = isAny c2.allowOrigins ∧
  (∀ o, c1.allowCredentials.has o = c2.allowCredentials.has o) ∧ c1.exposeHeaders = c2.exposeHeaders

theorem grantStage_eq (c : Cfg) (o : String) (h : Hdrs) :
    grantStage c o h = if (get h .acao).isNone then
        if c.allowCredentials.has o then set (set h .acac "true") .acao o
        else set h .acao (if isAny c.allowOrigins then "*" else o)
      else h := by
  obtain ⟨ao, ac, ex⟩ := c
  cases ao <;> rfl

theorem processF_congr (c1 c2 : Cfg) (he : CfgEquiv c1 c2) (r : Req) (h : Hdrs) (s : Bool) :
    processF c1 r h s = processF c2 r h s := by
  obtain ⟨h1, h2, h3, h4⟩ := he
  cases ho : r.origin with
  | none => rw [noOriginF_untouched c1 r h s ho, noOriginF_untouched c2 r h s ho]
  | some o =>
    cases ha : c1.allowOrigins.has o with
    | false => rw [disallowedF_untouched c1 r h s o ho ha, disallowedF_untouched c2 r h s o ho (by rw [← h1 o]; exact ha)]
    | true =>
      rw [processF_stages c1 r h s o ho ha, processF_stages c2 r h s o ho (by rw [← h1 o]; exact ha)]
      have hg : grantStage c1 o h = grantStage c2 o h := by rw [grantStage_eq, grantStage_eq, h2, h3 o]
      rw [hg]
      unfold exposeStage
      rw [h4]

/-- outcome of two constructor calls: the same error, or configurations the policy cannot tell apart -/
def ResEquiv : Except ConfigError Cfg → Except ConfigError Cfg → Prop
  | .ok c1, .ok c2 => CfgEquiv c1 c2
  | .error e1, .error e2 => e1 = e2
  | _, _ => False

/-- two argument values denoting the same SET of strings (iterables), or equal -/
def Arg.SameSet : Arg → Arg → Prop
  | .iter l1, .iter l2 => ∀ x, x ∈ l1 ↔ x ∈ l2
  | a, b => a = b

theorem contains_congr (l1 l2 : List String) (h : ∀ x, x ∈ l1 ↔ x ∈ l2) (o : String) : l1.contains o = l2.contains o := by
  rw [Bool.eq_iff_iff, List.contains_iff_mem, List.contains_iff_mem]; exact h o

theorem normArg_sameSet (onNone : Except ConfigError Origins) (err : ConfigError) (a b : Arg) (h : a.SameSet b) :
    match normArg onNone err a, normArg onNone err b with
    | .ok x, .ok y => (∀ o, x.has o = y.has o) ∧ isAny x = isAny y
    | .error e1, .error e2 => e1 = e2
    | _, _ => False := by
  cases a with
  | iter l1 => cases b with
    | iter l2 =>
      simp only [Arg.SameSet] at h
      simp only [normArg, contains_congr l1 l2 h "*"]
      cases l2.contains "*"
      · exact ⟨fun o => by rw [has_frozenset, has_frozenset, contains_congr l1 l2 h o], rfl⟩
      · rfl
    | none => cases h
    | str s => cases h
  | none => cases (show Arg.none = b from h); cases normArg onNone err .none <;> simp
  | str s => cases (show Arg.str s = b from h); cases normArg onNone err (.str s) <;> simp

/-- **the policy depends only on the SET of configured strings**: constructor calls whose `allow_origins` /
    `allow_credentials` iterables have the same members (in any order, with any repetitions) either fail alike or yield
    configurations that `process_response` cannot tell apart -/
theorem normalise_depends_only_on_set (r1 r2 : RawConfig) (ho : r1.allowOrigins.SameSet r2.allowOrigins)
    (hc : r1.allowCredentials.SameSet r2.allowCredentials) (he : r1.exposeHeaders = r2.exposeHeaders) :
    ResEquiv (normalise r1) (normalise r2) := by
  have h1 := normArg_sameSet (.error .originsNotIterable) .wildcardInOrigins _ _ ho
  have h2 := normArg_sameSet (.ok (.only [])) .wildcardInCredentials _ _ hc
  rw [← normOrigins_eq, ← normOrigins_eq] at h1
  rw [← normCredentials_eq, ← normCredentials_eq] at h2
  rw [normalise_eq, normalise_eq, he]
  cases e1 : normOrigins r1.allowOrigins <;> cases e2 : normOrigins r2.allowOrigins <;> simp only [e1, e2] at h1 ⊢
  · exact h1
  · cases e3 : normCredentials r1.allowCredentials <;> cases e4 : normCredentials r2.allowCredentials <;>
      simp only [e3, e4] at h2 ⊢
    · exact h2
    · exact ⟨h1.1, h1.2, h2.1, rfl⟩

theorem policy_depends_only_on_set (r1 r2 : RawConfig) (c1 c2 : Cfg) (ho : r1.allowOrigins.SameSet r2.allowOrigins)
    (hc : r1.allowCredentials.SameSet r2.allowCredentials) (he : r1.exposeHeaders = r2.exposeHeaders)
    (h1 : normalise r1 = .ok c1) (h2 : normalise r2 = .ok c2) (r : Req) (h : Hdrs) (s : Bool) :
    processF c1 r h s = processF c2 r h s := by
  have := normalise_depends_only_on_set r1 r2 ho hc he
  rw [h1, h2] at this
  exact processF_congr c1 c2 this r h s

/-- order is irrelevant -/
theorem normalise_order_irrelevant (raw : RawConfig) (l1 l2 m1 m2 : List String) (hp : l1.Perm l2) (hq : m1.Perm m2) :
    ResEquiv (normalise { raw with allowOrigins := .iter l1, allowCredentials := .iter m1 })
             (normalise { raw with allowOrigins := .iter l2, allowCredentials := .iter m2 }) :=
  normalise_depends_only_on_set _ _ (fun _ => hp.mem_iff) (fun _ => hq.mem_iff) rfl

/-- repetitions are irrelevant -/
theorem normalise_duplicates_irrelevant (raw : RawConfig) (l m : List String) (x y : String) (hx : x ∈ l) (hy : y ∈ m) :
    ResEquiv (normalise { raw with allowOrigins := .iter (x :: l), allowCredentials := .iter (y :: m) })
             (normalise { raw with allowOrigins := .iter l, allowCredentials := .iter m }) :=
  normalise_depends_only_on_set _ _
    (fun z => by simp only [List.mem_cons]; exact ⟨fun h => h.elim (fun e => e ▸ hx) id, Or.inr⟩)
    (fun z => by simp only [List.mem_cons]; exact ⟨fun h => h.elim (fun e => e ▸ hy) id, Or.inr⟩) rfl

/-- **a single string is the one-element iterable** (for every string but the wildcard literal): the constructor returns the
    very same configuration -/
theorem normalise_string_is_singleton (raw : RawConfig) (s t : String) (hs : s ≠ "*") (ht : t ≠ "*") :
    normalise { raw with allowOrigins := .str s, allowCredentials := .str t }
      = normalise { raw with allowOrigins := .iter [s], allowCredentials := .iter [t] } := by
  rw [normalise_eq, normalise_eq]
  simp [normOrigins_str, normOrigins_iter, normCredentials_str, normCredentials_iter, hs, ht, hs.symm, ht.symm]

/-- … so its membership test is whole-string equality, never a substring test -/
theorem string_membership_is_equality (raw : RawConfig) (c : Cfg) (s t : String) (hs : s ≠ "*") (ht : t ≠ "*")
    (hn : normalise { raw with allowOrigins := .str s, allowCredentials := .str t } = .ok c) (o : String) :
    (c.allowOrigins.has o = true ↔ o = s) ∧ (c.allowCredentials.has o = true ↔ o = t) := by
  obtain ⟨h1, h2, _, _⟩ := normalise_has _ c hn
  rw [h1 o, h2 o]
  simp [Arg.names, hs, ht]

/-- **a `'*'` inside an iterable is rejected** -/
theorem wildcard_in_iterable_rejected (raw : RawConfig) (l : List String) (h : "*" ∈ l) :
    normalise { raw with allowOrigins := .iter l } = .error .wildcardInOrigins ∧
    (∀ ao, normOrigins raw.allowOrigins = .ok ao →
      normalise { raw with allowCredentials := .iter l } = .error .wildcardInCredentials) := by
  constructor
  · rw [normalise_eq]; simp [normOrigins_iter, h]
  · intro ao hao; rw [normalise_eq]; simp [hao, normCredentials_iter, h]

theorem normArg_error_iff (onNone : Except ConfigError Origins) (err : ConfigError) (a : Arg) :
    (∃ e, normArg onNone err a = .error e) ↔
      (a = .none ∧ ∃ e, onNone = .error e) ∨ ∃ l, a = .iter l ∧ "*" ∈ l := by
  cases a with
  | none => simp [normArg]
  | str s => by_cases hs : s = "*" <;> simp [normArg, hs]
  | iter l => by_cases hl : "*" ∈ l <;> simp [normArg, hl]

/-- the constructor fails in exactly these cases -/
theorem normalise_error_iff (raw : RawConfig) :
    (∃ e, normalise raw = .error e) ↔
      raw.allowOrigins = .none ∨ (∃ l, raw.allowOrigins = .iter l ∧ "*" ∈ l) ∨ (∃ l, raw.allowCredentials = .iter l ∧ "*" ∈ l) := by
  have h1 := normArg_error_iff (.error .originsNotIterable) .wildcardInOrigins raw.allowOrigins
  have h2 := normArg_error_iff (.ok (.only [])) .wildcardInCredentials raw.allowCredentials
  simp only [Except.error.injEq, exists_eq', and_true, reduceCtorEq, exists_false, and_false, false_or] at h1 h2
  rw [← or_assoc, ← h1, ← h2, normalise_eq, normOrigins_eq, normCredentials_eq]
  cases normArg (.error .originsNotIterable) .wildcardInOrigins raw.allowOrigins with
  | error e => simp
  | ok ao =>
    cases normArg (.ok (.only [])) .wildcardInCredentials raw.allowCredentials with
    | error e => simp
    | ok ac => simp

theorem joinComma_nil : joinComma [] = "" := rfl
theorem joinComma_one (a : String) : joinComma [a] = a := rfl
theorem joinComma_cons (a b : String) (rest : List String) : joinComma (a :: b :: rest) = a ++ ", " ++ joinComma (b :: rest) := rfl

/-- **`expose_headers` is stored as given (a string), or as its items joined with `", "` in iteration order** -/
theorem expose_join_exact (raw : RawConfig) (c : Cfg) (h : normalise raw = .ok c) :
    c.exposeHeaders = match raw.exposeHeaders with
      | .none => none
      | .str s => some s
      | .iter l => some (joinComma l) := by
  rw [((normalise_ok_iff raw c).mp h).2.2]
  cases raw.exposeHeaders <;> rfl

/-- the characters of the joined value: the items' characters with `", "` between consecutive items, nothing else -/
theorem joinComma_toList (l : List String) :
    (joinComma l).toList = List.intercalate [',', ' '] (l.map String.toList) := by
  induction l with
  | nil => rfl
  | cons a rest ih =>
    cases rest with
    | nil => simp [joinComma, List.intercalate]
    | cons b r =>
      rw [joinComma_cons, String.toList_append, String.toList_append, ih]
      simp [List.intercalate]


/-! ## the policy, from the constructor arguments -/

/-- the documented reading of an argument, as a proposition: it is the wildcard literal, or that very string, or an iterable
    with that very string among its items (string equality: whole string, case-sensitive) -/
theorem names_iff (a : Arg) (o : String) :
    a.names o = true ↔ a = .str "*" ∨ a = .str o ∨ ∃ l, a = .iter l ∧ o ∈ l := by
  cases a with
  | none => simp [Arg.names]
  | str s => simp [Arg.names, eq_comm (a := o)]
  | iter l => simp [Arg.names]

/-- **an origin matches iff it is literally configured**: whole-string, case-sensitive equality with a configured string
    (or the wildcard literal passed as a bare string) -/
theorem origin_match_is_exact_equality (raw : RawConfig) (c : Cfg) (hn : normalise raw = .ok c) (o : String) :
    (c.allowOrigins.has o = true ↔
      raw.allowOrigins = .str "*" ∨ raw.allowOrigins = .str o ∨ ∃ l, raw.allowOrigins = .iter l ∧ o ∈ l) ∧
    (c.allowCredentials.has o = true ↔
      raw.allowCredentials = .str "*" ∨ raw.allowCredentials = .str o ∨ ∃ l, raw.allowCredentials = .iter l ∧ o ∈ l) := by
  obtain ⟨h1, h2, _, _⟩ := normalise_has raw c hn
  rw [h1 o, h2 o]
  exact ⟨names_iff _ o, names_iff _ o⟩

-- look-alikes of a configured origin do not match: other case, a suffix added, a proper prefix (substring), a trailing slash
example : (normalise { allowOrigins := .iter ["http://a", "http://b"], allowCredentials := .str "http://a.example" }).toOption.map
    (fun c => (["http://a", "HTTP://A", "http://a.evil", "http://", "http://a/", ""].map c.allowOrigins.has,
               ["http://a.example", "http://a", "a.example", "http://a.example.org"].map c.allowCredentials.has))
    = some ([true, false, false, false, false, false], [true, false, false, false]) := by decide +kernel

/-- nothing is touched unless the request's Origin is named by the `allow_origins` argument -/
theorem raw_changed_only_for_allowed_origin (raw : RawConfig) (c : Cfg) (hn : normalise raw = .ok c)
    (r : Req) (h : Hdrs) (s : Bool) (hne : processF c r h s ≠ h) :
    ∃ o, r.origin = some o ∧ raw.allowOrigins.names o = true := by
  simpa only [(normalise_has raw c hn).1] using changed_only_for_allowed_origin c r h s hne

/-- credentials are granted only to an Origin named by BOTH the `allow_origins` and the `allow_credentials` argument -/
theorem raw_credentials_only_configured (raw : RawConfig) (c : Cfg) (hn : normalise raw = .ok c)
    (r : Req) (h : Hdrs) (s : Bool) (h0 : get h .acac = none) (hres : (get (processF c r h s) .acac).isSome = true) :
    ∃ o, r.origin = some o ∧ raw.allowOrigins.names o = true ∧ raw.allowCredentials.names o = true := by
  obtain ⟨h1, h2, _, _⟩ := normalise_has raw c hn
  simpa only [h1, h2] using credentialsF_only_configured c r h s h0 hres

/-- in particular: with `allow_credentials=None` (the default) the middleware never grants credentials -/
theorem raw_no_credentials_by_default (raw : RawConfig) (c : Cfg) (hn : normalise raw = .ok c)
    (hd : raw.allowCredentials = .none) (r : Req) (h : Hdrs) (s : Bool) (h0 : get h .acac = none) :
    get (processF c r h s) .acac = none := by
  cases hres : get (processF c r h s) .acac with
  | none => rfl
  | some v =>
    obtain ⟨o, _, _, hc⟩ := raw_credentials_only_configured raw c hn r h s h0 (by rw [hres]; rfl)
    rw [hd] at hc; simp [Arg.names] at hc

/-- whenever the middleware grants credentials it echoes the request's own Origin -/
theorem raw_credentials_imply_echo (raw : RawConfig) (c : Cfg) (_hn : normalise raw = .ok c)
    (r : Req) (h : Hdrs) (s : Bool) (h0 : get h .acac = none) (h1 : get h .acao = none)
    (hres : (get (processF c r h s) .acac).isSome = true) :
    ∃ o, r.origin = some o ∧ get (processF c r h s) .acao = some o :=
  credentialsF_imply_echo c r h s h0 h1 hres

/-- the wildcard never coexists with a credentials grant of the middleware, whatever was passed to the constructor -/
theorem raw_wildcard_never_with_credentials (raw : RawConfig) (c : Cfg) (_hn : normalise raw = .ok c)
    (r : Req) (h : Hdrs) (s : Bool) (h0 : get h .acac = none) (h1 : get h .acao = none) (hstar : r.origin ≠ some "*")
    (hres : (get (processF c r h s) .acac).isSome = true) : get (processF c r h s) .acao ≠ some "*" :=
  wildcard_never_with_credentials c r h s h0 h1 hstar hres

/-- a preflight is approved iff the Origin is named by `allow_origins` and the exchange is a successful OPTIONS with
    Access-Control-Request-Method whose response advertises Allow -/
theorem raw_preflight_approved_iff (raw : RawConfig) (c : Cfg) (hn : normalise raw = .ok c)
    (r : Req) (h : Hdrs) (s : Bool) (hm : get h .acam = none) :
    (get (processF c r h s) .acam).isSome = true ↔
      (∃ o, r.origin = some o ∧ raw.allowOrigins.names o = true) ∧
        s = true ∧ r.isOptions = true ∧ truthy r.acrm = true ∧ (get h .allow).isSome = true := by
  rw [preflight_approved_iff c r h s hm]
  simp only [(normalise_has raw c hn).1]

/-- the header the middleware emits for an allowed origin (outside a preflight) is exactly that join -/
theorem raw_expose_header_exact (raw : RawConfig) (c : Cfg) (hn : normalise raw = .ok c) (r : Req) (h : Hdrs) (s : Bool)
    (o : String) (ho : r.origin = some o) (ha : raw.allowOrigins.names o = true)
    (hnp : (s && r.isOptions && truthy r.acrm) = false) (l : List String) (hl : raw.exposeHeaders = .iter l)
    (hne : (joinComma l).isEmpty = false) : get (processF c r h s) .aceh = some (joinComma l) := by
  obtain ⟨n1, _, _, n4⟩ := normalise_has raw c hn
  rw [processF_stages c r h s o ho (by rw [n1 o]; exact ha)]
  unfold preflightStage
  simp only [hnp, Bool.false_eq_true, if_false]
  unfold exposeStage
  rw [n4, hl]
  simp only [normExpose, hne, Bool.not_false, if_true]
  exact get_set_self _ _ _

/-- **the wildcard answer comes only from the wildcard literal**: if the middleware itself answers
    `Access-Control-Allow-Origin: *` to an Origin other than `*`, then `allow_origins` was the bare string `'*'`
    and the Origin is not named by `allow_credentials` -/
theorem raw_wildcard_only_from_literal (raw : RawConfig) (c : Cfg) (hn : normalise raw = .ok c)
    (r : Req) (h : Hdrs) (s : Bool) (h1 : get h .acao = none) (hstar : r.origin ≠ some "*")
    (hres : get (processF c r h s) .acao = some "*") :
    raw.allowOrigins = .str "*" ∧ ∃ o, r.origin = some o ∧ raw.allowCredentials.names o = false := by
  obtain ⟨n1, n2, n3, _⟩ := normalise_has raw c hn
  cases ho : r.origin with
  | none => rw [noOriginF_untouched c r h s ho, h1] at hres; cases hres
  | some o =>
    have hostar : o ≠ "*" := fun e => hstar (by rw [ho, e])
    cases ha : c.allowOrigins.has o with
    | false => rw [disallowedF_untouched c r h s o ho ha, h1] at hres; cases hres
    | true =>
      rw [processF_stages c r h s o ho ha] at hres
      have e3 : get (exposeStage c (grantStage c o h)) .acao = some "*" := by
        rcases preflightStage_acao r s (exposeStage c (grantStage c o h)) with e | ⟨e, _⟩
        · exact e ▸ hres
        · rw [e] at hres; cases hres
      rw [exposeStage_get _ _ _ (by simp), grantStage_acao c o h h1] at e3
      cases hc : c.allowCredentials.has o with
      | true => rw [hc, if_pos rfl] at e3; exact absurd (Option.some.inj e3) hostar
      | false =>
        rw [hc, if_neg Bool.false_ne_true] at e3
        cases hao : c.allowOrigins with
        | only l => rw [hao] at e3; exact absurd (Option.some.inj e3) hostar
        | any => exact ⟨n3.mp (by rw [hao]; rfl), o, rfl, by rw [← n2 o]; exact hc⟩


/-! ## `cors_enable` wiring -/
def corsCount (st : List Mw) : Nat := (st.filter Mw.isCors).length

theorem addMiddleware_eq (ce : Bool) (st : List Mw) (arg : MwArg) :
    addMiddleware ce st arg =
      if ce = true ∧ corsCount (st ++ arg.items) > 1 ∧ arg.items ≠ [] then .error .corsTwice else .ok (st ++ arg.items) := by
  unfold addMiddleware corsCount
  cases arg with
  | none => simp [MwArg.items, pure, Except.pure]
  | single m => simp [MwArg.items, pure, Except.pure, throw, throwThe, MonadExceptOf.throw]
  | iter l =>
    cases l with
    | nil => simp [MwArg.items, pure, Except.pure]
    | cons x xs => simp [MwArg.items, pure, Except.pure, throw, throwThe, MonadExceptOf.throw]

theorem corsCount_append (a b : List Mw) : corsCount (a ++ b) = corsCount a + corsCount b := by
  simp [corsCount, List.filter_append]

theorem corsCount_zero_iff (l : List Mw) : corsCount l = 0 ↔ l.any Mw.isCors = false := by
  rw [corsCount, List.length_eq_zero_iff, List.filter_eq_nil_iff, List.any_eq_false]

/-- `add_middleware` under `cors_enable` when the stack and the argument hold one CORSMiddleware besides those of `l`: refused
    exactly when `l` brings another -/
theorem addMiddleware_one (st : List Mw) (arg : MwArg) (l : List Mw) (hitems : arg.items ≠ [] ∨ l = [])
    (hcount : corsCount (st ++ arg.items) = 1 + corsCount l) :
    (l.any Mw.isCors = false ∧ addMiddleware true st arg = .ok (st ++ arg.items)) ∨
    (l.any Mw.isCors = true ∧ addMiddleware true st arg = .error .corsTwice) := by
  rw [addMiddleware_eq, hcount]
  cases hany : l.any Mw.isCors with
  | false =>
    rw [(corsCount_zero_iff l).mpr hany, if_neg (fun h => Nat.lt_irrefl 1 h.2.1)]
    exact Or.inl ⟨rfl, rfl⟩
  | true =>
    have h0 : corsCount l ≠ 0 := fun h => by rw [(corsCount_zero_iff l).mp h] at hany; cases hany
    have hne : arg.items ≠ [] := hitems.resolve_right (fun e => by rw [e] at hany; cases hany)
    rw [if_pos ⟨rfl, by omega, hne⟩]
    exact Or.inr ⟨rfl, rfl⟩

/-- **`cors_enable=True` adds exactly one CORSMiddleware, at the end of the stack** — or refuses to build the app, which it
    does exactly when the caller passed a CORSMiddleware of their own -/
theorem cors_enable_adds_exactly_one (arg : MwArg) :
    (arg.items.any Mw.isCors = false ∧ appInit true arg = .ok (arg.items ++ [Mw.cors true]) ∧
        corsCount (arg.items ++ [Mw.cors true]) = 1) ∨
    (arg.items.any Mw.isCors = true ∧ appInit true arg = .error .corsTwice) := by
  have hc : corsCount (arg.items ++ [Mw.cors true]) = 1 + corsCount arg.items := by
    rw [corsCount_append, Nat.add_comm]; rfl
  rcases addMiddleware_one [] (.iter (arg.items ++ [Mw.cors true])) arg.items
    (Or.inl (List.append_ne_nil_of_right_ne_nil _ (List.cons_ne_nil _ _))) hc with ⟨h1, h2⟩ | h
  · exact Or.inl ⟨h1, h2, by rw [hc, (corsCount_zero_iff _).mpr h1]⟩
  · exact Or.inr h

/-- without `cors_enable` the stack is the caller's list, verbatim — any number of CORSMiddleware objects included -/
theorem no_cors_enable_verbatim (arg : MwArg) : appInit false arg = .ok arg.items := by
  simp [appInit, addMiddleware_eq]

/-- `add_middleware` with `cors_enable`: accepted iff the argument brings no further CORSMiddleware (when one is there) -/
theorem addMiddleware_keeps_one (st : List Mw) (arg : MwArg) (h1 : corsCount st = 1) :
    (arg.items.any Mw.isCors = false ∧ addMiddleware true st arg = .ok (st ++ arg.items)) ∨
    (arg.items.any Mw.isCors = true ∧ addMiddleware true st arg = .error .corsTwice) :=
  addMiddleware_one st arg arg.items (Decidable.em _).symm (by rw [corsCount_append, h1])

/-- **the invariant**: however many `add_middleware` calls follow (accepted or refused), an app built with
    `cors_enable=True` has exactly one CORSMiddleware in its stack, and the components before it are never disturbed -/
theorem cors_enable_invariant (adds : List MwArg) : ∀ (st : List Mw), corsCount st = 1 →
    corsCount (runAdds true st adds).1 = 1 ∧ ∃ more, (runAdds true st adds).1 = st ++ more := by
  induction adds with
  | nil => intro st h; exact ⟨h, [], by simp [runAdds]⟩
  | cons a rest ih =>
    intro st h
    rcases addMiddleware_keeps_one st a h with ⟨hany, hok⟩ | ⟨_, herr⟩
    · have hc : corsCount (st ++ a.items) = 1 := by
        rw [corsCount_append, h, (corsCount_zero_iff _).mpr hany]
      obtain ⟨i1, more, i2⟩ := ih (st ++ a.items) hc
      simp only [runAdds, hok]
      exact ⟨i1, a.items ++ more, by rw [i2, List.append_assoc]⟩
    · obtain ⟨i1, more, i2⟩ := ih st h
      simp only [runAdds, herr]
      exact ⟨i1, more, i2⟩

-- the three shapes of the `middleware` argument, and a later add_middleware that is refused
example : appInit true .none = .ok [.cors true] := by rfl
example : appInit true (.single (.other 1)) = .ok [.other 1, .cors true] := by rfl
example : appInit true (.iter [.other 1, .other 2]) = .ok [.other 1, .other 2, .cors true] := by rfl
example : appInit true (.iter [.other 1, .cors false]) = .error .corsTwice := by rfl
example : appInit false (.iter [.cors false, .cors false]) = .ok [.cors false, .cors false] := by rfl
example : runAdds true [.other 1, .cors true] [.single (.other 2), .single (.cors false), .iter [.other 3]]
    = ([.other 1, .cors true, .other 2, .other 3], [true, false, true]) := by rfl


open Pl

/-! ## the CORS component inside `App.__call__` (C03 model `Pl.run`, theorem `Pl.run_eq_spec`) -/

/-- `resource is not None` as `process_response` receives it -/
def hasResource (cfg : Pl.Cfg) : Bool :=
  (stopAct (reqs (enum cfg.comps))).isNone && (cfg.target == .route || cfg.target == .noMethod)

/-- the documented `req_succeeded` at the start of the response phase: nothing raised — no `process_request`, no
    `process_resource`, not the responder (resource method, sink or static route), and the framework's own 404 / 405
    responder was not the one that ran -/
def documentedSuccess (cfg : Pl.Cfg) : Bool :=
  let cs := enum cfg.comps
  let reqStop := stopAct (reqs cs)
  let rsrcStop := if hasResource cfg then stopAct (rsrcs cs) else none
  let reach := reqStop.isNone && rsrcStop.isNone
  !(reqStop == some .raise_ || rsrcStop == some .raise_ ||
    (reach && (((cfg.target == .route || cfg.target == .sink) && cfg.responder == .raise_) || cfg.target == .noMethod || cfg.target == .nothing)))

/-- whose `process_response` is called, first call first -/
def respOrder (cfg : Pl.Cfg) : List Nat :=
  if cfg.independent then (((enum cfg.comps).filter (·.2.resp.isSome)).map (·.1)).reverse
  else (((reached (enum cfg.comps) false).filter (·.2.resp.isSome)).map (·.1)).reverse

theorem run_response_phase (cfg : Pl.Cfg) :
    ∃ before, run cfg = before ++ respSpec (enum cfg.comps) (hasResource cfg) (respOrder cfg) (documentedSuccess cfg) := by
  rw [run_eq_spec]
  exact ⟨_, rfl⟩

theorem withFlags_split (hr : Bool) : ∀ (a1 : List (Nat × Act)) (ok : Bool) (i : Nat) (act : Act) (a2 : List (Nat × Act)),
    withFlags hr (a1 ++ (i, act) :: a2) ok
      = withFlags hr a1 ok ++ Call.resp i hr (ok && a1.all (·.2 != .raise_)) ::
          withFlags hr a2 (ok && a1.all (·.2 != .raise_) && act != .raise_)
  | [], ok, i, act, a2 => by simp [withFlags]
  | (j, b) :: rest, ok, i, act, a2 => by
    have := withFlags_split hr rest (ok && b != .raise_) i act a2
    simp only [List.cons_append, withFlags, this, List.all_cons, Bool.and_assoc]

theorem respActs_append (cs : List (Nat × Comp)) (o1 o2 : List Nat) :
    respActs cs (o1 ++ o2) = respActs cs o1 ++ respActs cs o2 := by
  unfold respActs; rw [List.filterMap_append]

theorem enum_getElem? (comps : List Comp) (i : Nat) (c : Comp) (h : comps[i]? = some c) : (enum comps)[i]? = some (i, c) := by
  unfold enum
  rw [List.getElem?_zip_eq_some]
  exact ⟨List.getElem?_range (List.getElem?_eq_some_iff.mp h).1, h⟩

theorem enum_mem_iff (comps : List Comp) (j : Nat) (c : Comp) : (j, c) ∈ enum comps ↔ comps[j]? = some c := by
  constructor
  · intro h
    obtain ⟨k, hk⟩ := List.mem_iff_getElem?.mp h
    unfold enum at hk
    obtain ⟨h1, h2⟩ := List.getElem?_zip_eq_some.mp hk
    rw [List.getElem?_range (List.getElem?_eq_some_iff.mp h2).1] at h1
    cases h1
    exact h2
  · exact fun h => List.mem_of_getElem? (enum_getElem? comps j c h)

theorem enum_lookup (comps : List Comp) (j : Nat) (c : Comp) (h : comps[j]? = some c) :
    (enum comps).find? (·.1 == j) = some (j, c) :=
  find_self _ (enum_nodup comps) (j, c) ((enum_mem_iff comps j c).mpr h)

theorem enum_pairwise (comps : List Comp) : (enum comps).Pairwise (fun a b => a.1 < b.1) := by
  have h : ((enum comps).map (·.1)).Pairwise (· < ·) := by
    unfold enum; rw [List.map_fst_zip (by simp)]; exact List.pairwise_lt_range
  exact List.pairwise_map.mp h

theorem reached_sublist : ∀ (cs : List (Nat × Comp)) (cp : Bool), (reached cs cp).Sublist cs := by
  intro cs
  induction cs with
  | nil => intro cp; simp [reached]
  | cons x xs ih =>
    intro cp
    obtain ⟨i, c⟩ := x
    simp only [reached]
    split
    · exact List.nil_sublist _
    · exact (ih _).cons_cons _

theorem respOrder_eq (cfg : Pl.Cfg) : ∃ l : List (Nat × Comp), l.Sublist (enum cfg.comps) ∧
    respOrder cfg = ((l.filter (·.2.resp.isSome)).map (·.1)).reverse := by
  unfold respOrder
  split
  · exact ⟨_, List.Sublist.refl _, rfl⟩
  · exact ⟨_, reached_sublist _ _, rfl⟩

/-- the response stack is strictly bottom-up: later-registered components first -/
theorem respOrder_decreasing (cfg : Pl.Cfg) : (respOrder cfg).Pairwise (· > ·) := by
  obtain ⟨l, hl, e⟩ := respOrder_eq cfg
  rw [e, List.pairwise_reverse, List.pairwise_map]
  exact (((enum_pairwise cfg.comps).sublist hl).filter _).imp (fun h => h)

theorem respOrder_mem (cfg : Pl.Cfg) (j : Nat) (hj : j ∈ respOrder cfg) :
    ∃ c, cfg.comps[j]? = some c ∧ c.resp.isSome = true := by
  obtain ⟨l, hl, e⟩ := respOrder_eq cfg
  simp only [e, List.mem_reverse, List.mem_map, List.mem_filter] at hj
  obtain ⟨x, ⟨hx, hr⟩, rfl⟩ := hj
  exact ⟨x.2, (enum_mem_iff _ _ _).mp (hl.subset hx), hr⟩

/-- **the flag a component's `process_response` receives**: if component `i` is on the response stack, its
    `process_response` is called with `resource is not None` and `req_succeeded` = the documented success of the request,
    provided no `process_response` of a component registered after it (those run first) raised -/
theorem response_call_of_member (cfg : Pl.Cfg) (i : Nat) (hi : i ∈ respOrder cfg)
    (hlater : ∀ j c, i < j → cfg.comps[j]? = some c → c.resp ≠ some .raise_) :
    Call.resp i (hasResource cfg) (documentedSuccess cfg) ∈ run cfg := by
  obtain ⟨before, hrun⟩ := run_response_phase cfg
  obtain ⟨ci, hci, hcr⟩ := respOrder_mem cfg i hi
  obtain ⟨o1, o2, hsplit⟩ := List.append_of_mem hi
  have hdec := respOrder_decreasing cfg
  rw [hsplit, List.pairwise_append] at hdec
  have hgt : ∀ j ∈ o1, i < j := fun j hj => hdec.2.2 j hj i List.mem_cons_self
  obtain ⟨ai, hai⟩ := Option.isSome_iff_exists.mp hcr
  have hlook : ((enum cfg.comps).find? (·.1 == i)).bind (·.2.resp) = some ai := by
    rw [enum_lookup _ _ _ hci]; exact hai
  have hall : (respActs (enum cfg.comps) o1).all (·.2 != .raise_) = true := by
    rw [List.all_eq_true]
    intro x hx
    unfold respActs at hx
    simp only [List.mem_filterMap] at hx
    obtain ⟨j, hj, hjx⟩ := hx
    have hjo : j ∈ respOrder cfg := by rw [hsplit]; exact List.mem_append_left _ hj
    obtain ⟨cj, hcj, _⟩ := respOrder_mem cfg j hjo
    rw [enum_lookup _ _ _ hcj] at hjx
    simp only [Option.bind_some, Option.map_eq_some_iff] at hjx
    obtain ⟨a, ha, rfl⟩ := hjx
    simp only [bne_iff_ne, ne_eq]
    intro e
    exact hlater j cj (hgt j hj) hcj (by rw [ha, e])
  rw [hrun, hsplit]
  apply List.mem_append_right
  unfold respSpec
  rw [respActs_append, respActs_cons_some _ _ _ _ hlook, withFlags_split, hall, Bool.and_true]
  exact List.mem_append_right _ List.mem_cons_self


/-! ### is the CORS component on the response stack? -/

/-- independent mode: always -/
theorem mem_respOrder_independent (cfg : Pl.Cfg) (i : Nat) (c : Comp) (hind : cfg.independent = true)
    (hi : cfg.comps[i]? = some c) (hr : c.resp.isSome = true) : i ∈ respOrder cfg := by
  unfold respOrder
  simp only [hind, if_true, List.mem_reverse, List.mem_map, List.mem_filter]
  exact ⟨(i, c), ⟨(enum_mem_iff _ _ _).mpr hi, hr⟩, rfl⟩

theorem reached_true : ∀ (cs : List (Nat × Comp)), reached cs true = cs := by
  intro cs
  induction cs with
  | nil => rfl
  | cons x xs ih => obtain ⟨i, c⟩ := x; simp [reached, ih]

theorem reached_append : ∀ (l1 l2 : List (Nat × Comp)),
    reached (l1 ++ l2) false = match stopAct (reqs l1) with
      | some .raise_ => reached l1 false
      | some .complete => l1 ++ l2
      | _ => l1 ++ reached l2 false
  | [], l2 => rfl
  | (i, ⟨rq, rs, rp⟩) :: xs, l2 => by
    have ih := reached_append xs l2
    cases rq with
    | none =>
      simp [reached, reqs] at ih ⊢
      rw [ih]; split <;> rfl
    | some a =>
      cases a with
      | ret =>
        simp [reached, reqs, stopAct, show (Act.ret == Act.complete) = false from rfl] at ih ⊢
        rw [ih]; split <;> rfl
      | complete => simp [reached, reqs, stopAct, reached_true]
      | raise_ => simp [reached, reqs, stopAct]

theorem split_at (l : List (Nat × Comp)) (i : Nat) (x : Nat × Comp) (h : l[i]? = some x) :
    l = l.take i ++ x :: l.drop (i + 1) := by
  obtain ⟨hlt, hx⟩ := List.getElem?_eq_some_iff.mp h
  conv => lhs; rw [← List.take_append_drop i l]
  rw [List.drop_eq_getElem_cons hlt, hx]

/-- what the request phase did before it got to component `i` -/
def stopBefore (cfg : Pl.Cfg) (i : Nat) : Option Act := stopAct (reqs ((enum cfg.comps).take i))

/-- dependent mode: **iff no `process_request` of a component registered before it raised** (the CORS middleware has no
    `process_request` of its own, so "its request method was reached" means exactly this) -/
theorem mem_respOrder_dependent (cfg : Pl.Cfg) (i : Nat) (hdep : cfg.independent = false)
    (hi : cfg.comps[i]? = some corsComp) : i ∈ respOrder cfg ↔ stopBefore cfg i ≠ some .raise_ := by
  have hsplit := split_at _ i _ (enum_getElem? _ _ _ hi)
  have hmem : i ∈ respOrder cfg ↔ (i, corsComp) ∈ reached (enum cfg.comps) false := by
    unfold respOrder
    simp only [hdep, Bool.false_eq_true, if_false, List.mem_reverse, List.mem_map, List.mem_filter]
    constructor
    · rintro ⟨⟨j, c⟩, ⟨hx, _⟩, rfl⟩
      have hx' := (enum_mem_iff _ _ _).mp (reached_sub _ _ _ hx)
      rw [hi] at hx'
      cases hx'
      exact hx
    · intro hx; exact ⟨(i, corsComp), ⟨hx, rfl⟩, rfl⟩
  rw [hmem]
  unfold stopBefore
  generalize (enum cfg.comps).take i = l1 at hsplit ⊢
  generalize (enum cfg.comps).drop (i + 1) = l2 at hsplit
  have hx : reached ((i, corsComp) :: l2) false = (i, corsComp) :: reached l2 false := by
    simp [reached, corsComp]
  have hnot : (i, corsComp) ∉ l1 := by
    intro hin
    have hp := enum_pairwise cfg.comps
    rw [hsplit, List.pairwise_append] at hp
    exact Nat.lt_irrefl _ (hp.2.2 _ hin (i, corsComp) List.mem_cons_self)
  rw [hsplit, reached_append]
  cases hs : stopAct (reqs l1) with
  | none => simp [hx]
  | some a =>
    cases a with
    | ret => exact absurd hs (stopAct_ne_ret _)
    | complete => simp
    | raise_ =>
      simp only [ne_eq, not_true_eq_false, iff_false]
      intro hin; exact hnot (reached_sub _ _ _ hin)

/-- the `process_response` calls of a run are the response stack, each component once -/
theorem count_respOrder (cfg : Pl.Cfg) (i : Nat) :
    ((run cfg).filterMap respIdx).count i = if i ∈ respOrder cfg then 1 else 0 := by
  have h : (run cfg).filterMap respIdx = respOrder cfg := by
    unfold respOrder
    cases hind : cfg.independent with
    | true => exact independent_resp_once cfg hind
    | false => exact dependent_resp_stack cfg hind
  rw [h]
  exact List.Nodup.count ((respOrder_decreasing cfg).imp fun h => Nat.ne_of_gt h)

/-- independent mode: the CORS `process_response` runs **exactly once** per request -/
theorem cors_response_exactly_once (cfg : Pl.Cfg) (i : Nat) (hind : cfg.independent = true)
    (hi : cfg.comps[i]? = some corsComp) : ((run cfg).filterMap respIdx).count i = 1 := by
  rw [count_respOrder, if_pos (mem_respOrder_independent cfg i _ hind hi rfl)]

/-- dependent mode: at most once, and not at all when an earlier `process_request` raised -/
theorem cors_response_dependent_count (cfg : Pl.Cfg) (i : Nat) (hdep : cfg.independent = false)
    (hi : cfg.comps[i]? = some corsComp) :
    ((run cfg).filterMap respIdx).count i = if stopBefore cfg i = some .raise_ then 0 else 1 := by
  rw [count_respOrder]
  simp only [mem_respOrder_dependent cfg i hdep hi, ne_eq, ite_not]

/-! ### the CORS `process_response` call, with its arguments -/

/-- independent mode (the default): the CORS `process_response` always runs, with the documented `req_succeeded` — whatever the
    request was routed to, whatever completed or raised before -/
theorem cors_process_response_independent (cfg : Pl.Cfg) (i : Nat) (hind : cfg.independent = true)
    (hi : cfg.comps[i]? = some corsComp)
    (hlater : ∀ j c, i < j → cfg.comps[j]? = some c → c.resp ≠ some .raise_) :
    Call.resp i (hasResource cfg) (documentedSuccess cfg) ∈ run cfg :=
  response_call_of_member cfg i (mem_respOrder_independent cfg i _ hind hi rfl) hlater

/-- dependent mode: the same, whenever no `process_request` registered before the CORS middleware raised -/
theorem cors_process_response_dependent (cfg : Pl.Cfg) (i : Nat) (hdep : cfg.independent = false)
    (hi : cfg.comps[i]? = some corsComp) (hreach : stopBefore cfg i ≠ some .raise_)
    (hlater : ∀ j c, i < j → cfg.comps[j]? = some c → c.resp ≠ some .raise_) :
    Call.resp i (hasResource cfg) (documentedSuccess cfg) ∈ run cfg :=
  response_call_of_member cfg i ((mem_respOrder_dependent cfg i hdep hi).mpr hreach) hlater

theorem comps_append (beh : Nat → Comp) (a b : List Mw) : comps beh (a ++ b) = comps beh a ++ comps beh b := by
  induction a with
  | nil => rfl
  | cons x xs ih => cases x <;> simp [comps, ih]

theorem comps_length (beh : Nat → Comp) (a : List Mw) : (comps beh a).length = a.length := by
  induction a with
  | nil => rfl
  | cons x xs ih => cases x <;> simp [comps, ih]

/-- **an app built with `cors_enable=True`**: the one CORS component is the last of the stack, so its `process_response` is the
    first to run and receives exactly the documented `req_succeeded` — in independent mode always, in dependent mode unless a
    `process_request` of the caller's middleware raised -/
theorem cors_enable_process_response (arg : MwArg) (st : List Mw) (h : appInit true arg = .ok st) (beh : Nat → Comp)
    (indep : Bool) (t : Target) (ra : Act) :
    let cfg : Pl.Cfg := { comps := comps beh st, independent := indep, target := t, responder := ra }
    (indep = true ∨ stopBefore cfg arg.items.length ≠ some .raise_) →
      Call.resp arg.items.length (hasResource cfg) (documentedSuccess cfg) ∈ run cfg := by
  intro cfg hmode
  have hst : st = arg.items ++ [Mw.cors true] := by
    rcases cors_enable_adds_exactly_one arg with ⟨_, hok, _⟩ | ⟨_, herr⟩
    · rw [hok] at h; injection h with h; exact h.symm
    · rw [herr] at h; cases h
  have hi : cfg.comps[arg.items.length]? = some corsComp := by
    show (comps beh st)[arg.items.length]? = some corsComp
    rw [hst, comps_append, List.getElem?_append_right (by rw [comps_length]; exact Nat.le_refl _), comps_length]
    simp [comps]
  have hlen : cfg.comps.length = arg.items.length + 1 := by
    show (comps beh st).length = _
    rw [comps_length, hst]; simp
  have hlater : ∀ j c, arg.items.length < j → cfg.comps[j]? = some c → c.resp ≠ some .raise_ := by
    intro j c hj hc
    have := (List.getElem?_eq_some_iff.mp hc).1
    omega
  cases hind : indep with
  | true => exact cors_process_response_independent cfg _ hind hi hlater
  | false =>
    rcases hmode with hm | hm
    · rw [hind] at hm; cases hm
    · exact cors_process_response_dependent cfg _ hind hi hm hlater

/-! ### the documented `req_succeeded`, by kind of request -/

/-- middleware that lets the request through (every `process_request` / `process_resource` that exists just returns): the
    flag depends on the routing outcome and the responder alone —
    routed resource: `resource` set, succeeded unless the responder raised; sink or static route: `resource` is None, succeeded
    unless it raised; no responder for the method (405): `resource` set, not succeeded; nothing matched (404): not succeeded -/
theorem req_succeeded_by_target (cfg : Pl.Cfg) (h1 : stopAct (reqs (enum cfg.comps)) = none)
    (h2 : stopAct (rsrcs (enum cfg.comps)) = none) :
    hasResource cfg = (cfg.target == .route || cfg.target == .noMethod) ∧
    documentedSuccess cfg = ((cfg.target == .route || cfg.target == .sink) && cfg.responder != .raise_) := by
  unfold documentedSuccess hasResource
  simp only [h1, h2]
  cases cfg.target <;> cases cfg.responder <;> decide

/-- a request rejected by a `process_request` (raise): `resource` is None and `req_succeeded` is False -/
theorem req_failed_in_middleware (cfg : Pl.Cfg) (h1 : stopAct (reqs (enum cfg.comps)) = some .raise_) :
    hasResource cfg = false ∧ documentedSuccess cfg = false := by
  simp only [documentedSuccess, hasResource, h1, Option.isNone_some, Bool.false_and, beq_self_eq_true, Bool.true_or,
    Bool.not_true, and_self]

/-- a request rejected by a `process_resource` (raise) after a route matched: `req_succeeded` is False -/
theorem req_failed_in_resource_middleware (cfg : Pl.Cfg) (h1 : stopAct (reqs (enum cfg.comps)) = none)
    (ht : cfg.target = .route ∨ cfg.target = .noMethod) (h2 : stopAct (rsrcs (enum cfg.comps)) = some .raise_) :
    hasResource cfg = true ∧ documentedSuccess cfg = false := by
  have hr : hasResource cfg = true := by
    rcases ht with ht | ht <;> simp only [hasResource, h1, ht, Option.isNone_none, Bool.true_and] <;> rfl
  simp only [documentedSuccess, hr, h1, h2, if_true, beq_self_eq_true, Bool.true_or, Bool.or_true, Bool.not_true, and_self]

-- cors_enable=True next to one other component: routed / sink or static / unrouted / failing responder, and dependent mode
-- with the other component's process_request raising (CORS is skipped)
example : run { comps := comps (fun _ => ⟨some .ret, none, some .ret⟩) [.other 0, .cors true], independent := true, target := .route, responder := .ret }
    = [.req 0, .responder, .resp 1 true true, .resp 0 true true] := by decide +kernel
example : run { comps := comps (fun _ => ⟨some .ret, none, some .ret⟩) [.other 0, .cors true], independent := true, target := .sink, responder := .ret }
    = [.req 0, .responder, .resp 1 false true, .resp 0 false true] := by decide +kernel
example : run { comps := comps (fun _ => ⟨some .ret, none, some .ret⟩) [.other 0, .cors true], independent := true, target := .nothing, responder := .ret }
    = [.req 0, .resp 1 false false, .resp 0 false false] := by decide +kernel
example : run { comps := comps (fun _ => ⟨some .ret, none, some .ret⟩) [.other 0, .cors true], independent := true, target := .route, responder := .raise_ }
    = [.req 0, .responder, .resp 1 true false, .resp 0 true false] := by decide +kernel
example : run { comps := comps (fun _ => ⟨some .raise_, none, some .ret⟩) [.other 0, .cors true], independent := true, target := .route, responder := .ret }
    = [.req 0, .resp 1 false false, .resp 0 false false] := by decide +kernel
example : run { comps := comps (fun _ => ⟨some .raise_, none, some .ret⟩) [.other 0, .cors true], independent := false, target := .route, responder := .ret }
    = [.req 0] := by decide +kernel


end Cg
