/-! Prototype for C20: CORSMiddleware.process_response as a function on a header map; policy theorems.
    Header names are an enum (string-literal comparisons make `simp` time out — a modelling lesson). -/
namespace Co

inductive H where
  | acao | acac | acam | acah | acma | aceh | allow | other (n : Nat)
deriving Repr, DecidableEq

abbrev Hdrs := List (H × String)
def get (h : Hdrs) (k : H) : Option String := (h.find? (·.1 == k)).map (·.2)
def set (h : Hdrs) (k : H) (v : String) : Hdrs := (h.filter (·.1 != k)) ++ [(k, v)]
def del (h : Hdrs) (k : H) : Hdrs := h.filter (·.1 != k)

inductive Origins where
  | any
  | only (s : List String)
deriving Repr

structure Cfg where
  allowOrigins : Origins
  allowCredentials : Origins
  exposeHeaders : Option String

def Origins.has : Origins → String → Bool
  | .any, _ => true
  | .only s, o => s.contains o

structure Req where
  origin : Option String
  isOptions : Bool
  acrm : Option String
  acrh : Option String

def truthy : Option String → Bool
  | some s => !s.isEmpty
  | none => false

/-- `CORSMiddleware.process_response` (pinned code) -/
def process (c : Cfg) (r : Req) (h : Hdrs) (succeeded : Bool) : Hdrs :=
  match r.origin with
  | none => h
  | some origin =>
    if !c.allowOrigins.has origin then h else
    let h1 :=
      if (get h .acao).isNone then
        if c.allowCredentials.has origin then set (set h .acac "true") .acao origin
        else set h .acao (match c.allowOrigins with | .any => "*" | .only _ => origin)
      else h
    let h2 := match c.exposeHeaders with
      | some e => if !e.isEmpty then set h1 .aceh e else h1
      | none => h1
    if succeeded && r.isOptions && truthy r.acrm then
      match get h2 .allow with
      | none => del (del (del (del (del (del h2 .allow) .acam) .acah) .acma) .aceh) .acao
      | some a => set (set (set (del h2 .allow) .acam a) .acah (r.acrh.getD "*")) .acma "86400"
    else h2

theorem get_set_self (h : Hdrs) (k : H) (v : String) : get (set h k v) k = some v := by
  unfold get set
  rw [List.find?_append]
  have : (h.filter (·.1 != k)).find? (·.1 == k) = none := by
    rw [List.find?_eq_none]; intro x hx; simp only [List.mem_filter] at hx; simpa using hx.2
  simp [this]

theorem find_filter_ne (h : Hdrs) (k k' : H) (hne : k' ≠ k) :
    (h.filter (·.1 != k)).find? (·.1 == k') = h.find? (·.1 == k') := by
  rw [List.find?_filter]
  congr 1
  funext x
  by_cases hx : x.1 = k'
  · simp [hx, hne]
  · simp [hx]

theorem get_set_ne (h : Hdrs) (k k' : H) (v : String) (hne : k' ≠ k) : get (set h k v) k' = get h k' := by
  unfold get set
  rw [List.find?_append, find_filter_ne h k k' hne]
  have h1 : ([(k, v)] : Hdrs).find? (·.1 == k') = none := by simp; exact fun hc => hne hc.symm
  rw [h1]; simp

theorem get_del_self (h : Hdrs) (k : H) : get (del h k) k = none := by
  unfold get del
  have : (h.filter (·.1 != k)).find? (·.1 == k) = none := by
    rw [List.find?_eq_none]; intro x hx; simp only [List.mem_filter] at hx; simpa using hx.2
  simp [this]

theorem get_del_ne (h : Hdrs) (k k' : H) (hne : k' ≠ k) : get (del h k) k' = get h k' := by
  unfold get del; rw [find_filter_ne h k k' hne]

theorem get_del_any (h : Hdrs) (k k' : H) (hk : get h k' = none) : get (del h k) k' = none := by
  by_cases hne : k' = k
  · subst hne; exact get_del_self h k'
  · rw [get_del_ne h k k' hne]; exact hk

/-! ### the stages of `process_response` -/

/-- stage 1: `Access-Control-Allow-Origin` / `-Credentials`, only when the responder has not set the former -/
def grantStage (c : Cfg) (origin : String) (h : Hdrs) : Hdrs :=
  if (get h .acao).isNone then
    if c.allowCredentials.has origin then set (set h .acac "true") .acao origin
    else set h .acao (match c.allowOrigins with | .any => "*" | .only _ => origin)
  else h

/-- stage 2: `Access-Control-Expose-Headers` -/
def exposeStage (c : Cfg) (h : Hdrs) : Hdrs :=
  match c.exposeHeaders with
  | some e => if !e.isEmpty then set h .aceh e else h
  | none => h

/-- stage 3 of `process` (before the F12 repair): the preflight patch, whose denied branch leaves
    `Access-Control-Allow-Credentials` -/
def preflightOrig (r : Req) (succeeded : Bool) (h : Hdrs) : Hdrs :=
  if succeeded && r.isOptions && truthy r.acrm then
    match get h .allow with
    | none => del (del (del (del (del (del h .allow) .acam) .acah) .acma) .aceh) .acao
    | some a => set (set (set (del h .allow) .acam a) .acah (r.acrh.getD "*")) .acma "86400"
  else h

theorem process_stages (c : Cfg) (r : Req) (h : Hdrs) (s : Bool) (o : String)
    (ho : r.origin = some o) (ha : c.allowOrigins.has o = true) :
    process c r h s = preflightOrig r s (exposeStage c (grantStage c o h)) := by
  simp only [process, ho, ha, Bool.not_true, Bool.false_eq_true, if_false]
  rfl

theorem grantStage_get (c : Cfg) (o : String) (h : Hdrs) (k : H) (h1 : k ≠ .acao) (h2 : k ≠ .acac) :
    get (grantStage c o h) k = get h k := by
  unfold grantStage
  split
  · split
    · rw [get_set_ne _ _ _ _ h1, get_set_ne _ _ _ _ h2]
    · rw [get_set_ne _ _ _ _ h1]
  · rfl

/-- without a credentials grant stage 1 does not touch `Access-Control-Allow-Credentials` -/
theorem grantStage_acac (c : Cfg) (o : String) (h : Hdrs) (hc : c.allowCredentials.has o = false) :
    get (grantStage c o h) .acac = get h .acac := by
  unfold grantStage
  rw [hc]
  split
  · exact get_set_ne _ _ _ _ (by simp)
  · rfl

/-- what stage 1 answers when the responder has not set the header: the origin itself for a credentials grant, else the
    wildcard or the origin -/
theorem grantStage_acao (c : Cfg) (o : String) (h : Hdrs) (h1 : get h .acao = none) :
    get (grantStage c o h) .acao =
      some (if c.allowCredentials.has o then o else match c.allowOrigins with | .any => "*" | .only _ => o) := by
  unfold grantStage
  rw [h1]
  cases c.allowCredentials.has o <;> exact get_set_self _ _ _

theorem exposeStage_get (c : Cfg) (h : Hdrs) (k : H) (h1 : k ≠ .aceh) : get (exposeStage c h) k = get h k := by
  unfold exposeStage
  split
  · split
    · exact get_set_ne _ _ _ _ h1
    · rfl
  · rfl

/-- before the repair the preflight patch does not touch `Access-Control-Allow-Credentials` … -/
theorem preflightOrig_acac (r : Req) (s : Bool) (h : Hdrs) : get (preflightOrig r s h) .acac = get h .acac := by
  unfold preflightOrig
  split
  · split
    · simp only [get_del_ne, ne_eq, reduceCtorEq, not_false_eq_true]
    · simp only [get_set_ne, get_del_ne, ne_eq, reduceCtorEq, not_false_eq_true]
  · rfl

/-- … and leaves `Access-Control-Allow-Origin` unless the preflight is denied -/
theorem preflightOrig_acao (r : Req) (s : Bool) (h : Hdrs) :
    get (preflightOrig r s h) .acao = get h .acao ∨ get (preflightOrig r s h) .acao = none := by
  unfold preflightOrig
  split
  · split
    · exact Or.inr (get_del_self _ _)
    · left
      simp only [get_set_ne, get_del_ne, ne_eq, reduceCtorEq, not_false_eq_true]
  · exact Or.inl rfl

theorem no_origin_untouched (c : Cfg) (r : Req) (h : Hdrs) (s : Bool) (ho : r.origin = none) :
    process c r h s = h := by simp only [process, ho]

theorem disallowed_untouched (c : Cfg) (r : Req) (h : Hdrs) (s : Bool) (o : String)
    (ho : r.origin = some o) (hd : c.allowOrigins.has o = false) : process c r h s = h := by
  simp only [process, ho, hd, Bool.not_false, if_true]

/-- credentials are granted by the middleware only to an allowed origin configured for credentials -/
theorem credentials_only_configured (c : Cfg) (r : Req) (h : Hdrs) (s : Bool)
    (h0 : get h .acac = none) (hres : get (process c r h s) .acac = some "true") :
    ∃ o, r.origin = some o ∧ c.allowOrigins.has o = true ∧ c.allowCredentials.has o = true := by
  cases ho : r.origin with
  | none => rw [no_origin_untouched c r h s ho, h0] at hres; cases hres
  | some o =>
    cases ha : c.allowOrigins.has o with
    | false => rw [disallowed_untouched c r h s o ho ha, h0] at hres; cases hres
    | true =>
      refine ⟨o, rfl, ha, ?_⟩
      cases hc : c.allowCredentials.has o with
      | true => rfl
      | false =>
        rw [process_stages c r h s o ho ha, preflightOrig_acac, exposeStage_get _ _ _ (by simp),
          grantStage_acac c o h hc, h0] at hres
        cases hres

/-- whenever the middleware grants credentials, `Access-Control-Allow-Origin` is the request's Origin or absent -/
theorem credentials_imply_echo (c : Cfg) (r : Req) (h : Hdrs) (s : Bool)
    (h0 : get h .acac = none) (h1 : get h .acao = none)
    (hres : get (process c r h s) .acac = some "true") :
    ∃ o, r.origin = some o ∧
      (get (process c r h s) .acao = some o ∨ get (process c r h s) .acao = none) := by
  obtain ⟨o, ho, ha, hc⟩ := credentials_only_configured c r h s h0 hres
  refine ⟨o, ho, ?_⟩
  have e : get (exposeStage c (grantStage c o h)) .acao = some o := by
    rw [exposeStage_get c _ .acao (by simp), grantStage_acao c o h h1, hc, if_pos rfl]
  rw [process_stages c r h s o ho ha, ← e]
  exact preflightOrig_acao r s _

#print axioms credentials_only_configured
#print axioms credentials_imply_echo
/-! ### F12 and its repair -/

/-- `process_response` with the F12 repair: the denied-preflight branch also deletes Access-Control-Allow-Credentials
    (the suffix `F` marks this function and the theorems about it) -/
def processF (c : Cfg) (r : Req) (h : Hdrs) (succeeded : Bool) : Hdrs :=
  match r.origin with
  | none => h
  | some origin =>
    if !c.allowOrigins.has origin then h else
    let h1 :=
      if (get h .acao).isNone then
        if c.allowCredentials.has origin then set (set h .acac "true") .acao origin
        else set h .acao (match c.allowOrigins with | .any => "*" | .only _ => origin)
      else h
    let h2 := match c.exposeHeaders with
      | some e => if !e.isEmpty then set h1 .aceh e else h1
      | none => h1
    if succeeded && r.isOptions && truthy r.acrm then
      match get h2 .allow with
      | none => del (del (del (del (del (del (del h2 .allow) .acam) .acah) .acma) .aceh) .acao) .acac
      | some a => set (set (set (del h2 .allow) .acam a) .acah (r.acrh.getD "*")) .acma "86400"
    else h2

/-- stage 3: the preflight patch -/
def preflightStage (r : Req) (succeeded : Bool) (h : Hdrs) : Hdrs :=
  if succeeded && r.isOptions && truthy r.acrm then
    match get h .allow with
    | none => del (del (del (del (del (del (del h .allow) .acam) .acah) .acma) .aceh) .acao) .acac
    | some a => set (set (set (del h .allow) .acam a) .acah (r.acrh.getD "*")) .acma "86400"
  else h

theorem processF_stages (c : Cfg) (r : Req) (h : Hdrs) (s : Bool) (o : String)
    (ho : r.origin = some o) (ha : c.allowOrigins.has o = true) :
    processF c r h s = preflightStage r s (exposeStage c (grantStage c o h)) := by
  simp only [processF, ho, ha, Bool.not_true, Bool.false_eq_true, if_false]
  rfl

/-- the six headers by which the middleware grants anything -/
def grants : List H := [.acao, .acac, .acam, .acah, .acma, .aceh]

/-- **after the repair, a denied preflight grants nothing**: whatever the configuration, the request and the headers the
    responder had set, a successful preflight for which the resource offers no `Allow` leaves none of the six CORS grant
    headers on the response -/
theorem denied_preflight_grants_nothing (c : Cfg) (r : Req) (h : Hdrs) (origin : String) (k : H)
    (ho : r.origin = some origin) (hallowed : c.allowOrigins.has origin = true)
    (hpre : (r.isOptions && truthy r.acrm) = true) (hk : k ∈ grants)
    (hnoallow : get h .allow = none) :
    get (processF c r h true) k = none := by
  have e : get (exposeStage c (grantStage c origin h)) .allow = none := by
    rw [exposeStage_get _ _ _ (by simp), grantStage_get _ _ _ _ (by simp) (by simp), hnoallow]
  rw [processF_stages c r h true origin ho hallowed]
  simp only [preflightStage, Bool.true_and, hpre, if_true, e]
  -- every grant header is deleted by one of the seven `delete_header` calls
  simp only [grants, List.mem_cons, List.mem_nil_iff, or_false] at hk
  rcases hk with rfl | rfl | rfl | rfl | rfl | rfl <;>
    simp only [get_del_ne, get_del_self, ne_eq, reduceCtorEq, not_false_eq_true]

/-- F12 on the pinned code: the same request keeps `Access-Control-Allow-Credentials: true` -/
theorem f12_witness :
    get (process { allowOrigins := .any, allowCredentials := .any, exposeHeaders := none }
          { origin := some "https://a.example", isOptions := true, acrm := some "GET", acrh := none } [] true) .acac
      = some "true" := by decide +kernel

#print axioms denied_preflight_grants_nothing
end Co
