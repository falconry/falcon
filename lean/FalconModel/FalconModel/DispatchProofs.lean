import FalconModel.Dispatch
/-! C02: theorems about the dispatch model. -/
namespace Dp

/-! ### a route always masks sinks and static routes -/
theorem route_masks (a : App) (mm : MethodMap) (m : Method) (hits : Kind × Nat → Bool) :
    a.getResponder (some mm) m hits = mm.lookup m := rfl

/-- what a method map can answer -/
theorem lookup_cases (mm : MethodMap) (m : Method) :
    mm.lookup m = .resource mm.rid m ∨ mm.lookup m = .options mm.allowed ∨ mm.lookup m = .notAllowed mm.allow405 ∨
      mm.lookup m = .badRequest := by
  unfold MethodMap.lookup
  by_cases h1 : mm.impl.contains m = true
  · exact Or.inl (if_pos h1)
  · rw [if_neg h1]
    by_cases h2 : (m == "OPTIONS") = true
    · exact Or.inr (Or.inl (if_pos h2))
    · rw [if_neg h2]
      by_cases h3 : mm.combined.contains m = true
      · exact Or.inr (Or.inr (Or.inl (if_pos h3)))
      · exact Or.inr (Or.inr (Or.inr (if_neg h3)))

theorem lookup_never_sink_or_static (mm : MethodMap) (m : Method) :
    (∀ id, mm.lookup m ≠ .sink id) ∧ (∀ id, mm.lookup m ≠ .static id) ∧ mm.lookup m ≠ .notFound := by
  rcases lookup_cases mm m with h | h | h | h <;> rw [h] <;>
    exact ⟨fun _ h => Responder.noConfusion h, fun _ h => Responder.noConfusion h, fun h => Responder.noConfusion h⟩
/-- the resource's own responder runs exactly for the methods it implements -/
theorem lookup_resource_iff (mm : MethodMap) (m : Method) :
    mm.lookup m = .resource mm.rid m ↔ mm.impl.contains m = true := by
  unfold MethodMap.lookup
  constructor
  · intro h
    by_cases hc : mm.impl.contains m = true
    · exact hc
    · rw [if_neg hc] at h
      (repeat' split at h) <;> cases h
  · intro h; rw [if_pos h]

/-! ### without a route: the first matching entry of the configured order, else 404 -/
theorem first_match (a : App) (m : Method) (hits : Kind × Nat → Bool) (e : Kind × Nat) :
    a.order.find? hits = some e →
      a.getResponder none m hits = (match e with | (.sink, id) => .sink id | (.static, id) => .static id) ∧
      hits e = true ∧ ∃ pre post, a.order = pre ++ e :: post ∧ ∀ x ∈ pre, hits x = false := by
  intro h
  refine ⟨?_, List.find?_some h, ?_⟩
  · unfold App.getResponder
    simp only [h]
    obtain ⟨k, id⟩ := e
    cases k <;> rfl
  · obtain ⟨pre, post, h1, h2⟩ := List.find?_eq_some_iff_append.mp h |>.2
    exact ⟨pre, post, h1, fun x hx => by simpa using h2 x hx⟩

theorem not_found_iff (a : App) (m : Method) (hits : Kind × Nat → Bool) :
    a.getResponder none m hits = .notFound ↔ ∀ x ∈ a.order, hits x = false := by
  unfold App.getResponder
  constructor
  · intro h
    cases hf : a.order.find? hits with
    | none => intro x hx; have := List.find?_eq_none.mp hf x hx; simpa using this
    | some e =>
      rw [hf] at h
      obtain ⟨k, id⟩ := e
      cases k <;> simp at h
  · intro h
    have : a.order.find? hits = none := by
      rw [List.find?_eq_none]; intro x hx; simp [h x hx]
    simp [this]

/-! ### the configured order after any registration history: by recency within a kind, kinds by the option -/
def sinkIds : List Add → List Nat
  | [] => []
  | .sink id :: r => id :: sinkIds r
  | .static _ :: r => sinkIds r
def staticIds : List Add → List Nat
  | [] => []
  | .static id :: r => id :: staticIds r
  | .sink _ :: r => staticIds r

def orderOf (a : App) : List (Kind × Nat) :=
  if a.sinkFirst then a.sinks.map (Kind.sink, ·) ++ a.statics.map (Kind.static, ·)
  else a.statics.map (Kind.static, ·) ++ a.sinks.map (Kind.sink, ·)

theorem history_spec (ops : List Add) : ∀ (a : App), a.order = orderOf a →
    let a' := ops.foldl App.add a
    a'.sinks = (sinkIds ops).reverse ++ a.sinks ∧ a'.statics = (staticIds ops).reverse ++ a.statics ∧
    a'.sinkFirst = a.sinkFirst ∧ a'.order = orderOf a' := by
  induction ops with
  | nil => intro a h; exact ⟨rfl, rfl, rfl, h⟩
  | cons op rest ih =>
    intro a _
    obtain ⟨h1, h2, h3, h4⟩ := ih (a.add op) (by cases op <;> rfl)
    refine ⟨h1.trans ?_, h2.trans ?_, h3.trans (by cases op <;> rfl), h4⟩ <;>
      cases op <;> simp [sinkIds, staticIds, App.add, App.addSink, App.addStatic, App.update]

/-- **C02 `sink_static_order`**: after any history of `add_sink` / `add_static_route` calls on a fresh app, the search
    order is: sinks most-recent-first then static routes most-recent-first (or the two blocks swapped when
    `sink_before_static_route` is false) -/
theorem sink_static_order (ops : List Add) (sinkFirst : Bool) :
    (ops.foldl App.add { sinkFirst := sinkFirst }).order =
      if sinkFirst then (sinkIds ops).reverse.map (Kind.sink, ·) ++ (staticIds ops).reverse.map (Kind.static, ·)
      else (staticIds ops).reverse.map (Kind.static, ·) ++ (sinkIds ops).reverse.map (Kind.sink, ·) := by
  have := history_spec ops { sinkFirst := sinkFirst } (by cases sinkFirst <;> rfl)
  obtain ⟨h1, h2, h3, h4⟩ := this
  rw [h4]; unfold orderOf
  rw [h1, h2, h3]; simp

theorem mem_insertSorted (x y : Method) (l : List Method) : y ∈ insertSorted x l ↔ y = x ∨ y ∈ l := by
  induction l with
  | nil => simp [insertSorted]
  | cons z zs ih =>
    unfold insertSorted
    split
    · simp
    · simp only [List.mem_cons, ih]
      exact or_left_comm

theorem mem_sortM (y : Method) (l : List Method) : y ∈ sortM l ↔ y ∈ l := by
  unfold sortM
  induction l with
  | nil => simp
  | cons x xs ih => simp only [List.foldr_cons, mem_insertSorted, ih, List.mem_cons]

/-- the automatic OPTIONS responder advertises exactly the implemented HTTP methods -/
theorem options_allow_exact (mm : MethodMap) (m : Method) :
    m ∈ mm.allowed ↔ m ∈ mm.impl ∧ m ≠ "WEBSOCKET" := by
  unfold MethodMap.allowed
  rw [mem_sortM, List.mem_filter]
  simp [metaMethods]

/-- the 405 responder advertises exactly the implemented HTTP methods plus OPTIONS -/
theorem allow405_exact (mm : MethodMap) (m : Method) :
    m ∈ mm.allow405 ↔ (m ∈ mm.impl ∧ m ≠ "WEBSOCKET") ∨ m = "OPTIONS" := by
  unfold MethodMap.allow405
  split
  · rename_i h
    rw [options_allow_exact]
    constructor
    · exact Or.inl
    · rintro (h1 | h1)
      · exact h1
      · subst h1; exact ⟨by simpa using h, by decide⟩
  · rw [List.mem_append, options_allow_exact]; simp

#print axioms sink_static_order
#print axioms allow405_exact
#print axioms first_match

/-! ### suffixed routes, keyword arguments, meta methods -/

theorem mem_mapHttpMethods {combined : List Method} {attrs : List Attr} {suffix : Option String} {m : Method} :
    m ∈ mapHttpMethods combined attrs suffix ↔ m ∈ combined ∧ ∃ a ∈ attrs, a.method = m ∧ a.suffix = suffix := by
  simp only [mapHttpMethods, List.mem_filter, List.any_eq_true, Bool.and_eq_true, beq_iff_eq]

/-- **suffix isolation**: through a route added with `suffix` the resource's own responder runs exactly for the methods
    `m` of COMBINED_METHODS that have a callable `on_<m>_<suffix>` (`on_<m>` when no suffix was given) — an attribute
    with any other suffix is never reached -/
theorem suffix_isolation (rid : Nat) (combined : List Method) (attrs : List Attr) (suffix : Option String) (m : Method) :
    (mkMethodMap rid combined attrs suffix).lookup m = .resource rid m ↔
      (m ∈ combined ∧ ∃ a ∈ attrs, a.method = m ∧ a.suffix = suffix) :=
  (lookup_resource_iff (mkMethodMap rid combined attrs suffix) m).trans (List.contains_iff_mem.trans mem_mapHttpMethods)

/-- a method that is not in COMBINED_METHODS is answered 400 on every route (never 405, never a responder) -/
theorem unknown_method_400 (rid : Nat) (combined : List Method) (attrs : List Attr) (suffix : Option String) (m : Method)
    (hm : m ∉ combined) (ho : m ≠ "OPTIONS") : (mkMethodMap rid combined attrs suffix).lookup m = .badRequest := by
  have h1 : (mapHttpMethods combined attrs suffix).contains m = false := by
    rw [Bool.eq_false_iff, ne_eq, List.contains_iff_mem, mem_mapHttpMethods]
    exact fun h => hm h.1
  have h2 : combined.contains m = false := by simpa using hm
  have h3 : (m == "OPTIONS") = false := by simpa using ho
  simp only [MethodMap.lookup, mkMethodMap, h1, h2, h3]; rfl

/-- **kwargs**: a routed request gets the template fields; a request that fell through to sink `id` gets exactly that sink's
    named groups; a static route and the 404 responder get none -/
theorem kwargs_are_fields_or_groups (a : App) (m : Method) (hits : Kind × Nat → Bool) (groups : Nat → Kw) :
    (∀ f, a.getParams (some f) hits groups = f) ∧
    (∀ id, a.getResponder none m hits = .sink id → a.getParams none hits groups = groups id) ∧
    (∀ id, a.getResponder none m hits = .static id → a.getParams none hits groups = []) ∧
    (a.getResponder none m hits = .notFound → a.getParams none hits groups = []) := by
  unfold App.getResponder App.getParams
  generalize a.order.find? hits = o
  refine ⟨fun f => rfl, fun id h => ?_, fun id h => ?_, fun h => ?_⟩ <;>
    rcases o with _ | ⟨_ | _, i⟩ <;> cases h <;> rfl

/-- **WEBSOCKET is not an HTTP method**: whatever is registered, an HTTP request using it is answered 400 -/
theorem websocket_meta_is_400 (a : App) (route : Option MethodMap) (hits : Kind × Nat → Bool) :
    a.dispatchHttp route "WEBSOCKET" hits = .badRequest := by
  simp [App.dispatchHttp, metaMethods]

/-- for every other method the HTTP entry point is `_get_responder` -/
theorem dispatchHttp_eq (a : App) (route : Option MethodMap) (m : Method) (hits : Kind × Nat → Bool)
    (hm : m ≠ "WEBSOCKET") : a.dispatchHttp route m hits = a.getResponder route m hits := by
  have hc : metaMethods.contains m = false := by simp [metaMethods, hm]
  unfold App.dispatchHttp
  rw [hc]; rfl

/-! ### sink kwargs are `groupdict()` of the match object — every named group of the pattern, also
    those that did not participate (value `None`); the constructor default of `sink_before_static_route` -/

/-- the keys of `groupdict()` are the pattern's named groups: a property of the pattern, not of the individual match -/
theorem groupdict_keys (m : Match) : m.groupdict.map Prod.fst = m.groupindex.map Prod.fst := by
  simp [Match.groupdict, List.map_map, Function.comp_def]

/-- **sink kwargs, exact**: when dispatch falls through to sink `id`, the keyword arguments are `groupdict()` of that sink's
    match: their key list is the pattern's `groupindex` (whatever participated), and each named group `n` (number `i`)
    arrives with the value `m.group(i)` — `None` when it did not participate -/
theorem sink_kwargs_exact (a : App) (meth : Method) (hits : Kind × Nat → Bool) (mtab : Nat → Match) (id : Nat)
    (h : a.getResponder none meth hits = .sink id) :
    a.getParamsM none hits mtab = (mtab id).groupdict ∧
    (a.getParamsM none hits mtab).map Prod.fst = (mtab id).groupindex.map Prod.fst ∧
    ∀ n i, (n, i) ∈ (mtab id).groupindex → (n, (mtab id).group i) ∈ a.getParamsM none hits mtab := by
  have h1 : a.getParamsM none hits mtab = (mtab id).groupdict :=
    (kwargs_are_fields_or_groups a meth hits fun id => (mtab id).groupdict).2.1 id h
  refine ⟨h1, by rw [h1, groupdict_keys], fun n i hm => ?_⟩
  rw [h1]
  exact List.mem_map.mpr ⟨(n, i), hm, rfl⟩

/-- **no group participated** (`m.lastindex is None`): the sink still receives one keyword argument per named group, all `None` -/
theorem sink_kwargs_nonparticipating (a : App) (meth : Method) (hits : Kind × Nat → Bool) (mtab : Nat → Match) (id : Nat)
    (h : a.getResponder none meth hits = .sink id) (hn : ∀ i, (mtab id).group i = none) :
    a.getParamsM none hits mtab = (mtab id).groupindex.map (fun ni => (ni.1, none)) ∧
    (a.getParamsM none hits mtab).length = (mtab id).groupindex.length := by
  have h1 := (sink_kwargs_exact a meth hits mtab id h).1
  rw [h1]
  refine ⟨?_, by simp [Match.groupdict]⟩
  simp [Match.groupdict, hn]

/-- with match objects as the table: static routes and 404 get no kwargs, a routed request gets the template fields -/
theorem non_sink_kwargs_empty (a : App) (meth : Method) (hits : Kind × Nat → Bool) (mtab : Nat → Match) :
    (∀ id, a.getResponder none meth hits = .static id → a.getParamsM none hits mtab = []) ∧
    (a.getResponder none meth hits = .notFound → a.getParamsM none hits mtab = []) ∧
    (∀ f, a.getParamsM (some f) hits mtab = f) := by
  have := kwargs_are_fields_or_groups a meth hits fun id => (mtab id).groupdict
  exact ⟨this.2.2.1, this.2.2.2, this.1⟩

/-- an app constructed without `sink_before_static_route` is the app constructed with `True` -/
theorem init_default : App.init none = App.init (some true) := rfl

/-- `sink_static_order` for an app built by the constructor (`falcon.App`, `falcon.API`, `falcon.asgi.App`), option given or not -/
theorem sink_static_order_init (ops : List Add) (o : Option Bool) :
    (ops.foldl App.add (App.init o)).order =
      if o.getD true then (sinkIds ops).reverse.map (Kind.sink, ·) ++ (staticIds ops).reverse.map (Kind.static, ·)
      else (staticIds ops).reverse.map (Kind.static, ·) ++ (sinkIds ops).reverse.map (Kind.sink, ·) :=
  sink_static_order ops (o.getD true)

/-- a sink prefix `/s(?:/(?P<rest>[a-z]+))?(?P<tail>x)?` matched against `/s`: no group participates, both names arrive as `None` -/
example : ((App.init none).addSink 0).getParamsM none (fun _ => true)
    (fun _ => { groupindex := [("rest", 1), ("tail", 2)], group := fun _ => none }) = [("rest", none), ("tail", none)] := by decide +kernel

/-! ### registration histories of routes - the LATEST accepted `add_route` call for a template
    defines its method map (responder identity, 405 Allow, OPTIONS Allow), whatever was registered there before and whichever
    resource object it was; `suffix=''` is no suffix; suffixes are compared verbatim -/

theorem find_cons (e : String × Bound) (rs : Routes) (t : String) :
    Routes.find (e :: rs) t = if e.1 = t then some e.2 else Routes.find rs t := by
  unfold Routes.find
  rw [List.find?_cons]
  by_cases h : e.1 = t
  · rw [if_pos h, beq_iff_eq.mpr h]; rfl
  · rw [if_neg h, beq_eq_false_iff_ne.mpr h]

theorem find_addRoute (c : List Method) (rs : Routes) (r : RouteReg) (t : String) :
    Routes.find (addRoute c rs r) t = if r.tmpl = t then some (bind c r) else Routes.find rs t := by
  induction rs with
  | nil => rw [addRoute, find_cons]
  | cons e rest ih =>
    rw [addRoute]
    by_cases he : e.1 = r.tmpl
    · rw [if_pos (beq_iff_eq.mpr he), find_cons, find_cons, he]
      by_cases h : r.tmpl = t
      · rw [if_pos h, if_pos h]
      · rw [if_neg h, if_neg h, if_neg h]
    · rw [if_neg (by rw [beq_iff_eq]; exact he), find_cons, ih, find_cons]
      by_cases h1 : e.1 = t
      · rw [if_pos h1, if_pos h1, if_neg (fun h2 => he (h1.trans h2.symm))]
      · rw [if_neg h1, if_neg h1]
theorem history_find (c : List Method) (t : String) (hist : List RouteReg) : ∀ rs : Routes,
    Routes.find (hist.foldl (addRouteCall c) rs) t =
      match ((hist.filter (accepted c)).reverse.find? (·.tmpl == t)) with
      | some r => some (bind c r)
      | none => Routes.find rs t := by
  induction hist with
  | nil => intro rs; simp
  | cons r rest ih =>
    intro rs
    rw [List.foldl_cons, ih]
    by_cases ha : accepted c r = true
    · simp only [List.filter_cons, ha, if_true, List.reverse_cons, List.find?_append]
      cases hf : (List.filter (accepted c) rest).reverse.find? (·.tmpl == t) with
      | some x => simp
      | none =>
        simp only [addRouteCall, ha, if_true, find_addRoute, Option.none_or, List.find?_cons, List.find?_nil]
        by_cases h : r.tmpl = t
        · simp [h]
        · have : (r.tmpl == t) = false := by simpa using h
          simp [h, this]
    · simp only [List.filter_cons, ha, addRouteCall]
      simp

theorem latest_registration_wins (c : List Method) (hist : List RouteReg) (t : String) :
    Routes.find (routesOf c hist) t = (((hist.filter (accepted c)).reverse.find? (·.tmpl == t))).map (bind c) := by
  unfold routesOf
  rw [history_find]
  cases (List.filter (accepted c) hist).reverse.find? (·.tmpl == t) <;> simp [Routes.find]


theorem effSuffix_empty : effSuffix (some "") = none := rfl
theorem effSuffix_none : effSuffix none = none := rfl
theorem effSuffix_nonempty (s : String) (h : s ≠ "") : effSuffix (some s) = some s := by
  have : s.isEmpty = false := by
    cases hs : s.isEmpty with
    | false => rfl
    | true => exact absurd (String.isEmpty_iff.mp hs) h
  simp [effSuffix, this]

theorem accepted_iff (c : List Method) (r : RouteReg) :
    accepted c r = true ↔ effSuffix r.suffix = none ∨ ∃ m ∈ c, ∃ a ∈ r.attrs, a.method = m ∧ a.suffix = effSuffix r.suffix := by
  unfold accepted
  rw [Bool.or_eq_true, Option.isNone_iff_eq_none, Bool.not_eq_true', List.isEmpty_eq_false_iff_exists_mem]
  simp only [mem_mapHttpMethods]

theorem rejected_call_is_noop (c : List Method) (rs : Routes) (r : RouteReg) (h : accepted c r = false) :
    addRouteCall c rs r = rs := by simp [addRouteCall, h]

theorem accepted_call_rebinds (c : List Method) (rs : Routes) (r : RouteReg) (h : accepted c r = true) :
    Routes.find (addRouteCall c rs r) r.tmpl = some (bind c r) ∧
    ∀ t, t ≠ r.tmpl → Routes.find (addRouteCall c rs r) t = Routes.find rs t := by
  simp only [addRouteCall, h, if_true, find_addRoute]
  refine ⟨by simp, fun t ht => ?_⟩
  have : ¬ r.tmpl = t := fun e => ht e.symm
  simp [this]

theorem reregistered_route_exact (c : List Method) (hist : List RouteReg) (t : String) (r : RouteReg)
    (h : (hist.filter (accepted c)).reverse.find? (·.tmpl == t) = some r) :
    ∃ b, Routes.find (routesOf c hist) t = some b ∧ b.suffix = effSuffix r.suffix ∧ b.mm.rid = r.rid ∧
      (∀ m, b.mm.lookup m = .resource r.rid m ↔ (m ∈ c ∧ ∃ a ∈ r.attrs, a.method = m ∧ a.suffix = effSuffix r.suffix)) ∧
      (∀ m, m ∈ b.mm.allowed ↔ ((m ∈ c ∧ ∃ a ∈ r.attrs, a.method = m ∧ a.suffix = effSuffix r.suffix) ∧ m ≠ "WEBSOCKET")) ∧
      (∀ m, m ∈ b.mm.allow405 ↔ (((m ∈ c ∧ ∃ a ∈ r.attrs, a.method = m ∧ a.suffix = effSuffix r.suffix) ∧ m ≠ "WEBSOCKET") ∨ m = "OPTIONS")) := by
  have himpl : ∀ m, m ∈ (bind c r).mm.impl ↔ (m ∈ c ∧ ∃ a ∈ r.attrs, a.method = m ∧ a.suffix = effSuffix r.suffix) := by
    intro m
    exact mem_mapHttpMethods
  refine ⟨bind c r, by rw [latest_registration_wins, h]; rfl, rfl, rfl, fun m => ?_, fun m => ?_, fun m => ?_⟩
  · exact suffix_isolation r.rid c r.attrs (effSuffix r.suffix) m
  · rw [options_allow_exact, himpl]
  · rw [allow405_exact, himpl]

theorem unregistered_template (c : List Method) (hist : List RouteReg) (t : String)
    (h : ∀ r ∈ hist, accepted c r = true → r.tmpl ≠ t) : Routes.find (routesOf c hist) t = none := by
  rw [latest_registration_wins]
  have : (hist.filter (accepted c)).reverse.find? (·.tmpl == t) = none := by
    rw [List.find?_eq_none]
    intro x hx
    have hx' := List.mem_filter.mp (List.mem_reverse.mp hx)
    simpa using h x hx'.1 hx'.2
  rw [this]; rfl

/-- the same resource object (rid 0: `on_get_collection`, `on_post_collection`, `on_get_item`, `on_delete_item`) registered for
    `/things` with suffix `collection` and then again with suffix `item`: POST is 405 with Allow DELETE, GET, OPTIONS -/
example : ((Routes.find (routesOf ["GET", "POST", "DELETE", "OPTIONS"]
    [⟨"/things", 0, [⟨"GET", some "collection"⟩, ⟨"POST", some "collection"⟩, ⟨"GET", some "item"⟩, ⟨"DELETE", some "item"⟩], some "collection"⟩,
     ⟨"/things", 0, [⟨"GET", some "collection"⟩, ⟨"POST", some "collection"⟩, ⟨"GET", some "item"⟩, ⟨"DELETE", some "item"⟩], some "item"⟩])
    "/things").map fun b => (b.mm.lookup "POST", b.mm.lookup "DELETE")) =
    some (.notAllowed ["DELETE", "GET", "OPTIONS"], .resource 0 "DELETE") := by decide +kernel

/-- twin responder families that differ in letter case only: `suffix='byId'` reaches `on_get_byId`, never `on_put_byid` -/
example : ((Routes.find (routesOf ["GET", "PUT", "OPTIONS"]
    [⟨"/t/{id}", 3, [⟨"GET", some "byId"⟩, ⟨"PUT", some "byid"⟩], some "byId"⟩]) "/t/{id}").map fun b => (b.mm.lookup "GET", b.mm.lookup "PUT")) =
    some (.resource 3 "GET", .notAllowed ["GET", "OPTIONS"]) := by decide +kernel

/-- `suffix=''` is no suffix: the route reaches `on_get`, not `on_get_` -/
example : ((Routes.find (routesOf ["GET", "PUT", "OPTIONS"]
    [⟨"/a", 1, [⟨"GET", none⟩, ⟨"PUT", some ""⟩], some ""⟩]) "/a").map fun b => (b.mm.lookup "GET", b.mm.lookup "PUT", b.suffix)) =
    some (.resource 1 "GET", .notAllowed ["GET", "OPTIONS"], none) := by decide +kernel

/-! ### the framework's own answers are exact whatever earlier stages left on the response -/

/-- the status of falcon's own answers: 200 for the automatic OPTIONS responder, 405, 400, 404 - for EVERY state `pre` of the
    response (a status preset by `process_request` / `process_resource` middleware or by the `response_type` initializer) -/
theorem answer_status_exact (pre : Resp) (r : Responder) :
    (answer pre r).status = match r with
      | .options _ => 200 | .notAllowed _ => 405 | .badRequest => 400 | .notFound => 404 | _ => pre.status := by
  cases r <;> rfl

/-- falcon's own answers do not depend on the status the response carried before -/
theorem answer_status_independent (pre pre' : Resp) (r : Responder) (h : r.isDefault = true) :
    (answer pre r).status = (answer pre' r).status := by
  cases r <;> first | rfl | (simp [Responder.isDefault] at h)

/-- the Allow header of the automatic OPTIONS answer and of the 405 answer is the responder's own list, whatever `Allow` value
    an earlier stage had put on the response; 400 and 404 leave the header alone -/
theorem answer_allow_exact (pre : Resp) (r : Responder) :
    (answer pre r).allow = match r with
      | .options al => some (", ".intercalate al) | .notAllowed al => some (", ".intercalate al) | _ => pre.allow := by
  cases r <;> rfl

/-- on a matched route whose resource has no `on_options`: OPTIONS is answered 200 with `Allow` = exactly the implemented HTTP
    methods (sorted, without WEBSOCKET), for every state of the response before -/
theorem options_answer_exact (mm : MethodMap) (pre : Resp) (h : mm.impl.contains "OPTIONS" = false) :
    answer pre (mm.lookup "OPTIONS") = { status := 200, allow := some (", ".intercalate mm.allowed) } := by
  unfold MethodMap.lookup
  rw [if_neg (by rw [h]; decide), if_pos (by decide)]
  rfl

/-- ... and a method of COMBINED_METHODS the resource does not implement is answered 405 with `Allow` = those methods plus OPTIONS -/
theorem not_allowed_answer_exact (mm : MethodMap) (pre : Resp) (m : Method)
    (h1 : mm.impl.contains m = false) (h2 : (m == "OPTIONS") = false) (h3 : mm.combined.contains m = true) :
    answer pre (mm.lookup m) = { status := 405, allow := some (", ".intercalate mm.allow405) } := by
  unfold MethodMap.lookup
  rw [if_neg (by rw [h1]; decide), if_neg (by rw [h2]; decide), if_pos h3]
  rfl

/-- a process_request middleware preset `501` and a bogus `Allow`: OPTIONS on a GET/PUT resource is still `200`, `Allow: GET, PUT` -/
example : answer { status := 501, allow := some "BOGUS" } (({ rid := 0, impl := ["PUT", "GET"], combined := ["GET", "PUT", "OPTIONS"] } : MethodMap).lookup "OPTIONS")
    = { status := 200, allow := some "GET, PUT" } := by decide +kernel

end Dp
