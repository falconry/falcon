import FalconModel.ErrBody
import FalconModel.ErrHandleProofs
/-! C04: the body sent after `_handle_exception` is the one the handler defines, never a stream or a server-sent events emitter
    attached before the raise. -/
namespace Eb
open Eh

theorem handleS_some_iff (reg : Reg) (beh : Handler → Beh) (sact : Handler → StreamAct) (eact : Handler → Option Nat) (mro : List Cls)
    (st : Nat) (x : RespS) :
    (handleS reg beh sact eact mro st x).isSome = (handle reg beh mro st x.r).isSome := by
  unfold handleS
  cases hf : find reg mro with
  | none => simp [handle, hf]
  | some h => cases hh : handle reg beh mro st x.r <;> simp

/-- `handleS` spelled out: the handler found, the `Eh.handle` result, the stream action, the emitter -/
theorem handleS_eq (reg : Reg) (beh : Handler → Beh) (sact : Handler → StreamAct) (eact : Handler → Option Nat) (mro : List Cls)
    (st : Nat) (x y : RespS) (h : handleS reg beh sact eact mro st x = some y) :
    ∃ hd, find reg mro = some hd ∧ handle reg beh mro st x.r = some y.r ∧ y.stream = applyAct (sact hd) x.stream ∧
      y.sse = (if behRaises (beh hd) then none else eact hd) := by
  unfold handleS at h
  cases hf : find reg mro with
  | none => simp [hf] at h
  | some hd =>
    cases hh : handle reg beh mro st x.r with
    | none => simp [hf, hh] at h
    | some r' => simp [hf, hh] at h; subst h; exact ⟨hd, rfl, rfl, rfl, rfl⟩

/-- the text / data / media part of `handleS` is `Eh.handle` -/
theorem handleS_resp (reg : Reg) (beh : Handler → Beh) (sact : Handler → StreamAct) (eact : Handler → Option Nat) (mro : List Cls)
    (st : Nat) (x y : RespS) (h : handleS reg beh sact eact mro st x = some y) : handle reg beh mro st x.r = some y.r := by
  obtain ⟨_, _, h2, _⟩ := handleS_eq _ _ _ _ _ _ _ _ h; exact h2

/-- **a body defined by the handler is what is sent** when no emitter is pending, whatever stream the response carries -/
theorem defined_body_is_sent (x : RespS) (b : Nat) (hs : x.sse = none) (hb : body x.r = some b) : sent x = some b := by
  simp [sent, hs, hb]

/-- **an emitter set before the raise is discarded** (fix 4582e3b): the result of `_handle_exception` does not depend on it, and what is
    pending afterwards can only be an emitter that the handler itself assigned before returning normally -/
theorem stale_sse_discarded (reg : Reg) (beh : Handler → Beh) (sact : Handler → StreamAct) (eact : Handler → Option Nat) (mro : List Cls)
    (st : Nat) (r : Resp) (s e e' : Option Nat) :
    handleS reg beh sact eact mro st ⟨r, s, e⟩ = handleS reg beh sact eact mro st ⟨r, s, e'⟩ :=
  rfl

/-- with handlers that do not assign `resp.sse`: nothing is pending afterwards, what is sent is the rendered body, else the stream -/
theorem no_sse_after (reg : Reg) (beh : Handler → Beh) (sact : Handler → StreamAct) (eact : Handler → Option Nat) (mro : List Cls)
    (st : Nat) (x y : RespS) (he : ∀ hd, eact hd = none) (h : handleS reg beh sact eact mro st x = some y) :
    y.sse = none ∧ sent y = (body y.r <|> y.stream) := by
  obtain ⟨hd, _, _, _, h4⟩ := handleS_eq _ _ _ _ _ _ _ _ h
  have : y.sse = none := by rw [h4, he]; simp
  simp [sent, this]

/-- **an emitter the handler assigned before RAISING is discarded** (fix 53e3725): the raised HTTPError / HTTPStatus is what is sent -/
theorem handler_raised_discards_its_sse (reg : Reg) (beh : Handler → Beh) (sact : Handler → StreamAct) (eact : Handler → Option Nat)
    (mro : List Cls) (st : Nat) (x y : RespS) (hd : Handler) (hf : find reg mro = some hd) (hr : behRaises (beh hd) = true)
    (h : handleS reg beh sact eact mro st x = some y) : y.sse = none ∧ ∃ b, sent y = some b ∧ (b = errBody ∨ b = statusText) := by
  obtain ⟨hd', hf', h2, _, h4⟩ := handleS_eq _ _ _ _ _ _ _ _ h
  rw [hf] at hf'; injection hf' with hf'; subst hf'
  have hs : y.sse = none := by rw [h4, hr]; simp
  refine ⟨hs, ?_⟩
  cases hb : beh hd <;> simp [hb, behRaises] at hr <;>
    · simp [handle, hf, hb, reset, composeError, composeStatus] at h2
      simp [sent, hs, body, ← h2, errBody, statusText]

/-- a handler that assigns its own emitter and returns: its events are what is sent (the response it defines) -/
theorem handler_sse_is_sent (reg : Reg) (beh : Handler → Beh) (sact : Handler → StreamAct) (eact : Handler → Option Nat)
    (mro : List Cls) (st : Nat) (x : RespS) (hd : Handler) (s t d m : Option Nat) (k : Nat) (hf : find reg mro = some hd)
    (hb : beh hd = .sets s t d m) (he : eact hd = some k) :
    (handleS reg beh sact eact mro st x).map sent = some (some k) := by
  simp [handleS, handle, hf, hb, he, behRaises, sent]

/-- **the stale stream / emitter never replaces the handler's body**: if the response produced by `_handle_exception` has a rendered
    body, what is sent does not depend on the stream, the emitter, or the text / data / media attached before the raise -/
theorem sent_independent_of_stale_stream (reg : Reg) (beh : Handler → Beh) (sact : Handler → StreamAct) (eact : Handler → Option Nat)
    (mro : List Cls) (st : Nat) (r : Resp) (s s' e e' : Option Nat) (t d m : Option Nat) (y : RespS)
    (h : handleS reg beh sact eact mro st ⟨r, s, e⟩ = some y) (hb : (body y.r).isSome) :
    ∃ y', handleS reg beh sact eact mro st ⟨{ r with text := t, data := d, media := m }, s', e'⟩ = some y' ∧ sent y' = sent y := by
  have h1 := handleS_resp _ _ _ _ _ _ _ _ h
  have h2 : handle reg beh mro st { r with text := t, data := d, media := m } = some y.r := by
    rw [body_reset_before_handler]; exact h1
  unfold handleS at h ⊢
  cases hf : find reg mro with
  | none => simp [hf] at h
  | some hd =>
    simp only [hf, h1, h2] at h ⊢
    refine ⟨_, rfl, ?_⟩
    injection h with h
    cases hbb : body y.r with
    | none => simp [hbb] at hb
    | some b =>
      rw [← h]; simp only [sent, hbb]
      cases (if behRaises (beh hd) then none else eact hd) <;> simp

section NoHandlerEmitter
variable (reg : Reg) (beh : Handler → Beh) (sact : Handler → StreamAct) (mro : List Cls) (st : Nat) (x : RespS) (h : Handler)

/-- default HTTPError handler: the serialized error is sent, whatever stream / emitter was attached before the raise -/
theorem default_http_sends_error_body (eact : Handler → Option Nat) (hf : find reg mro = some h) (hb : beh h = .defaultHttp) (he : eact h = none) :
    (handleS reg beh sact eact mro st x).map sent = some (some errBody) := by
  simp [handleS, handle, hf, hb, he, behRaises, reset, composeError, sent, body]

/-- default Exception handler: the serialized 500 is sent -/
theorem default_exception_sends_error_body (eact : Handler → Option Nat) (hf : find reg mro = some h) (hb : beh h = .defaultException) (he : eact h = none) :
    (handleS reg beh sact eact mro st x).map sent = some (some errBody) ∧ (handleS reg beh sact eact mro st x).map (·.r.status) = some 500 := by
  simp [handleS, handle, hf, hb, he, behRaises, reset, composeError, sent, body]

/-- default HTTPStatus handler (a status that carries a text): its text is sent -/
theorem default_status_sends_text (eact : Handler → Option Nat) (hf : find reg mro = some h) (hb : beh h = .defaultStatus) (he : eact h = none) :
    (handleS reg beh sact eact mro st x).map sent = some (some statusText) := by
  simp [handleS, handle, hf, hb, he, behRaises, reset, composeStatus, sent, body]

/-- an HTTPError raised by the handler (after assigning anything, a stream or an emitter included) is sent as the serialized error -/
theorem handler_raised_http_sends_error_body (eact : Handler → Option Nat) (t d m : Option Nat) (s : Nat) (hf : find reg mro = some h)
    (hb : beh h = .draftRaisesHttp t d m s ∨ beh h = .raisesHttp s) :
    (handleS reg beh sact eact mro st x).map sent = some (some errBody) := by
  rcases hb with hb | hb <;> simp [handleS, handle, hf, hb, behRaises, reset, composeError, sent, body]

theorem handler_raised_status_sends_text (eact : Handler → Option Nat) (t d m : Option Nat) (s : Nat) (hf : find reg mro = some h)
    (hb : beh h = .draftRaisesStatus t d m s ∨ beh h = .raisesStatus s) :
    (handleS reg beh sact eact mro st x).map sent = some (some statusText) := by
  rcases hb with hb | hb <;> simp [handleS, handle, hf, hb, behRaises, reset, composeStatus, sent, body]

/-- a handler that assigns text / data / media (and no emitter): that is sent (text before data before media) -/
theorem handler_set_body_is_sent (eact : Handler → Option Nat) (s t d m : Option Nat) (hf : find reg mro = some h) (hb : beh h = .sets s t d m)
    (he : eact h = none) (hne : (t <|> d <|> m).isSome) :
    (handleS reg beh sact eact mro st x).map sent = some (t <|> d <|> m) := by
  simp only [Option.orElse_eq_orElse, Option.orElse_eq_or] at hne
  simp [handleS, handle, hf, hb, he, behRaises, reset, sent, body, Option.or_of_isSome hne]

/-- a handler that attaches its own stream and no text / data / media: its stream is sent -/
theorem handler_stream_is_sent (eact : Handler → Option Nat) (s : Option Nat) (k : Nat) (hf : find reg mro = some h) (hb : beh h = .sets s none none none)
    (he : eact h = none) (ha : sact h = .set k) :
    (handleS reg beh sact eact mro st x).map sent = some (some k) := by
  simp [handleS, handle, hf, hb, he, ha, behRaises, reset, sent, body, applyAct]
end NoHandlerEmitter

/-- **exactly when the stale stream is sent**: the handler returned normally (or the response was composed) without any
    text / data / media and did not touch the stream -/
theorem stale_stream_sent_only_if_no_body (reg : Reg) (beh : Handler → Beh) (sact : Handler → StreamAct) (eact : Handler → Option Nat)
    (mro : List Cls) (st : Nat)
    (x y : RespS) (k : Nat) (hx : x.stream = some k) (h : handleS reg beh sact eact mro st x = some y)
    (hs : sent y = some k) (hfresh : ∀ hd, sact hd ≠ .set k) (hk : body y.r ≠ some k) (hke : y.sse ≠ some k) :
    body y.r = none ∧ ∃ hd, find reg mro = some hd ∧ sact hd = .keep := by
  obtain ⟨hd, hf, _, h3, _⟩ := handleS_eq _ _ _ _ _ _ _ _ h
  cases he : y.sse with
  | some e => simp [sent, he] at hs; subst hs; exact absurd he hke
  | none =>
    cases hb : body y.r with
    | some b => simp [sent, he, hb] at hs; subst hs; exact absurd hb hk
    | none =>
      refine ⟨rfl, hd, hf, ?_⟩
      simp [sent, he, hb, h3, hx] at hs
      cases ha : sact hd with
      | keep => rfl
      | set t => simp [ha, applyAct] at hs; subst hs; exact absurd ha (hfresh hd)
      | clear => simp [ha, applyAct] at hs

/-- without a stream and an emitter `sent` is `Eh.body` -/
theorem sent_no_stream (r : Resp) : sent ⟨r, none, none⟩ = body r := by
  simp [sent]

/-- witness for seeded change C04_11 (stream checked first): an HTTPError raised after a stream (token 6) was attached is answered
    with the stream by the changed order, with the serialized error by the real order -/
theorem stream_first_witness :
    (handleS [(2, 9002)] (fun _ => .defaultHttp) (fun _ => .keep) (fun _ => none) [1, 2] 403 ⟨⟨200, none, none, none⟩, some 6, none⟩).map sentStreamFirst = some (some 6)
    ∧ (handleS [(2, 9002)] (fun _ => .defaultHttp) (fun _ => .keep) (fun _ => none) [1, 2] 403 ⟨⟨200, none, none, none⟩, some 6, none⟩).map sent = some (some errBody) := by
  decide +kernel

/-- regression witness for fix 4582e3b: before it, an emitter (token 8) set before the raise was what the client received -/
theorem sse_pinned_witness :
    (handleSPinned [(2, 9002)] (fun _ => .defaultHttp) (fun _ => .keep) (fun _ => none) [1, 2] 403 ⟨⟨200, none, none, none⟩, none, some 8⟩).map sent = some (some 8)
    ∧ (handleS [(2, 9002)] (fun _ => .defaultHttp) (fun _ => .keep) (fun _ => none) [1, 2] 403 ⟨⟨200, none, none, none⟩, none, some 8⟩).map sent = some (some errBody) := by
  decide +kernel

/-- regression witness for fix 53e3725: before it, the emitter (token 10) a handler assigned before raising an HTTPError was sent -/
theorem handler_sse_pinned_witness :
    (handleSPinned2 [(1, 7)] (fun _ => .draftRaisesHttp none none none 410) (fun _ => .keep) (fun _ => some 10) [1] 0 ⟨⟨200, none, none, none⟩, none, none⟩).map sent = some (some 10)
    ∧ (handleS [(1, 7)] (fun _ => .draftRaisesHttp none none none 410) (fun _ => .keep) (fun _ => some 10) [1] 0 ⟨⟨200, none, none, none⟩, none, none⟩).map sent = some (some errBody) := by
  decide +kernel

example : (handleS [(4, 9001)] (fun _ => .defaultException) (fun _ => .keep) (fun _ => none) [1, 4, 5] 0 ⟨⟨200, some 9, none, some 9⟩, some 6, some 8⟩).map sent = some (some errBody) := by decide +kernel

end Eb
