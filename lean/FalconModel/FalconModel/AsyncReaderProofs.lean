import FalconModel.ReaderPublic
import FalconModel.AsyncReaderNested
import FalconModel.MultipartAsyncReaderProofs
/-! C14, async reader (`falcon/asgi/reader.py`): **every history of public operations of the model `ARd` (the one `ardriver`
    ties to the real class) refines the flat cursor `Rd.cursorRun`, for every chunking of the source.**

    `future r` is what `_iter_normalized` will still deliver (depends on where that generator is suspended), `abs r` =
    unread buffer ++ `future r` is the flat text still to come; `Good` is the representation invariant, `GI pc r` the invariant of
    a wrapper generator suspended at `pc`, `StepSpec` what one resumption of it has to establish.

    `ARd` has a concrete source (a list of chunks). It IS `Ma`'s transcription of the same file, which is generic in its chunk
    source, at the source `Ma.Raw`: every function of `ARd` commutes with the field-by-field translation `An.toMa` (`gstep_eq`,
    `readFrom_eq`, `peek_eq`, ..., `toMa_asyncStep`; `toMa_iterate` up to the `ValueError` only the generic model can report), which is a bijection (`ofMa_toMa`, `toMa_ofMa`) and carries
    every notion above to its namesake in `Ma` (`toMa_good`, `toMa_abs`, `toMa_total`, `toMa_GI`, `toMa_stepSpec`, `toMa_tell`,
    `toMa_eof`). So the theorems of MultipartAsyncReaderProofs.lean, proved there for every lawful chunk source, give the ones
    here: `step_spec`, one lemma per public operation (`asyncStep_refines`), the lift over histories
    (`async_history_refines_cursor`), iteration (`iterLoop_spec`, `iterate_refines`). Histories with iteration
    (`async_history_iter_refines_cursor`) are lifted here, by their own induction, from `asyncStep_refines` and `iterate_refines`. -/
namespace ARd
open Rd (Bytes slice sliceFrom sliceTo find occ stopAt)

/-- what `self._source` (= `_iter_normalized`) will still deliver, as one text -/
def future (r : AR) : Bytes :=
  match r.npc with
  | .running => r.pending ++ r.src.flatten
  | .yielded1 item => item ++ r.src.flatten
  | .yielded2 => []
  | .finished => []

/-- what a flat cursor would still return: the unread part of the buffer followed by what the source still delivers -/
def abs (r : AR) : Bytes := sliceFrom r.buf r.pos ++ future r

/-- representation invariant -/
structure Good (r : AR) : Prop where
  len_eq : r.len = r.buf.length
  pos_nonneg : 0 ≤ r.pos
  pos_le : r.pos ≤ r.len
  chunk_pos : 0 < r.chunk
  exh_iff : r.exhausted = true ↔ r.npc = .finished

/-- bound on the number of chunks `_iter_normalized` can still yield (+1) -/
def mu (r : AR) : Nat :=
  match r.npc with
  | .finished => 0
  | .yielded2 => 1
  | _ => r.src.length + 2

/-- number of bytes up to the first occurrence of `d` in `A` (all of `A` if there is none) -/
def U (d A : Bytes) : Nat := stopAt d A A.length

/-- **cross-chunk delimiter detection of `_iter_delimited`**: `b` is the buffered text (no complete occurrence of `d`), `c` the
    next chunk and `F` what follows; an occurrence that starts inside `b` is seen exactly by the search in
    `fragment = b[len(b)-(len(d)-1):] + c[:len(d)-1]` - provided `c` is a full chunk (`len(d) ≤ chunk_size ≤ len(c)`) or the last one -/
theorem straddle (d b c F : Bytes) (chunk : Int) (hd : d ≠ []) (hdc : (d.length : Int) ≤ chunk)
    (hc : chunk ≤ (c.length : Int) ∨ F = []) (hno : ∀ j, ¬ occ d b j) (j : Nat) (hj : j < b.length) :
    occ d (b ++ (c ++ F)) j ↔
      (b.length - (d.length - 1) ≤ j ∧ occ d (b.drop (b.length - (d.length - 1)) ++ c.take (d.length - 1)) (j - (b.length - (d.length - 1)))) := by
  exact Ma.straddle d b c F chunk hd hdc hc hno j hj

/-! ### the wrapper generators `_iter_with_buffer` / `_iter_delimited` -/

def total (r : AR) : Int := r.consumed + (future r).length

def isW : Pc → Bool
  | .wStart _ | .wAfterHint | .wSource => true
  | _ => false

/-- how many of the bytes still to come the generator at `pc` will hand out -/
def lim (pc : Pc) (A : Bytes) : Nat :=
  match pc with
  | .wStart _ | .wAfterHint | .wSource => A.length
  | .dStart d _ | .dFoundAfterHint d _ | .dPreLoop d | .dLoop d | .dAfterOutput d => U d A
  | .done => 0

def okDelim (chunk : Int) (d : Bytes) : Prop := d ≠ [] ∧ (d.length : Int) ≤ chunk

/-- generator invariant: what has to hold of the reader whenever the generator is suspended at `pc` -/
def GI (pc : Pc) (r : AR) : Prop :=
  Good r ∧ match pc with
  | .wStart _ | .wAfterHint | .done => True
  | .wSource => r.pos = r.len
  | .dStart d _ => okDelim r.chunk d
  | .dFoundAfterHint d p => okDelim r.chunk d ∧ r.pos ≤ p ∧ p ≤ r.len ∧ (p - r.pos).toNat = U d (abs r)
  | .dPreLoop d => okDelim r.chunk d ∧ ∀ j, r.pos.toNat ≤ j → ¬ occ d r.buf j
  | .dLoop d => okDelim r.chunk d ∧ r.pos = 0 ∧ ∀ j, ¬ occ d r.buf j
  | .dAfterOutput d => okDelim r.chunk d ∧ r.pos = 0

def weight (pc : Pc) (r : AR) : Nat :=
  match pc with
  | .done => 0
  | .wStart _ | .dStart _ _ => 2 * mu r + 3
  | .wAfterHint | .dPreLoop _ | .dAfterOutput _ => 2 * mu r + 2
  | .wSource | .dLoop _ | .dFoundAfterHint _ _ => 2 * mu r + 1

/-- one resumption of a wrapper generator: a `yield` hands out the next bytes of the flat text, within the generator's limit;
    `StopAsyncIteration` only when the limit is reached -/
def StepSpec (pc : Pc) (r : AR) : Y × Pc × AR → Prop
  | (.yield c, pc', r') => c = (abs r).take c.length ∧ abs r' = (abs r).drop c.length ∧
      c.length + lim pc' (abs r') = lim pc (abs r) ∧ GI pc' r' ∧ weight pc' r' < weight pc r ∧ total r' = total r ∧
      r'.chunk = r.chunk ∧ isW pc' = isW pc
  | (.stop, _, r') => lim pc (abs r) = 0 ∧ abs r' = abs r ∧ Good r' ∧ total r' = total r ∧ r'.chunk = r.chunk ∧
      (isW pc = true → r'.exhausted = true ∧ r'.pos = r'.len)
  | (.raiseValue, _, _) => False

theorem StepSpec.transfer {pc pc2 : Pc} {r r2 : AR} {x : Y × Pc × AR} (h : StepSpec pc2 r2 x) (ha : abs r2 = abs r)
    (hl : lim pc2 (abs r) = lim pc (abs r)) (hw : weight pc2 r2 ≤ weight pc r) (ht : total r2 = total r)
    (hc : r2.chunk = r.chunk) (hW : isW pc2 = isW pc) : StepSpec pc r x := by
  rcases x with ⟨y, pc', r'⟩
  cases y with
  | yield c =>
    obtain ⟨a1, a2, a3, a4, a5, a6, a7, a8⟩ := h
    rw [ha] at a1 a2 a3
    exact ⟨a1, a2, by rw [a3, hl], a4, by omega, by rw [a6, ht], by rw [a7, hc], by rw [a8, hW]⟩
  | stop =>
    obtain ⟨a1, a2, a3, a4, a5, a6⟩ := h
    rw [ha] at a1 a2
    exact ⟨by rw [← hl, a1], a2, a3, by rw [a4, ht], by rw [a5, hc], by rw [← hW]; exact a6⟩
  | raiseValue => exact h

/-- the modelled public operations of the async `BufferedReader` (exactly what `ardriver` executes) -/
inductive AOp where
  | read (size : Option Int)
  | readall
  | peek (size : Int)
  | readUntil (d : Bytes) (size : Option Int) (consume : Bool)
  | pipeUntil (d : Bytes) (consume : Bool)
  | pipe
  | exhaust

/-- the same operation of the flat cursor `Rd.cursorStep` (the specification shared with the sync reader); `readall()` = `read(None)` -/
def AOp.toPOp : AOp → Rd.POp
  | .read s => .read s
  | .readall => .read none
  | .peek n => .peek n
  | .readUntil d s c => .readUntil d s c
  | .pipeUntil d c => .pipeUntil d c
  | .pipe => .pipe
  | .exhaust => .exhaust

/-- argument conditions: delimiters are non-empty and no longer than the chunk size; sizes are arbitrary (`None` or any int) -/
def AOp.ok (chunk : Int) : AOp → Prop
  | .readUntil d _ _ => d ≠ [] ∧ (d.length : Int) ≤ chunk
  | .pipeUntil d _ => d ≠ [] ∧ (d.length : Int) ≤ chunk
  | _ => True

def resObs : Res → Rd.Obs
  | .ok b => .bytes b
  | .delimErr => .delimErr
  | .valueErr => .valueErr

/-- **the implementation**: one public operation of the reader model, as the driver runs it -/
def asyncStep (r : AR) : AOp → Rd.Obs × AR
  | .read s => let x := read r s; (resObs x.1, x.2)
  | .readall => let x := readall r; (resObs x.1, x.2)
  | .peek n => let x := peek r n; (.bytes x.1, x.2)
  | .readUntil d s c => let x := readUntil r d s c; (resObs x.1, x.2.1)
  | .pipeUntil d c => let x := pipeUntil r d c; (resObs x.1, x.2)
  | .pipe => let x := pipe r; (resObs x.1, x.2)
  | .exhaust => let x := pipe r; ((match x.1 with | .ok _ => .unit | e => resObs e), x.2)

def asyncRun : AR → List AOp → List Rd.Obs × AR
  | r, [] => ([], r)
  | r, op :: rest =>
    let (o, r1) := asyncStep r op
    let (os, r2) := asyncRun r1 rest
    (o :: os, r2)

/-- what one operation has to establish -/
def Refines (r : AR) (op : AOp) (x : Rd.Obs × AR) : Prop :=
  x.1 = (Rd.cursorStep r.chunk (abs r) op.toPOp).1 ∧ abs x.2 = (Rd.cursorStep r.chunk (abs r) op.toPOp).2 ∧
  Good x.2 ∧ x.2.chunk = r.chunk ∧ total x.2 = total r

end ARd

namespace An
open Rd (Bytes slice sliceFrom sliceTo find occ stopAt)
open Ma
open Mf (contentOf)
open Ma.LawfulASource (data left valid)

/-! ### `ARd` = `Ma.AR Raw` -/

def toItem : Option Bytes → Item
  | some c => .chunk c
  | none => .stop

def toPc : ARd.Pc → Ma.Pc
  | .wStart h => .wStart h
  | .wAfterHint => .wAfterHint
  | .wSource => .wSource
  | .dStart d h => .dStart d h
  | .dFoundAfterHint d p => .dFoundAfterHint d p
  | .dPreLoop d => .dPreLoop d
  | .dLoop d => .dLoop d
  | .dAfterOutput d => .dAfterOutput d
  | .done => .done

def toY : ARd.Y → Item
  | .yield b => .chunk b
  | .stop => .stop
  | .raiseValue => .raiseValue

def toRes : ARd.Res → Rd.Res
  | .ok b => .ok b
  | .delimErr => .delimErr
  | .valueErr => .valueErr

theorem toMa_mk (buf : Bytes) (len pos chunk consumed : Int) (exh : Bool) (pending : Bytes) (src : List Bytes) (npc : ARd.NormPc) :
    toMa ⟨buf, len, pos, chunk, consumed, exh, pending, src, npc⟩ = ⟨buf, len, pos, chunk, consumed, exh, pending, toNpc npc, ⟨src⟩⟩ := rfl

theorem normLoop_eq : ∀ (fuel : Nat) (r : ARd.AR),
    Ma.normLoop fuel (toMa r) = (toItem (ARd.normLoop fuel r).1, toMa (ARd.normLoop fuel r).2) := by
  intro fuel
  induction fuel with
  | zero => intro r; rfl
  | succ f ih =>
    intro r
    rcases r with ⟨buf, len, pos, chunk, consumed, exh, pending, src, npc⟩
    cases src with
    | nil =>
      dsimp only [ARd.normLoop, Ma.normLoop, toMa_mk, ASource.anext]
      by_cases h : (!pending.isEmpty) = true
      · simp only [h, ↓reduceIte]; rfl
      · simp only [h]; rfl
    | cons item rest =>
      dsimp only [ARd.normLoop, Ma.normLoop, toMa_mk, ASource.anext]
      by_cases h : (pending.length : Int) ≥ chunk
      · simp only [h, ↓reduceIte]; rfl
      · simp only [h, ↓reduceIte]
        exact ih ⟨buf, len, pos, chunk, consumed, exh, pending ++ item, rest, npc⟩

theorem nextNorm_eq (r : ARd.AR) : Ma.nextNorm (toMa r) = (toItem (ARd.nextNorm r).1, toMa (ARd.nextNorm r).2) := by
  rcases r with ⟨buf, len, pos, chunk, consumed, exh, pending, src, npc⟩
  cases npc with
  | finished => rfl
  | yielded2 => rfl
  | yielded1 item => exact normLoop_eq (src.length + 1) ⟨buf, len, pos, chunk, consumed, exh, item, src, .running⟩
  | running => exact normLoop_eq (src.length + 1) ⟨buf, len, pos, chunk, consumed, exh, pending, src, .running⟩

def toOut (x : ARd.Y × ARd.Pc × ARd.AR) : Item × Ma.Pc × AR Raw := (toY x.1, toPc x.2.1, toMa x.2.2)

theorem dCheck_eq (d : Bytes) (r : ARd.AR) : Ma.dCheckBuffer d (toMa r) = (ARd.dCheckBuffer d r).map toOut := by
  simp only [Ma.dCheckBuffer, ARd.dCheckBuffer, apply_ite (Option.map toOut)]
  rfl

theorem trim_eq (r : ARd.AR) : Ma.trimBuffer (toMa r) = toMa (ARd.trimBuffer r) := rfl

theorem trimIf_eq (r : ARd.AR) :
    (if (toMa r).pos > 0 then Ma.trimBuffer (toMa r) else toMa r) = toMa (if r.pos > 0 then ARd.trimBuffer r else r) :=
  (apply_ite toMa (r.pos > 0) (ARd.trimBuffer r) r).symm

theorem gstep_eq : ∀ (fuel : Nat) (pc : ARd.Pc) (r : ARd.AR),
    Ma.gstep fuel (toPc pc) (toMa r) = toOut (ARd.step fuel pc r) := by
  intro fuel
  induction fuel with
  | zero => intro pc r; rfl
  | succ f ih =>
    have after : ∀ d r, Ma.gstep (f + 1) (.dAfterOutput d) (toMa r) = toOut (ARd.step (f + 1) (.dAfterOutput d) r) := by
      intro d r
      dsimp only [Ma.gstep, ARd.step]
      rw [dCheck_eq]
      cases ARd.dCheckBuffer d r with
      | some out => rfl
      | none => exact ih (.dLoop d) r
    intro pc r
    cases pc with
    | done => rfl
    | wAfterHint => rfl
    | dFoundAfterHint d p => rfl
    | wStart hint =>
      dsimp only [toPc, Ma.gstep, ARd.step]
      simp only [apply_ite toOut, ← ih]
      rfl
    | wSource =>
      dsimp only [toPc, Ma.gstep, ARd.step]
      rw [nextNorm_eq]
      rcases ARd.nextNorm r with ⟨o, r'⟩
      cases o <;> rfl
    | dPreLoop d =>
      dsimp only [toPc, Ma.gstep, ARd.step]
      rw [trimIf_eq]
      exact ih (.dLoop d) _
    | dAfterOutput d => exact after d r
    | dStart d hint =>
      dsimp only [toPc, Ma.gstep, ARd.step]
      simp only [apply_ite toOut, ← ih]
      rfl
    | dLoop d =>
      dsimp only [toPc, Ma.gstep, ARd.step]
      rw [nextNorm_eq]
      rcases ARd.nextNorm r with ⟨o, r'⟩
      cases o with
      | none => rfl
      | some c =>
        rcases r' with ⟨buf, len, pos, chunk, consumed, exh, pending, src, npc⟩
        simp only [toItem, toMa_mk, apply_ite toOut]
        refine ite_congr rfl (fun _ => rfl) (fun _ => ?_)
        -- once the chunk is merged into the buffer, the loop body continues exactly as a resumption at `dAfterOutput`
        by_cases h3 : (!buf.isEmpty) = true
        · simp only [h3, ↓reduceIte]
          exact after d ⟨buf ++ c, len + c.length, pos, chunk, consumed, exh, pending, src, npc⟩
        · simp only [h3, Bool.false_eq_true, ↓reduceIte]
          exact after d ⟨c, c.length, pos, chunk, consumed, exh, pending, src, npc⟩

theorem fuelOf_eq (r : ARd.AR) : Ma.fuelOf (toMa r) = ARd.fuelOf r := rfl
theorem bigFuel_eq (r : ARd.AR) : Ma.bigFuel (toMa r) = 4 * (r.src.length + 4) := rfl

theorem readAll_eq : ∀ (fuel : Nat) (pc : ARd.Pc) (r : ARd.AR) (acc : Bytes),
    Ma.readAll fuel (toPc pc) (toMa r) acc = (toRes (ARd.readAll fuel pc r acc).1, toMa (ARd.readAll fuel pc r acc).2) := by
  intro fuel
  induction fuel with
  | zero => intro pc r acc; rfl
  | succ f ih =>
    intro pc r acc
    dsimp only [Ma.readAll, ARd.readAll]
    rw [fuelOf_eq, gstep_eq]
    rcases ARd.step (ARd.fuelOf r) pc r with ⟨y, pc', r1⟩
    cases y with
    | yield c => exact ih pc' r1 _
    | stop => rfl
    | raiseValue => rfl

theorem prepend_eq (r : ARd.AR) (c : Bytes) : Ma.prependBuffer (toMa r) c = toMa (ARd.prependBuffer r c) := by
  simp only [Ma.prependBuffer, ARd.prependBuffer, apply_ite toMa]
  rfl

theorem readN_eq : ∀ (fuel : Nat) (pc : ARd.Pc) (r : ARd.AR) (rem : Int) (acc : Bytes),
    Ma.readN fuel (toPc pc) (toMa r) rem acc = (toRes (ARd.readN fuel pc r rem acc).1, toMa (ARd.readN fuel pc r rem acc).2) := by
  intro fuel
  induction fuel with
  | zero => intro pc r rem acc; rfl
  | succ f ih =>
    intro pc r rem acc
    dsimp only [Ma.readN, ARd.readN]
    rw [fuelOf_eq, gstep_eq]
    rcases ARd.step (ARd.fuelOf r) pc r with ⟨y, pc', r1⟩
    cases y with
    | yield c =>
      simp only [toOut, toY]
      by_cases h1 : rem < (c.length : Int)
      · simp only [h1, ↓reduceIte, prepend_eq]; rfl
      · simp only [h1, ↓reduceIte]
        by_cases h2 : (rem - (c.length : Int) == 0) = true
        · simp only [h2, ↓reduceIte]; rfl
        · simp only [h2, Bool.false_eq_true, ↓reduceIte]
          exact ih pc' r1 _ _
    | stop => rfl
    | raiseValue => rfl

theorem readFrom_eq (pc : ARd.Pc) (r : ARd.AR) (size : Option Int) :
    Ma.readFrom (toPc pc) (toMa r) size = (toRes (ARd.readFrom pc r size).1, toMa (ARd.readFrom pc r size).2) := by
  cases size with
  | none => exact readAll_eq _ _ _ _
  | some s =>
    dsimp only [Ma.readFrom, ARd.readFrom, bigFuel_eq]
    by_cases h1 : (s == -1) = true
    · simp only [h1, ↓reduceIte]; exact readAll_eq _ _ _ _
    · simp only [h1, Bool.false_eq_true, ↓reduceIte]
      by_cases h2 : s ≤ 0
      · simp only [h2, ↓reduceIte]; rfl
      · simp only [h2, ↓reduceIte]; exact readN_eq _ _ _ _ _

theorem peekLoop_eq : ∀ (fuel : Nat) (r : ARd.AR) (size : Int),
    Ma.peekLoop fuel (toMa r) size = (.ok (sliceTo (ARd.peekLoop fuel r size).buf size), toMa (ARd.peekLoop fuel r size)) := by
  intro fuel
  induction fuel with
  | zero => intro r size; rfl
  | succ f ih =>
    intro r size
    dsimp only [Ma.peekLoop, ARd.peekLoop]
    rw [nextNorm_eq]
    rcases ARd.nextNorm r with ⟨o, r'⟩
    cases o with
    | none => rfl
    | some c =>
      rcases r' with ⟨buf, len, pos, chunk, consumed, exh, pending, src, npc⟩
      simp only [toItem, toMa_mk]
      by_cases h : ((buf ++ c).length : Int) ≥ size
      · simp only [h, ↓reduceIte]; rfl
      · simp only [h, ↓reduceIte]
        exact ih ⟨buf ++ c, (buf ++ c).length, pos, chunk, consumed, exh, pending, src, npc⟩ size

theorem peek_eq (r : ARd.AR) (size : Int) : Ma.peek (toMa r) size = (.ok (ARd.peek r size).1, toMa (ARd.peek r size).2) := by
  unfold Ma.peek ARd.peek
  simp only [trimIf_eq, peekLoop_eq]
  exact (apply_ite (fun x : ARd.AR => (Rd.Res.ok (sliceTo x.buf _), toMa x)) _ _ _).symm

theorem consume_eq (b : Bytes) (r : ARd.AR) (d : Bytes) :
    Ma.consumeDelimiter b (toMa r) d =
      match ARd.consumeDelimiter r d with
      | some r' => (.ok b, toMa r')
      | none => (.delimErr, toMa (ARd.peek r d.length).2) := by
  unfold Ma.consumeDelimiter ARd.consumeDelimiter
  rw [peek_eq]
  rcases ARd.peek r d.length with ⟨p, r1⟩
  simp only
  by_cases h : (p != d) = true
  · simp only [h, ↓reduceIte]
  · simp only [h, Bool.false_eq_true, ↓reduceIte]; rfl

def toMaOp : ARd.AOp → Ma.AOp
  | .read s => .read s
  | .readall => .readall
  | .peek n => .peek n
  | .readUntil d s c => .readUntil d s c
  | .pipeUntil d c => .pipeUntil d c
  | .pipe => .pipe
  | .exhaust => .exhaust

theorem toObs_toRes (x : ARd.Res) : (Ma.resObs (toRes x)).toObs = ARd.resObs x := by cases x <;> rfl

theorem read_eq (r : ARd.AR) (s : Option Int) : Ma.read (toMa r) s = (toRes (ARd.read r s).1, toMa (ARd.read r s).2) :=
  readFrom_eq (.wStart (ARd.hintOf s)) r s

theorem readall_eq (r : ARd.AR) : Ma.readall (toMa r) = (toRes (ARd.readall r).1, toMa (ARd.readall r).2) :=
  readFrom_eq (.wStart 0) r none

theorem pipe_eq (r : ARd.AR) : Ma.pipe (toMa r) = (toRes (ARd.pipe r).1, toMa (ARd.pipe r).2) :=
  readAll_eq _ (.wStart 0) r []

theorem readUntil_eq (r : ARd.AR) (d : Bytes) (s : Option Int) (c : Bool) :
    Ma.readUntil (toMa r) d s c = (toRes (ARd.readUntil r d s c).1, toMa (ARd.readUntil r d s c).2.1) := by
  unfold Ma.readUntil ARd.readUntil
  have h : Ma.readFrom (.dStart d (Ma.hintOf s)) (toMa r) s = _ := readFrom_eq (.dStart d (ARd.hintOf s)) r s
  rw [h]
  rcases ARd.readFrom (.dStart d (ARd.hintOf s)) r s with ⟨res, r1⟩
  cases res with
  | ok b =>
    simp only [toRes]
    cases c with
    | false => rfl
    | true =>
      simp only [↓reduceIte, consume_eq]
      cases ARd.consumeDelimiter r1 d with
      | some r2 => rfl
      | none => rfl
  | delimErr => rfl
  | valueErr => rfl

theorem pipeUntil_eq (r : ARd.AR) (d : Bytes) (c : Bool) :
    Ma.pipeUntil (toMa r) d c = (toRes (ARd.pipeUntil r d c).1, toMa (ARd.pipeUntil r d c).2) := by
  unfold Ma.pipeUntil ARd.pipeUntil
  have h : Ma.readAll _ (.dStart d 0) (toMa r) [] = _ := readAll_eq (4 * (r.src.length + 4)) (.dStart d 0) r []
  rw [bigFuel_eq, h]
  rcases ARd.readAll (4 * (r.src.length + 4)) (.dStart d 0) r [] with ⟨res, r1⟩
  cases res with
  | ok b =>
    simp only [toRes]
    cases c with
    | false => rfl
    | true =>
      simp only [↓reduceIte, consume_eq]
      cases ARd.consumeDelimiter r1 d with
      | some r2 => rfl
      | none => rfl
  | delimErr => rfl
  | valueErr => rfl

/-- **`ARd` is `Ma`'s generic reader at the concrete source**: every public operation of the root model `ARd` (the one `ardriver`
    runs at level 0) is the same operation of `Ma.AR Raw` under the field-by-field translation `toMa` -/
theorem toMa_asyncStep (r : ARd.AR) (op : ARd.AOp) :
    (Ma.arStep (toMa r) (toMaOp op)).1.toObs = (ARd.asyncStep r op).1 ∧
    (Ma.arStep (toMa r) (toMaOp op)).2 = toMa (ARd.asyncStep r op).2 := by
  cases op with
  | peek n => simp only [toMaOp, Ma.arStep, ARd.asyncStep, peek_eq]; exact ⟨rfl, trivial⟩
  | exhaust =>
    simp only [toMaOp, Ma.arStep, ARd.asyncStep, pipe_eq]
    refine ⟨?_, trivial⟩
    cases (ARd.pipe r).1 <;> rfl
  | _ =>
    simp only [toMaOp, Ma.arStep, ARd.asyncStep, read_eq, readall_eq, readUntil_eq, pipeUntil_eq, pipe_eq, toObs_toRes]
    exact ⟨trivial, trivial⟩

theorem toMa_asyncRun (ops : List ARd.AOp) : ∀ (r : ARd.AR),
    (Ma.arRun (toMa r) (ops.map toMaOp)).1.map AObs.toObs = (ARd.asyncRun r ops).1 ∧
    (Ma.arRun (toMa r) (ops.map toMaOp)).2 = toMa (ARd.asyncRun r ops).2 := by
  induction ops with
  | nil => intro r; exact ⟨rfl, rfl⟩
  | cons op rest ih =>
    intro r
    obtain ⟨a, b⟩ := toMa_asyncStep r op
    obtain ⟨i1, i2⟩ := ih (ARd.asyncStep r op).2
    simp only [List.map_cons, Ma.arRun, b, ARd.asyncRun]
    exact ⟨by rw [a, i1], i2⟩

theorem ofMa_toMa (r : ARd.AR) : ofMa (toMa r) = r := by
  rcases r with ⟨buf, len, pos, chunk, consumed, exh, pending, src, npc⟩
  cases npc <;> rfl

theorem toMa_ofMa (m : AR Raw) : toMa (ofMa m) = m := by
  rcases m with ⟨buf, len, pos, chunk, consumed, exh, pending, npc, ⟨src⟩⟩
  cases npc <;> rfl

theorem toMa_tell (r : ARd.AR) : Ma.tell (toMa r) = ARd.tell r := rfl
theorem toMa_eof (r : ARd.AR) : Ma.eof (toMa r) = ARd.eof r := rfl

theorem toMa_future (r : ARd.AR) : Ma.future (toMa r) = ARd.future r := by
  rcases r with ⟨buf, len, pos, chunk, consumed, exh, pending, src, npc⟩
  cases npc <;> rfl

theorem toMa_abs (r : ARd.AR) : Ma.absA (toMa r) = ARd.abs r := by
  unfold Ma.absA ARd.abs; rw [toMa_future]; rfl

theorem toMa_total (r : ARd.AR) : Ma.total (toMa r) = ARd.total r := by
  unfold Ma.total ARd.total; rw [toMa_future]; rfl

theorem toMa_good (r : ARd.AR) : Ma.Good (toMa r) ↔ ARd.Good r := by
  have hn : (toMa r).npc = .finished ↔ r.npc = .finished := by
    show toNpc r.npc = .finished ↔ _
    cases r.npc <;> simp [toNpc]
  constructor
  · intro h
    exact ⟨h.len_eq, h.pos_nonneg, h.pos_le, h.chunk_pos, h.exh_iff.trans hn⟩
  · intro h
    exact ⟨h.len_eq, h.pos_nonneg, h.pos_le, h.chunk_pos, h.exh_iff.trans hn.symm, trivial⟩

theorem iterLoop_eq : ∀ (k : Nat) (pc : ARd.Pc) (r : ARd.AR) (acc : List Bytes),
    iterLoop k (toPc pc) (toMa r) acc = (some (ARi.iterLoop k pc r acc).1, toMa (ARi.iterLoop k pc r acc).2) ∨
    (iterLoop k (toPc pc) (toMa r) acc).1 = none := by
  intro k
  induction k with
  | zero => intro pc r acc; left; rfl
  | succ k ih =>
    intro pc r acc
    dsimp only [iterLoop, ARi.iterLoop]
    rw [fuelOf_eq, gstep_eq]
    rcases ARd.step (ARd.fuelOf r) pc r with ⟨y, pc', r1⟩
    cases y with
    | yield c => exact ih pc' r1 _
    | stop => left; rfl
    | raiseValue => right; rfl

theorem aiterPc_eq (r : ARd.AR) : aiterPc (toMa r) = toPc (ARi.aiterPc r) :=
  (apply_ite toPc (r.len > r.pos) (.wStart 0) .wSource).symm

/-- iteration of the root reader: the same chunks and the same state, unless the generic model reports a `ValueError` (which
    `ARi.iterate` does not model; it cannot happen in a state satisfying the invariant - `iterate_refines`) -/
theorem toMa_iterate (r : ARd.AR) (k : Nat) :
    iterate (toMa r) k = (some (ARi.iterate r k).1, toMa (ARi.iterate r k).2) ∨ (iterate (toMa r) k).1 = none := by
  unfold iterate ARi.iterate
  rw [aiterPc_eq]
  exact iterLoop_eq k _ r []

/-! ### iteration (`__aiter__` + `async for`, abandoned after `k` chunks), any lawful source -/

section generic2
variable {σ : Type} [ASource σ] [LawfulASource σ]

theorem lim_isW (pc : Pc) (A : Bytes) (h : isW pc = true) : lim pc A = A.length := by
  cases pc <;> simp [isW] at h <;> rfl

theorem iterLoop_spec : ∀ (k : Nat) (pc : Pc) (r : AR σ) (acc : List Bytes), GI pc r → isW pc = true →
    ∃ out, (iterLoop k pc r acc).1 = some (acc ++ out) ∧ out.flatten = (absA r).take out.flatten.length ∧
      absA (iterLoop k pc r acc).2 = (absA r).drop out.flatten.length ∧ out.length ≤ k ∧
      (out.length = k ∨ absA (iterLoop k pc r acc).2 = []) ∧ Good (iterLoop k pc r acc).2 ∧
      total (iterLoop k pc r acc).2 = total r ∧ (iterLoop k pc r acc).2.chunk = r.chunk := by
  intro k
  induction k with
  | zero =>
    intro pc r acc hgi _
    exact ⟨[], by rw [List.append_nil]; rfl, rfl, rfl, Nat.le_refl _, Or.inl rfl, hgi.1, rfl, rfl⟩
  | succ k ih =>
    intro pc r acc hgi hW
    have hs := step_fuelOf pc r hgi
    simp only [iterLoop]
    rcases hx : gstep (fuelOf r) pc r with ⟨y, pc', r1⟩
    rw [hx] at hs
    cases y with
    | chunk c =>
      obtain ⟨a1, a2, a3, a4, a5, a6, a7, a8⟩ := hs
      obtain ⟨out, e1, e2, e3, e4, e5, e6, e7, e8⟩ := ih pc' r1 (acc ++ [c]) a4 (a8.trans hW)
      refine ⟨c :: out, by rw [e1, List.append_assoc]; rfl, ?_, ?_, Nat.succ_le_succ e4, e5.imp (congrArg Nat.succ) id,
        e6, e7.trans a6, e8.trans a7⟩
      · simp only [List.flatten_cons, List.length_append]
        rw [List.take_add, ← a1, ← a2, ← e2]
      · simp only [List.flatten_cons, List.length_append]
        rw [e3, a2, List.drop_drop]
    | stop =>
      obtain ⟨a1, a2, a3, a4, a5, a6⟩ := hs
      rw [lim_isW pc _ hW] at a1
      have hA : absA r = [] := List.eq_nil_of_length_eq_zero a1
      exact ⟨[], by rw [List.append_nil], rfl, a2, Nat.zero_le _, Or.inr (a2.trans hA), a3, a4, a5⟩
    | raiseValue => exact absurd hs id

/-- **iteration of a reader over any lawful chunk source refines the flat cursor** -/
theorem iterate_refines (r : AR σ) (k : Nat) (hg : Good r) :
    ∃ cs, (iterate r k).1 = some cs ∧
    cs.flatten = (absA r).take cs.flatten.length ∧ absA (iterate r k).2 = (absA r).drop cs.flatten.length ∧
    cs.length ≤ k ∧ (cs.length = k ∨ absA (iterate r k).2 = []) ∧ Good (iterate r k).2 ∧
    total (iterate r k).2 = total r ∧ (iterate r k).2.chunk = r.chunk := by
  have hgi : GI (aiterPc r) r ∧ isW (aiterPc r) = true := by
    unfold aiterPc
    by_cases h : r.len > r.pos
    · rw [if_pos h]; exact ⟨⟨hg, trivial⟩, rfl⟩
    · rw [if_neg h]; exact ⟨⟨hg, by show r.pos = r.len; have := hg.pos_le; omega⟩, rfl⟩
  exact iterLoop_spec k _ r [] hgi.1 hgi.2

end generic2

/-! ### the invariants and specifications of `ARd` are those of `Ma` -/

theorem toMa_mu (r : ARd.AR) : Ma.mu (toMa r) = ARd.mu r := by
  rcases r with ⟨buf, len, pos, chunk, consumed, exh, pending, src, npc⟩
  cases npc <;> rfl

theorem toMa_lim (pc : ARd.Pc) (A : Bytes) : Ma.lim (toPc pc) A = ARd.lim pc A := by cases pc <;> rfl

theorem toMa_isW (pc : ARd.Pc) : Ma.isW (toPc pc) = ARd.isW pc := by cases pc <;> rfl

theorem toMa_weight (pc : ARd.Pc) (r : ARd.AR) : Ma.weight (toPc pc) (toMa r) = ARd.weight pc r := by
  cases pc <;> simp only [toPc, Ma.weight, ARd.weight, toMa_mu]

theorem toMa_GI (pc : ARd.Pc) (r : ARd.AR) : Ma.GI (toPc pc) (toMa r) ↔ ARd.GI pc r := by
  refine and_congr (toMa_good r) ?_
  cases pc with
  | dFoundAfterHint d p =>
    show (_ ∧ _ ∧ _ ∧ _ = Ma.U d (Ma.absA (toMa r))) ↔ _
    rw [toMa_abs]; exact Iff.rfl
  | _ => exact Iff.rfl

theorem toMa_stepSpec {pc : ARd.Pc} {r : ARd.AR} {x : ARd.Y × ARd.Pc × ARd.AR}
    (h : Ma.StepSpec (toPc pc) (toMa r) (toOut x)) : ARd.StepSpec pc r x := by
  rcases x with ⟨y, pc', r'⟩
  cases y with
  | yield c =>
    simp only [Ma.StepSpec, toOut, toY, toMa_abs, toMa_lim, toMa_GI, toMa_weight, toMa_total, toMa_isW] at h
    exact h
  | stop =>
    simp only [Ma.StepSpec, toOut, toY, toMa_abs, toMa_lim, toMa_good, toMa_total, toMa_isW] at h
    obtain ⟨a1, a2, a3, a4, a5, _, a6⟩ := h
    exact ⟨a1, a2, a3, a4, a5, a6⟩
  | raiseValue => exact h

theorem toMaOp_toP (op : ARd.AOp) : (toMaOp op).toP = op.toPOp := by cases op <;> rfl

theorem toMaOp_ok (chunk : Int) (op : ARd.AOp) (h : op.ok chunk) : (toMaOp op).okA chunk := by
  cases op <;> exact h

end An

namespace ARd
open Rd (Bytes slice sliceFrom sliceTo find occ stopAt)

/-- **one resumption of either wrapper generator**, at any program counter, from any state satisfying the generator invariant -/
theorem step_spec (fuel : Nat) (pc : Pc) (r : AR) (hgi : GI pc r) (hf : mu r + 3 ≤ fuel) : StepSpec pc r (step fuel pc r) := by
  apply An.toMa_stepSpec
  rw [← An.gstep_eq]
  exact Ma.step_spec fuel _ _ ((An.toMa_GI pc r).mpr hgi) (by rw [An.toMa_mu]; exact hf)

/-- **one public operation of the async reader = one step of the flat cursor** (same observation, same remaining text),
    for every chunking still to come (`r.src`, `r.pending`, the suspended `_iter_normalized`) and every buffer state -/
theorem asyncStep_refines (r : AR) (op : AOp) (hg : Good r) (hok : op.ok r.chunk) : Refines r op (asyncStep r op) := by
  obtain ⟨a, b⟩ := An.toMa_asyncStep r op
  have h := Ma.arStep_refines (An.toMa r) (An.toMaOp op) ((An.toMa_good r).mpr hg) (An.toMaOp_ok _ op hok)
  rw [Ma.Refines, a, b, An.toMaOp_toP, An.toMa_abs, An.toMa_abs, An.toMa_good, An.toMa_total, An.toMa_total] at h
  exact h

/-- `asyncStep_refines` operation by operation -/
theorem read_refines (r : AR) (s : Option Int) (hg : Good r) : Refines r (.read s) (asyncStep r (.read s)) :=
  asyncStep_refines r _ hg trivial

theorem readall_refines (r : AR) (hg : Good r) : Refines r .readall (asyncStep r .readall) :=
  asyncStep_refines r _ hg trivial

theorem peek_refines (r : AR) (n : Int) (hg : Good r) : Refines r (.peek n) (asyncStep r (.peek n)) :=
  asyncStep_refines r _ hg trivial

theorem pipe_refines (r : AR) (hg : Good r) : Refines r .pipe (asyncStep r .pipe) :=
  asyncStep_refines r _ hg trivial

theorem exhaust_refines (r : AR) (hg : Good r) : Refines r .exhaust (asyncStep r .exhaust) :=
  asyncStep_refines r _ hg trivial

theorem readUntil_refines (r : AR) (d : Bytes) (s : Option Int) (c : Bool) (hg : Good r) (hd : d ≠ []) (hdc : (d.length : Int) ≤ r.chunk) :
    Refines r (.readUntil d s c) (asyncStep r (.readUntil d s c)) :=
  asyncStep_refines r _ hg ⟨hd, hdc⟩

theorem pipeUntil_refines (r : AR) (d : Bytes) (c : Bool) (hg : Good r) (hd : d ≠ []) (hdc : (d.length : Int) ≤ r.chunk) :
    Refines r (.pipeUntil d c) (asyncStep r (.pipeUntil d c)) :=
  asyncStep_refines r _ hg ⟨hd, hdc⟩

/-- **C14 for the async reader, every history.** From every reader state satisfying the representation invariant - any buffer
    contents and position, any list of source chunks still to come (empty chunks anywhere), `_iter_normalized` suspended at any
    of its yields - every history of public operations with valid delimiters returns, operation by operation, what the flat
    cursor `Rd.cursorRun` returns on the text still to come, leaves exactly the cursor's rest, and keeps `consumed + future`
    (hence `tell() + len(rest)`) constant. -/
theorem async_history_refines_cursor (ops : List AOp) : ∀ (r : AR), Good r → (∀ op ∈ ops, op.ok r.chunk) →
    (asyncRun r ops).1 = (Rd.cursorRun r.chunk (abs r) (ops.map AOp.toPOp)).1 ∧
    abs (asyncRun r ops).2 = (Rd.cursorRun r.chunk (abs r) (ops.map AOp.toPOp)).2 ∧
    Good (asyncRun r ops).2 ∧ (asyncRun r ops).2.chunk = r.chunk ∧ total (asyncRun r ops).2 = total r := by
  intro r hg hok
  obtain ⟨a, b⟩ := An.toMa_asyncRun ops r
  have h := Ma.ar_history_refines_cursor (ops.map An.toMaOp) (An.toMa r) ((An.toMa_good r).mpr hg)
    (fun op h => by obtain ⟨o, ho, rfl⟩ := List.mem_map.mp h; exact An.toMaOp_ok _ o (hok o ho))
  have hm : (ops.map An.toMaOp).map Ma.AOp.toP = ops.map AOp.toPOp := by
    rw [List.map_map]; exact List.map_congr_left (fun o _ => An.toMaOp_toP o)
  rw [a, b, hm, An.toMa_abs, An.toMa_abs, An.toMa_good, An.toMa_total, An.toMa_total] at h
  exact h

theorem tell_total (r : AR) (hg : Good r) : tell r + (abs r).length = total r := by
  have := Ma.tell_eq (An.toMa r) ((An.toMa_good r).mpr hg)
  rw [An.toMa_tell, An.toMa_total, An.toMa_abs] at this
  omega

/-- `eof` is reported only at the end of the flat text -/
theorem eof_end (r : AR) (hg : Good r) (h : eof r = true) : abs r = [] := by
  rw [← An.toMa_abs]
  exact Ma.eof_rest _ ((An.toMa_good r).mpr hg) (by rw [An.toMa_eof]; exact h)

/-- ... and is reported once `readall()` / `read(None)` / `read(-1)` / `pipe()` / `exhaust()` has run into the end -/
theorem eof_after_drain (r : AR) (hg : Good r) :
    eof (asyncStep r .readall).2 = true ∧ eof (asyncStep r .pipe).2 = true ∧ eof (asyncStep r .exhaust).2 = true ∧
    eof (asyncStep r (.read none)).2 = true ∧ eof (asyncStep r (.read (some (-1)))).2 = true := by
  have key : ∀ h, eof (readAll (4 * (r.src.length + 4)) (.wStart h) r []).2 = true := by
    intro h
    have e := Ma.readAll_eof (An.toPc (.wStart h)) (An.toMa r) ⟨(An.toMa_good r).mpr hg, trivial⟩ rfl
    rw [An.bigFuel_eq, An.readAll_eq, An.toMa_eof] at e
    exact e
  exact ⟨key 0, key 0, key 0, key 0, key (-1)⟩

/-- a freshly constructed reader `BufferedReader(source, chunk_size)`: the text still to come is the concatenation of all
    source chunks, the position is 0 -/
theorem fresh_async (chunk : Int) (parts : List Bytes) (hc : 0 < chunk) :
    let r : AR := { chunk := chunk, src := parts }
    Good r ∧ abs r = parts.flatten ∧ tell r = 0 := by
  intro r
  obtain ⟨g, e, _⟩ := Ma.fresh_good parts chunk hc
  exact ⟨(An.toMa_good r).mp g, (An.toMa_abs r).symm.trans e, rfl⟩

theorem tell_fresh (chunk : Int) (parts : List Bytes) (hc : 0 < chunk) (r : AR) (hg : Good r)
    (ht : total r = total { chunk := chunk, src := parts }) : tell r = (parts.flatten.length : Int) - (abs r).length := by
  obtain ⟨f1, f2, f3⟩ := fresh_async chunk parts hc
  have t0 := tell_total _ f1
  have t1 := tell_total r hg
  rw [f2, f3] at t0
  omega

/-- **C14, async reader, as stated**: for every list of source chunks (every chunking of the data, empty chunks anywhere),
    every chunk size > 0 and every history of operations with valid delimiters, the reader constructed over that source
    returns operation by operation what the flat cursor over the concatenated data returns (no byte lost, duplicated or
    reordered), what is still to come is exactly the cursor's rest, and `tell()` is the cursor's position. -/
theorem async_reader_refines_flat_cursor (chunk : Int) (parts : List Bytes) (ops : List AOp) (hc : 0 < chunk)
    (hok : ∀ op ∈ ops, op.ok chunk) :
    let run := asyncRun { chunk := chunk, src := parts } ops
    let spec := Rd.cursorRun chunk parts.flatten (ops.map AOp.toPOp)
    run.1 = spec.1 ∧ abs run.2 = spec.2 ∧ tell run.2 = (parts.flatten.length : Int) - spec.2.length ∧
    (eof run.2 = true → spec.2 = []) := by
  intro run spec
  obtain ⟨f1, f2, _⟩ := fresh_async chunk parts hc
  obtain ⟨h1, h2, h3, _, h5⟩ := async_history_refines_cursor ops { chunk := chunk, src := parts } f1 hok
  rw [f2] at h1 h2
  refine ⟨h1, h2, ?_, fun he => ?_⟩
  · have ht := tell_fresh chunk parts hc _ h3 h5
    rw [h2] at ht; exact ht
  · have := eof_end _ h3 he
    rw [h2] at this; exact this

/-- non-vacuity and a concrete instance: chunk size 3, the source delivers `ab` `` `c\r` `\nd`; read(2), then
    read_until(CRLF, consume) across the chunk border, then peek, then readall -/
example :
    let ops := [AOp.read (some 2), .readUntil [13, 10] none true, .peek 5, .readall]
    (∀ op ∈ ops, op.ok 3) ∧
    (asyncRun { chunk := 3, src := [[97, 98], [], [99, 13], [10, 100]] } ops).1
      = [.bytes [97, 98], .bytes [99], .bytes [100], .bytes [100]] := by
  refine ⟨?_, by rfl⟩
  intro op hop
  simp only [List.mem_cons, List.not_mem_nil, or_false] at hop
  rcases hop with rfl | rfl | rfl | rfl
  · trivial
  · exact ⟨by simp, by decide⟩
  · trivial
  · trivial


/-! ### iteration (`__aiter__` + `async for`, abandoned after `k` chunks) -/

theorem iterLoop_spec : ∀ (k : Nat) (pc : Pc) (r : AR) (acc : List Bytes), GI pc r → isW pc = true →
    ∃ out, (ARi.iterLoop k pc r acc).1 = acc ++ out ∧ out.flatten = (abs r).take out.flatten.length ∧
      abs (ARi.iterLoop k pc r acc).2 = (abs r).drop out.flatten.length ∧ out.length ≤ k ∧
      (out.length = k ∨ abs (ARi.iterLoop k pc r acc).2 = []) ∧ Good (ARi.iterLoop k pc r acc).2 ∧
      total (ARi.iterLoop k pc r acc).2 = total r ∧ (ARi.iterLoop k pc r acc).2.chunk = r.chunk := by
  intro k pc r acc hgi hW
  obtain ⟨out, e1, e2, e3, e4, e5, e6, e7, e8⟩ :=
    An.iterLoop_spec k (An.toPc pc) (An.toMa r) acc ((An.toMa_GI pc r).mpr hgi) (by rw [An.toMa_isW]; exact hW)
  rcases An.iterLoop_eq k pc r acc with h | h
  · rw [h] at e1 e3 e5 e6 e7 e8
    simp only [An.toMa_abs, An.toMa_total] at e2 e3 e5 e7
    exact ⟨out, Option.some.inj e1, e2, e3, e4, e5, (An.toMa_good _).mp e6, e7, e8⟩
  · rw [e1] at h; cases h

/-- **iteration refines the flat cursor**: the chunks handed out concatenate to the next bytes of the flat text (their borders
    are free), the rest remains, and fewer than `k` chunks come only when the text is used up -/
theorem iterate_refines (r : AR) (k : Nat) (hg : Good r) :
    let cs := (ARi.iterate r k).1
    cs.flatten = (abs r).take cs.flatten.length ∧ abs (ARi.iterate r k).2 = (abs r).drop cs.flatten.length ∧
    cs.length ≤ k ∧ (cs.length = k ∨ abs (ARi.iterate r k).2 = []) ∧ Good (ARi.iterate r k).2 ∧
    total (ARi.iterate r k).2 = total r ∧ (ARi.iterate r k).2.chunk = r.chunk := by
  intro cs
  obtain ⟨cs', e1, e2, e3, e4, e5, e6, e7, e8⟩ := An.iterate_refines (An.toMa r) k ((An.toMa_good r).mpr hg)
  rcases An.toMa_iterate r k with h | h
  · rw [h] at e1 e3 e5 e6 e7 e8
    obtain rfl := Option.some.inj e1
    simp only [An.toMa_abs, An.toMa_total] at e2 e3 e5 e7
    exact ⟨e2, e3, e4, e5, (An.toMa_good _).mp e6, e7, e8⟩
  · rw [e1] at h; cases h

/-- histories that may also iterate -/
inductive IOp where
  | op (a : AOp)
  | iter (k : Nat)

inductive IObs where
  | obs (o : Rd.Obs)
  | chunks (cs : List Bytes)

def iterStep (r : AR) : IOp → IObs × AR
  | .op a => let x := asyncStep r a; (.obs x.1, x.2)
  | .iter k => let x := ARi.iterate r k; (.chunks x.1, x.2)

def iterRun : AR → List IOp → List IObs × AR
  | r, [] => ([], r)
  | r, op :: rest =>
    let (o, r1) := iterStep r op
    let (os, r2) := iterRun r1 rest
    (o :: os, r2)

/-- the flat cursor over the text `A` accepts observation `o` for `op` and moves to `A'`: a deterministic step of
    `Rd.cursorStep` for the ordinary operations; for an iteration any chunking of the next bytes, short of `k` chunks only
    at the end of the text -/
def Accepts (chunk : Int) (A : Bytes) : IOp → IObs → Bytes → Prop
  | .op a, o, A' => o = .obs (Rd.cursorStep chunk A a.toPOp).1 ∧ A' = (Rd.cursorStep chunk A a.toPOp).2
  | .iter k, .chunks cs, A' => cs.flatten = A.take cs.flatten.length ∧ A' = A.drop cs.flatten.length ∧ cs.length ≤ k ∧
      (cs.length = k ∨ A' = [])
  | .iter _, .obs _, _ => False

def AcceptsRun (chunk : Int) : Bytes → List IOp → List IObs → Bytes → Prop
  | A, [], [], A' => A' = A
  | A, op :: ops, o :: os, A' => ∃ A1, Accepts chunk A op o A1 ∧ AcceptsRun chunk A1 ops os A'
  | _, _, _, _ => False

def IOp.ok (chunk : Int) : IOp → Prop
  | .op a => a.ok chunk
  | .iter _ => True

/-- **C14 for the async reader, histories with iteration**: every history over read / readall / peek / read_until /
    pipe_until / pipe / exhaust / iterate-k-chunks is accepted, operation by operation, by the flat cursor over the text
    still to come, which ends at exactly what the reader still has to deliver -/
theorem async_history_iter_refines_cursor (ops : List IOp) : ∀ (r : AR), Good r → (∀ op ∈ ops, op.ok r.chunk) →
    AcceptsRun r.chunk (abs r) ops (iterRun r ops).1 (abs (iterRun r ops).2) ∧ Good (iterRun r ops).2 ∧
    (iterRun r ops).2.chunk = r.chunk ∧ total (iterRun r ops).2 = total r := by
  induction ops with
  | nil => intro r hg _; exact ⟨rfl, hg, rfl, rfl⟩
  | cons op rest ih =>
    intro r hg hok
    have hstep : Accepts r.chunk (abs r) op (iterStep r op).1 (abs (iterStep r op).2) ∧ Good (iterStep r op).2 ∧
        (iterStep r op).2.chunk = r.chunk ∧ total (iterStep r op).2 = total r := by
      cases op with
      | op a =>
        obtain ⟨s1, s2, s3, s4, s5⟩ := asyncStep_refines r a hg (hok (.op a) (by simp))
        exact ⟨⟨congrArg IObs.obs s1, s2⟩, s3, s4, s5⟩
      | iter k =>
        obtain ⟨e2, e3, e4, e5, e6, e7, e8⟩ := iterate_refines r k hg
        exact ⟨⟨e2, e3, e4, e5⟩, e6, e8, e7⟩
    obtain ⟨h1, h3, h4, h5⟩ := hstep
    obtain ⟨t1, t2, t3, t4⟩ := ih (iterStep r op).2 h3 (fun op' h' => by rw [h4]; exact hok op' (List.mem_cons_of_mem _ h'))
    rw [h4] at t1
    exact ⟨⟨_, h1, t1⟩, t2, t3.trans h4, t4.trans h5⟩

/-- non-vacuity: chunk size 2, source `a` `` `bc` `d` `e`; read(1), then iterate 2 chunks, then readall -/
example :
    (iterRun { chunk := 2, src := [[97], [], [98, 99], [100], [101]] } [.op (.read (some 1)), .iter 2, .op .readall]).1
      = [.obs (.bytes [97]), .chunks [[98, 99], [100, 101]], .obs (.bytes [])] := by rfl

/-- **C14, async reader, histories with iteration, from construction**: for every list of source chunks, chunk size > 0 and
    history (valid delimiters), the flat cursor over the concatenated data accepts every observation in turn and ends at the
    text the reader still has to deliver; `tell()` is the cursor's position -/
theorem async_reader_iter_refines_flat_cursor (chunk : Int) (parts : List Bytes) (ops : List IOp) (hc : 0 < chunk)
    (hok : ∀ op ∈ ops, op.ok chunk) :
    let run := iterRun { chunk := chunk, src := parts } ops
    AcceptsRun chunk parts.flatten ops run.1 (abs run.2) ∧ tell run.2 = (parts.flatten.length : Int) - (abs run.2).length := by
  intro run
  obtain ⟨f1, f2, _⟩ := fresh_async chunk parts hc
  obtain ⟨h1, h2, _, h4⟩ := async_history_iter_refines_cursor ops { chunk := chunk, src := parts } f1 hok
  rw [f2] at h1
  exact ⟨h1, tell_fresh chunk parts hc _ h2 h4⟩
end ARd
