import FalconModel.CorsDispatch
import FalconModel.CorsProofs
import FalconModel.DispatchProofs
/-! C20: theorems about `Cd.exchange` - the `Allow` producers (generated OPTIONS responder, 405, 404, static route, application
    code) composed with `CORSMiddleware.process_response`. -/
namespace Cd
open Co (H Hdrs get set del)

/-! ### which responder answers -/

/-- a routed path: the responder is the method map's answer, whatever sinks and static routes exist (for an HTTP method) -/
theorem responder_routed (s : Site) (t : String) (b : Dp.Bound) (hits : Dp.Kind × Nat → Bool) (m : Dp.Method)
    (hm : m ≠ "WEBSOCKET") (hf : s.routes.find t = some b) : s.responder (some t) hits m = b.mm.lookup m := by
  unfold Site.responder
  rw [Dp.dispatchHttp_eq _ _ _ _ hm]
  simp only [Option.bind_some, hf, Option.map_some]
  rfl

/-- ... for OPTIONS on a resource without `on_options` it is the generated responder carrying `mm.allowed` -/
theorem responder_auto_options (s : Site) (t : String) (b : Dp.Bound) (hits : Dp.Kind × Nat → Bool)
    (hf : s.routes.find t = some b) (hno : b.mm.impl.contains "OPTIONS" = false) :
    s.responder (some t) hits "OPTIONS" = .options b.mm.allowed := by
  rw [responder_routed s t b hits "OPTIONS" (by decide) hf]
  unfold Dp.MethodMap.lookup
  rw [if_neg (by rw [hno]; decide), if_pos (by decide)]

/-- ... and the resource's own `on_options` when it has one -/
theorem responder_own_options (s : Site) (t : String) (b : Dp.Bound) (hits : Dp.Kind × Nat → Bool)
    (hf : s.routes.find t = some b) (hown : b.mm.impl.contains "OPTIONS" = true) :
    s.responder (some t) hits "OPTIONS" = .resource b.mm.rid "OPTIONS" := by
  rw [responder_routed s t b hits "OPTIONS" (by decide) hf]
  exact (Dp.lookup_resource_iff b.mm "OPTIONS").mpr hown

/-- no route: 404 iff no sink / static route matches -/
theorem responder_not_found_iff (s : Site) (hits : Dp.Kind × Nat → Bool) (m : Dp.Method) (hm : m ≠ "WEBSOCKET") :
    s.responder none hits m = .notFound ↔ ∀ x ∈ s.app.order, hits x = false := by
  unfold Site.responder
  rw [Dp.dispatchHttp_eq _ _ _ _ hm]
  exact Dp.not_found_iff s.app m hits

/-! ### what the framework's own responders leave on the header map -/

theorem get_allow_auto (pre : Hdrs) (v : String) :
    get (set (set pre .allow v) contentLength "0") .allow = some v := by
  rw [Co.get_set_ne _ _ _ _ (by simp [contentLength]), Co.get_set_self]

theorem get_other_auto (pre : Hdrs) (v : String) (k : H) (h1 : k ≠ .allow) (h2 : k ≠ contentLength) :
    get (set (set pre .allow v) contentLength "0") k = get pre k := by
  rw [Co.get_set_ne _ _ _ _ h2, Co.get_set_ne _ _ _ _ h1]

theorem grant_ne (k : H) (hk : k ∈ Co.grants) : k ≠ .allow ∧ k ≠ contentLength := by
  simp only [Co.grants, List.mem_cons, List.mem_nil_iff, or_false] at hk
  rcases hk with rfl | rfl | rfl | rfl | rfl | rfl <;> simp [contentLength]

/-- falcon's own answers (generated OPTIONS responder, 405, 400, 404, a static route answering OPTIONS) never write a grant header -/
theorem respond_own_grants (acts : Dp.Responder → Act) (pre : Hdrs) (rs : Dp.Responder) (k : H) (hk : k ∈ Co.grants)
    (hown : rs.isDefault = true ∨ ∃ id, rs = .static id) :
    get (respond acts true pre rs).1 k = get pre k := by
  obtain ⟨h1, h2⟩ := grant_ne k hk
  rcases hown with hd | ⟨id, rfl⟩
  · cases rs with
    | options al => exact get_other_auto pre _ k h1 h2
    | notAllowed al => exact Co.get_set_ne _ _ _ _ h1
    | badRequest => rfl
    | notFound => rfl
    | resource _ _ => simp [Dp.Responder.isDefault] at hd
    | sink _ => simp [Dp.Responder.isDefault] at hd
    | static _ => simp [Dp.Responder.isDefault] at hd
  · exact get_other_auto pre _ k h1 h2

/-! ### (1) a preflight from a granted origin on a routed resource -/

/-- **the generated OPTIONS responder + the policy**: for every registration history and every template `t` it left routed to
    a resource without `on_options`, a preflight (OPTIONS + non-empty Access-Control-Request-Method) from a granted origin
    ends with `Access-Control-Allow-Methods` = exactly the text of the Allow list `Dp` computes for that resource, the
    requested headers echoed, max-age 86400 - and WITHOUT the `Allow` header. This holds whatever sinks / static routes exist
    and whatever earlier stages left on the header map (a pre-set `Allow` or `Access-Control-Allow-Methods` is overwritten). -/
theorem preflight_methods_exact (c : Co.Cfg) (s : Site) (acts : Dp.Responder → Act) (t : String) (b : Dp.Bound)
    (hits : Dp.Kind × Nat → Bool) (r : Rq) (pre : Hdrs) (o : String)
    (hf : s.routes.find t = some b) (hno : b.mm.impl.contains "OPTIONS" = false)
    (hm : r.method = "OPTIONS") (ho : r.origin = some o) (ha : c.allowOrigins.has o = true)
    (hq : Co.truthy r.acrm = true) :
    get (exchange c s acts (some t) hits r pre) .acam = some (", ".intercalate b.mm.allowed) ∧
    get (exchange c s acts (some t) hits r pre) .acah = some (r.acrh.getD "*") ∧
    get (exchange c s acts (some t) hits r pre) .acma = some "86400" ∧
    get (exchange c s acts (some t) hits r pre) .allow = none := by
  unfold exchange
  rw [hm, responder_auto_options s t b hits hf hno]
  simp only [respond]
  exact Co.approved_preflight_exact c _ _ o _ ho ha (by simp [Rq.co, hm, hq]) (get_allow_auto pre _)

/-- the members of that list, from the registration HISTORY: the latest accepted `add_route` call for the template decides;
    the granted methods are exactly the members of COMBINED_METHODS for which the resource had a callable
    `on_<m>[_<suffix>]` at that call, without WEBSOCKET (and without OPTIONS: the resource has no such responder) -/
theorem preflight_methods_history (c : Co.Cfg) (s : Site) (acts : Dp.Responder → Act) (t : String) (reg : Dp.RouteReg)
    (hits : Dp.Kind × Nat → Bool) (r : Rq) (pre : Hdrs) (o : String)
    (hreg : (s.hist.filter (Dp.accepted s.combined)).reverse.find? (·.tmpl == t) = some reg)
    (hno : ∀ a ∈ reg.attrs, ¬ (a.method = "OPTIONS" ∧ a.suffix = Dp.effSuffix reg.suffix))
    (hm : r.method = "OPTIONS") (ho : r.origin = some o) (ha : c.allowOrigins.has o = true)
    (hq : Co.truthy r.acrm = true) :
    ∃ al : List Dp.Method,
      get (exchange c s acts (some t) hits r pre) .acam = some (", ".intercalate al) ∧
      get (exchange c s acts (some t) hits r pre) .allow = none ∧
      ∀ m, m ∈ al ↔ ((m ∈ s.combined ∧ ∃ a ∈ reg.attrs, a.method = m ∧ a.suffix = Dp.effSuffix reg.suffix) ∧ m ≠ "WEBSOCKET") := by
  obtain ⟨b, hb, _, _, hres, hal, _⟩ := Dp.reregistered_route_exact s.combined s.hist t reg hreg
  have hno' : b.mm.impl.contains "OPTIONS" = false := by
    cases hc : b.mm.impl.contains "OPTIONS" with
    | false => rfl
    | true =>
      have h1 := (Dp.lookup_resource_iff b.mm "OPTIONS").mpr hc
      rename_i hrid _
      rw [hrid] at h1
      obtain ⟨_, a, haa, h2, h3⟩ := (hres "OPTIONS").mp h1
      exact absurd ⟨h2, h3⟩ (hno a haa)
  obtain ⟨h1, _, _, h4⟩ := preflight_methods_exact c s acts t b hits r pre o hb hno' hm ho ha hq
  exact ⟨b.mm.allowed, h1, h4, hal⟩

/-! ### application code answers OPTIONS: a resource's own `on_options`, a sink -/

/-- the exchange when application code answers (own responder of a routed resource, a sink) -/
theorem exchange_app_code (c : Co.Cfg) (s : Site) (acts : Dp.Responder → Act) (tmpl : Option String)
    (hits : Dp.Kind × Nat → Bool) (r : Rq) (pre : Hdrs)
    (hr : (∃ rid m, s.responder tmpl hits r.method = .resource rid m) ∨ (∃ id, s.responder tmpl hits r.method = .sink id)) :
    exchange c s acts tmpl hits r pre =
      Co.processF c r.co ((acts (s.responder tmpl hits r.method)).run pre) (!(acts (s.responder tmpl hits r.method)).raises) := by
  unfold exchange
  rcases hr with ⟨rid, m, h⟩ | ⟨id, h⟩ <;> rw [h] <;> rfl

/-- it returned and left an `Allow` header `v` (set by itself or by an earlier stage): the preflight is approved with exactly `v` -/
theorem app_code_preflight_approved (c : Co.Cfg) (s : Site) (acts : Dp.Responder → Act) (tmpl : Option String)
    (hits : Dp.Kind × Nat → Bool) (r : Rq) (pre : Hdrs) (o v : String)
    (hr : (∃ rid m, s.responder tmpl hits r.method = .resource rid m) ∨ (∃ id, s.responder tmpl hits r.method = .sink id))
    (hret : (acts (s.responder tmpl hits r.method)).raises = false)
    (hv : get ((acts (s.responder tmpl hits r.method)).run pre) .allow = some v)
    (hm : r.method = "OPTIONS") (ho : r.origin = some o) (ha : c.allowOrigins.has o = true) (hq : Co.truthy r.acrm = true) :
    get (exchange c s acts tmpl hits r pre) .acam = some v ∧ get (exchange c s acts tmpl hits r pre) .allow = none := by
  rw [exchange_app_code c s acts tmpl hits r pre hr, hret]
  obtain ⟨h1, _, _, h4⟩ := Co.approved_preflight_exact c r.co _ o v ho ha (by simp [Rq.co, hm, hq]) hv
  exact ⟨h1, h4⟩

/-- it returned WITHOUT an `Allow` header: every grant is withdrawn - also `Access-Control-Allow-Origin`, also grant headers the
    application code had set itself -/
theorem app_code_preflight_denied (c : Co.Cfg) (s : Site) (acts : Dp.Responder → Act) (tmpl : Option String)
    (hits : Dp.Kind × Nat → Bool) (r : Rq) (pre : Hdrs) (o : String)
    (hr : (∃ rid m, s.responder tmpl hits r.method = .resource rid m) ∨ (∃ id, s.responder tmpl hits r.method = .sink id))
    (hret : (acts (s.responder tmpl hits r.method)).raises = false)
    (hv : get ((acts (s.responder tmpl hits r.method)).run pre) .allow = none)
    (hm : r.method = "OPTIONS") (ho : r.origin = some o) (ha : c.allowOrigins.has o = true) (hq : Co.truthy r.acrm = true) :
    (∀ k ∈ Co.grants, get (exchange c s acts tmpl hits r pre) k = none) ∧ get (exchange c s acts tmpl hits r pre) .allow = none := by
  rw [exchange_app_code c s acts tmpl hits r pre hr, hret]
  have hpre : (r.co.isOptions && Co.truthy r.co.acrm) = true := by simp [Rq.co, hm, hq]
  exact ⟨fun k hk => Co.denied_preflight_grants_nothing c r.co _ o k ho ha hpre hk hv,
         Co.preflight_removes_allow c r.co _ o ho ha hpre⟩

/-- it raised: the exchange is not a successful one, the preflight patch does not run - `Allow` and the preflight headers stay
    as the application code left them (the origin grant of the first stage is still made) -/
theorem app_code_raised (c : Co.Cfg) (s : Site) (acts : Dp.Responder → Act) (tmpl : Option String)
    (hits : Dp.Kind × Nat → Bool) (r : Rq) (pre : Hdrs) (k : H) (hk : k = .allow ∨ k = .acam ∨ k = .acah ∨ k = .acma)
    (hr : (∃ rid m, s.responder tmpl hits r.method = .resource rid m) ∨ (∃ id, s.responder tmpl hits r.method = .sink id))
    (hraise : (acts (s.responder tmpl hits r.method)).raises = true) :
    get (exchange c s acts tmpl hits r pre) k = get ((acts (s.responder tmpl hits r.method)).run pre) k := by
  rw [exchange_app_code c s acts tmpl hits r pre hr, hraise]
  rcases hk with rfl | rfl | rfl | rfl <;>
    exact Co.processF_get_of_no_preflight c r.co _ _ _ rfl (by simp) (by simp) (by simp)

/-- a static route answers OPTIONS itself with `Allow: GET` (no look at the file system): the preflight is approved with `GET` -/
theorem static_preflight (c : Co.Cfg) (s : Site) (acts : Dp.Responder → Act) (tmpl : Option String)
    (hits : Dp.Kind × Nat → Bool) (r : Rq) (pre : Hdrs) (o : String) (id : Nat)
    (hr : s.responder tmpl hits r.method = .static id)
    (hm : r.method = "OPTIONS") (ho : r.origin = some o) (ha : c.allowOrigins.has o = true) (hq : Co.truthy r.acrm = true) :
    get (exchange c s acts tmpl hits r pre) .acam = some "GET" ∧ get (exchange c s acts tmpl hits r pre) .allow = none := by
  unfold exchange
  rw [hr]
  simp only [respond, hm, beq_self_eq_true, if_true]
  obtain ⟨h1, _, _, h4⟩ := Co.approved_preflight_exact c r.co _ o "GET" ho ha (by simp [Rq.co, hm, hq]) (get_allow_auto pre "GET")
  exact ⟨h1, h4⟩

/-! ### (2) an origin that is not granted -/

/-- **no Origin, or an Origin the configuration does not allow: the policy does nothing at all**, whatever the route - the final
    header map is the responder's, for every registration history, method and target -/
theorem ungranted_untouched (c : Co.Cfg) (s : Site) (acts : Dp.Responder → Act) (tmpl : Option String)
    (hits : Dp.Kind × Nat → Bool) (r : Rq) (pre : Hdrs)
    (hun : r.origin = none ∨ ∃ o, r.origin = some o ∧ c.allowOrigins.has o = false) :
    exchange c s acts tmpl hits r pre = (respond acts (r.method == "OPTIONS") pre (s.responder tmpl hits r.method)).1 := by
  unfold exchange
  rcases hun with h | ⟨o, h, hd⟩
  · exact Co.noOriginF_untouched c r.co _ _ h
  · exact Co.disallowedF_untouched c r.co _ _ o h hd

/-- ... so when falcon itself answers the OPTIONS request (generated responder, 404, a static route) the response carries
    exactly the grant headers earlier stages had put there - none on a fresh response -/
theorem ungranted_no_grants (c : Co.Cfg) (s : Site) (acts : Dp.Responder → Act) (tmpl : Option String)
    (hits : Dp.Kind × Nat → Bool) (r : Rq) (pre : Hdrs) (k : H) (hk : k ∈ Co.grants)
    (hun : r.origin = none ∨ ∃ o, r.origin = some o ∧ c.allowOrigins.has o = false)
    (hm : r.method = "OPTIONS")
    (hown : (s.responder tmpl hits r.method).isDefault = true ∨ ∃ id, s.responder tmpl hits r.method = .static id) :
    get (exchange c s acts tmpl hits r pre) k = get pre k := by
  rw [ungranted_untouched c s acts tmpl hits r pre hun]
  have : (r.method == "OPTIONS") = true := by simp [hm]
  rw [this]
  exact respond_own_grants acts pre _ k hk hown

/-- ... and the `Allow` header of the generated OPTIONS responder is then KEPT (it is removed only for granted origins) -/
theorem ungranted_keeps_allow (c : Co.Cfg) (s : Site) (acts : Dp.Responder → Act) (t : String) (b : Dp.Bound)
    (hits : Dp.Kind × Nat → Bool) (r : Rq) (pre : Hdrs)
    (hf : s.routes.find t = some b) (hno : b.mm.impl.contains "OPTIONS" = false) (hm : r.method = "OPTIONS")
    (hun : r.origin = none ∨ ∃ o, r.origin = some o ∧ c.allowOrigins.has o = false) :
    get (exchange c s acts (some t) hits r pre) .allow = some (", ".intercalate b.mm.allowed) := by
  rw [ungranted_untouched c s acts (some t) hits r pre hun, hm, responder_auto_options s t b hits hf hno]
  exact get_allow_auto pre _

/-! ### (3) an unrouted path -/

/-- **404 (no route, no sink, no static route matches)**: the framework raises HTTPNotFound, so the exchange is not a successful
    one and the preflight patch does not run. What the code really does for a granted origin: the first two stages only - the
    origin (and credentials) grant and Expose-Headers ARE added to the 404 response; `Allow` and the three preflight headers stay
    as earlier stages left them (absent on a fresh response). -/
theorem not_found_exchange (c : Co.Cfg) (s : Site) (acts : Dp.Responder → Act) (tmpl : Option String)
    (hits : Dp.Kind × Nat → Bool) (r : Rq) (pre : Hdrs) (o : String)
    (hr : s.responder tmpl hits r.method = .notFound) (ho : r.origin = some o) (ha : c.allowOrigins.has o = true) :
    exchange c s acts tmpl hits r pre = Co.exposeStage c (Co.grantStage c o pre) ∧
    (∀ k, k = .allow ∨ k = .acam ∨ k = .acah ∨ k = .acma → get (exchange c s acts tmpl hits r pre) k = get pre k) ∧
    (get pre .acao = none → get (exchange c s acts tmpl hits r pre) .acao =
        some (if c.allowCredentials.has o then o else match c.allowOrigins with | .any => "*" | .only _ => o)) := by
  have he : exchange c s acts tmpl hits r pre = Co.exposeStage c (Co.grantStage c o pre) := by
    unfold exchange
    rw [hr]
    simp only [respond]
    rw [Co.processF_stages c r.co pre false o ho ha]
    simp [Co.preflightStage]
  refine ⟨he, fun k hk => ?_, fun h0 => ?_⟩
  · rw [he]
    rcases hk with rfl | rfl | rfl | rfl <;>
      rw [Co.exposeStage_get _ _ _ (by simp), Co.grantStage_get _ _ _ _ (by simp) (by simp)]
  · rw [he, Co.exposeStage_get _ _ _ (by simp), Co.grantStage_acao c o pre h0]
    rfl

end Cd
namespace Cd
open Co (H Hdrs get set del)

/-! ### `process_request` components in front of the policy -/

/-- for every HTTP method the theorems above apply with `pre` = the header map after the `process_request` stage -/
theorem exchangeMw_eq (c : Co.Cfg) (s : Site) (acts : Dp.Responder → Act) (tmpl : Option String) (hits : Dp.Kind × Nat → Bool)
    (r : Rq) (init : Hdrs) (mw : List (H × String)) (hm : r.method ≠ "WEBSOCKET") :
    exchangeMw c s acts tmpl hits r init mw = exchange c s acts tmpl hits r (({ sets := mw } : Act).run init) := by
  have hc : Dp.metaMethods.contains r.method = false := by simp [Dp.metaMethods, hm]
  simp only [exchangeMw, before, hc, Bool.false_eq_true, if_false]

/-- the meta method WEBSOCKET used as HTTP method: 400 is raised before any `process_request` ran - what they would have set is
    not on the response; the policy sees the response as constructed, in an exchange that did not succeed -/
theorem exchangeMw_meta (c : Co.Cfg) (s : Site) (acts : Dp.Responder → Act) (tmpl : Option String) (hits : Dp.Kind × Nat → Bool)
    (r : Rq) (init : Hdrs) (mw : List (H × String)) (hm : r.method = "WEBSOCKET") :
    exchangeMw c s acts tmpl hits r init mw = Co.processF c r.co init false := by
  have hc : Dp.metaMethods.contains r.method = true := by simp [Dp.metaMethods, hm]
  simp only [exchangeMw, before, hc, if_true, exchange, Site.responder, Dp.App.dispatchHttp, respond]

/-! ### concrete exchanges (each satisfies the hypotheses of the theorem named) -/

def exSite : Site :=
  { combined := ["GET", "POST", "DELETE", "OPTIONS", "WEBSOCKET"],
    hist := [⟨"/a", 0, [⟨"GET", none⟩, ⟨"DELETE", none⟩], none⟩,
             ⟨"/a", 1, [⟨"POST", none⟩, ⟨"GET", none⟩, ⟨"WEBSOCKET", none⟩, ⟨"DELETE", some "x"⟩], some ""⟩,
             ⟨"/a", 2, [⟨"DELETE", none⟩], some "nosuch"⟩,
             ⟨"/own", 3, [⟨"OPTIONS", none⟩, ⟨"GET", none⟩], none⟩],
    adds := [.sink 0, .static 1] }
def exCfg : Co.Cfg := ⟨.only ["http://a"], .only ["http://a"], some "X-One"⟩
/-- the values of the named headers -/
def pick (ks : List H) (h : Hdrs) : List (Option String) := ks.map (get h)
def exHits (only : Option (Dp.Kind × Nat)) : Dp.Kind × Nat → Bool := fun e => only == some e

/-- `preflight_methods_exact` / `preflight_methods_history`: `/a` registered three times (the second call wins, the third is
    rejected), a sink that would match, a bogus `Allow` and `Access-Control-Allow-Methods` pre-set by an earlier stage -/
example :
    pick [.acam, .acah, .acma, .allow, .acao, .acac, .aceh] (exchange exCfg exSite (fun _ => {}) (some "/a") (fun _ => true) ⟨"OPTIONS", some "http://a", some "POST", none⟩
      [(.allow, "BOGUS"), (.acam, "PATCH")])
     =
      [some "GET, POST", some "*", some "86400", none, some "http://a", some "true", some "X-One"] := by decide +kernel

/-- `ungranted_untouched` / `ungranted_keeps_allow`: the same request from `http://b` -/
example :
    exchange exCfg exSite (fun _ => {}) (some "/a") (fun _ => true) ⟨"OPTIONS", some "http://b", some "POST", none⟩ []
      = [(.allow, "GET, POST"), (contentLength, "0")] := by decide +kernel

/-- `app_code_preflight_denied`: `/own` has `on_options` which sets a grant header but no `Allow`: everything is withdrawn -/
example :
    exchange exCfg exSite (fun _ => { sets := [(.acam, "GET"), (.other 7, "x")] }) (some "/own") (fun _ => false)
      ⟨"OPTIONS", some "http://a", some "GET", some "X-Q"⟩ [] = [(.other 7, "x")] := by decide +kernel

/-- `app_code_preflight_approved`: a sink that sets `Allow: PUT` -/
example :
    pick [.acam, .acah, .allow] (exchange exCfg exSite (fun _ => { sets := [(.allow, "PUT")] }) none (exHits (some (.sink, 0)))
      ⟨"OPTIONS", some "http://a", some "GET", some "X-Q"⟩ [])
     = [some "PUT", some "X-Q", none] := by decide +kernel

/-- `exchangeMw_meta`: a `process_request` component that would pre-set `Allow` never runs for the meta method -/
example :
    exchangeMw exCfg exSite (fun _ => {}) (some "/a") (fun _ => true) ⟨"WEBSOCKET", some "http://a", some "GET", none⟩ [] [(.allow, "BOGUS")]
      = [(.acac, "true"), (.acao, "http://a"), (.aceh, "X-One")] := by decide +kernel

/-- `static_preflight` -/
example :
    pick [.acam, .allow] (exchange exCfg exSite (fun _ => {}) none (exHits (some (.static, 1))) ⟨"OPTIONS", some "http://a", some "GET", none⟩ [])
     = [some "GET", none] := by decide +kernel

/-- `not_found_exchange`: nothing matches - the 404 carries the origin grant and no preflight header -/
example :
    exchange exCfg exSite (fun _ => {}) none (exHits none) ⟨"OPTIONS", some "http://a", some "GET", none⟩ []
      = [(.acac, "true"), (.acao, "http://a"), (.aceh, "X-One")] := by decide +kernel

end Cd
