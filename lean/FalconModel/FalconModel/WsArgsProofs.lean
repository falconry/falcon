import FalconModel.WsArgs
import FalconModel.WsProofs

/-! C17: theorems about the argument-type x state table of the send / receive entry points (`Wt`, WsArgs.lean) and their link to the
    session model `Ws`. -/
namespace Wt

/-- the error `_require_accepted` raises in a state other than ACCEPTED -/
def stateErr (w : W) : Exc :=
  match w.st with
  | .handshake => .notAllowed
  | _ => wsd w.closeCode

def Op.argErr : Op → Exc
  | .sendMedia _ _ => .serErr
  | _ => .typeErr

theorem op_send (w : W) (disc : Option Int) (o : Op) (hs : o.isSend = true) :
    w.op disc o =
      if w.st = .accepted then (if o.badArg then (w, .err o.argErr) else w.send_ disc o.key) else (w, .err (stateErr w)) := by
  cases o with
  | sendText a | sendData a => unfold W.op W.sendText W.sendData W.requireAccepted stateErr; cases w.st <;> rfl
  | sendMedia pt ok =>
    unfold W.op W.sendMedia W.requireAccepted stateErr
    cases w.st
    · rfl
    · cases pt <;> cases ok <;> rfl
    · rfl
  | _ => cases hs

theorem send__clear (w : W) (k : Key) (hst : w.st = .accepted) :
    w.send_ none k = ({ w with sent := w.sent ++ [k] }, .sent k) := by
  unfold W.send_
  simp only [hst]
  rfl

theorem send__flag (w : W) (c : Int) (k : Key) :
    w.send_ (some c) k = ({ w with st := .closed, closeCode := some c }, .err (wsd (some c))) := rfl

/-- order of the tests, non-accepted states: `_require_accepted()` runs first in every send entry point, so before `accept()` and after the
    connection was closed (by the application, or by a disconnect a receive observed) the STATE error wins for EVERY argument type - `str`, `bytes`,
    `bytearray`, `memoryview`, `None`, `int`, anything - well typed or not; the flag is not looked at, nothing is sent, nothing changes.
    `send_text(b'x')` before `accept()` is OperationNotAllowed, not TypeError; after `close(4000)` it is WebSocketDisconnected(4000). -/
theorem state_error_wins (w : W) (disc : Option Int) (o : Op) (hs : o.isSend = true) (hst : w.st ≠ .accepted) :
    w.op disc o = (w, .err (stateErr w)) := by
  rw [op_send w disc o hs, if_neg hst]

example : (W.op { st := .handshake } none (.sendText .bytes)).2 = .err .notAllowed := by decide
example : (W.op { st := .closed, closeCode := some 4000 } (some 1001) (.sendData .str)).2 = .err (.disconnected 4000) := by decide
example : (W.op { st := .closed, closeCode := none } none (.sendText .str)).2 = .err (.disconnected 1000) := by decide

/-- accepted state, wrongly typed argument: `TypeError` (for `send_media`: the serializer's own error) - EVEN IF the pump has already seen the
    client's disconnect (`disc = some _`): the flag is consulted in `_send` only, which a refused argument never reaches; the state stays ACCEPTED. -/
theorem accepted_bad_argument (w : W) (disc : Option Int) (o : Op) (hs : o.isSend = true) (hb : o.badArg = true) (hst : w.st = .accepted) :
    w.op disc o = (w, .err (match o with | .sendMedia _ _ => .serErr | _ => .typeErr)) := by
  rw [op_send w disc o hs, if_pos hst, hb]
  cases o <;> rfl

example : W.op { st := .accepted } (some 1001) (.sendText .bytearray) = ({ st := .accepted }, .err .typeErr) := by decide
example : W.op { st := .accepted } none (.sendData .str) = ({ st := .accepted }, .err .typeErr) := by decide

theorem bad_argument_err (w : W) (disc : Option Int) (o : Op) (hs : o.isSend = true) (hb : o.badArg = true) :
    ∃ e, w.op disc o = (w, .err e) := by
  rw [op_send w disc o hs, hb]
  split
  · exact ⟨_, rfl⟩
  · exact ⟨_, rfl⟩

/-- a send with an argument of a refused type never hands an event to the server and leaves the whole object - state, close code, the events
    sent so far, the client's pending events - exactly as it was: in EVERY state and under every value of the disconnect flag. -/
theorem bad_argument_inert (w : W) (disc : Option Int) (o : Op) (hs : o.isSend = true) (hb : o.badArg = true) :
    (w.op disc o).1 = w ∧ ∀ k, (w.op disc o).2 ≠ .sent k := by
  obtain ⟨e, h⟩ := bad_argument_err w disc o hs hb
  rw [h]
  exact ⟨rfl, nofun⟩

example : (W.op { st := .accepted, sent := [.text], inbox := [.frame .val .missing] } (some 1001) (.sendData .none)).1
    = { st := .accepted, sent := [.text], inbox := [.frame .val .missing] } := by decide

/-- a well typed send on an accepted connection whose client is there hands EXACTLY ONE `websocket.send` event to the server, carrying exactly
    one payload key: `text` for `send_text` and `send_media(TEXT)`, `bytes` for `send_data` and `send_media(<anything but the TEXT member>)`;
    nothing else changes. -/
theorem good_send_accepted (w : W) (o : Op) (hs : o.isSend = true) (hb : o.badArg = false) (hst : w.st = .accepted) :
    w.op none o = ({ w with sent := w.sent ++ [o.key] }, .sent o.key) := by
  rw [op_send w none o hs, if_pos hst, hb]
  exact send__clear w o.key hst

example : W.op { st := .accepted, sent := [.bytes] } none (.sendText .strSub) = ({ st := .accepted, sent := [.bytes, .text] }, .sent .text) := by decide
example : W.op { st := .accepted } none (.sendData .memoryview) = ({ st := .accepted, sent := [.bytes] }, .sent .bytes) := by decide
example : W.op { st := .accepted } none (.sendMedia .other true) = ({ st := .accepted, sent := [.bytes] }, .sent .bytes) := by decide

/-- a well typed send on an accepted connection whose pump has seen the disconnect: `_send` records it (state CLOSED, the flag's code) and
    raises WebSocketDisconnected; nothing is handed to the server. -/
theorem good_send_flag (w : W) (c : Int) (o : Op) (hs : o.isSend = true) (hb : o.badArg = false) (hst : w.st = .accepted) :
    w.op (some c) o = ({ w with st := .closed, closeCode := some c }, .err (wsd (some c))) := by
  rw [op_send w (some c) o hs, if_pos hst, hb]
  rfl

example : W.op { st := .accepted } (some 1001) (.sendText .str) = ({ st := .closed, closeCode := some 1001 }, .err (.disconnected 1001)) := by decide

/-- exactly when an event reaches the server -/
theorem send_returns_iff (w : W) (disc : Option Int) (o : Op) (hs : o.isSend = true) (k : Key) :
    (w.op disc o).2 = .sent k ↔ (w.st = .accepted ∧ disc = none ∧ o.badArg = false ∧ k = o.key) := by
  by_cases hst : w.st = .accepted
  · cases hb : o.badArg
    · cases disc with
      | none => rw [good_send_accepted w o hs hb hst]; simp [hst]; exact eq_comm
      | some c => rw [good_send_flag w c o hs hb hst]; simp
    · rw [accepted_bad_argument w disc o hs hb hst]; cases o <;> simp
  · rw [state_error_wins w disc o hs hst]; simp [hst]

theorem receive__nil {w : W} (h : w.inbox = []) : w.receive_ = (w, .error .srvErr) := by
  unfold W.receive_; rw [h]

theorem receive__disconnect {w : W} {code : Option Int} {rest : List InEv} (h : w.inbox = .disconnect code :: rest) :
    w.receive_ = ({ w with inbox := rest, st := .closed, closeCode := some (code.getD 1000) }, .error (wsd (some (code.getD 1000)))) := by
  unfold W.receive_; rw [h]

theorem receive__frame {w : W} {t b : Fld} {rest : List InEv} (h : w.inbox = .frame t b :: rest) :
    w.receive_ = ({ w with inbox := rest }, .ok (t, b)) := by
  unfold W.receive_; rw [h]

/-- what a receive entry point makes of a frame with the payload keys `t`, `b` -/
def Op.pick : Op → Fld → Fld → Out
  | .recvText, t, _ => if t.orNone == .none then .err .payloadType else .got .text
  | .recvData, _, b => if b.orNone == .none then .err .payloadType else .got .bytes
  | _, t, b => if t.orNone != .none then .got .text else if b.orNone == .none then .err .payloadType else .got .bytes

theorem op_recv (w : W) (disc : Option Int) (o : Op) (hr : o.isSend = false) (hst : w.st = .accepted) :
    w.op disc o = match w.receive_ with
      | (w', .error e) => (w', .err e)
      | (w', .ok (t, b)) => (w', o.pick t b) := by
  cases o with
  | sendText _ | sendData _ | sendMedia _ _ => cases hr
  | recvText | recvData =>
    unfold W.op W.recvText W.recvData W.requireAccepted
    rw [hst]
    rcases w.receive_ with ⟨w', e | ⟨t, b⟩⟩
    · rfl
    · dsimp only [Op.pick]; split <;> rfl
  | recvMedia =>
    unfold W.op W.recvMedia W.requireAccepted
    rw [hst]
    rcases w.receive_ with ⟨w', e | ⟨t, b⟩⟩
    · rfl
    · dsimp only [Op.pick]
      split
      · rfl
      · split <;> rfl

/-- a receive in a state other than ACCEPTED raises the state error and takes NOTHING from the server -/
theorem recv_wrong_state (w : W) (disc : Option Int) (o : Op) (hr : o.isSend = false) (hst : w.st ≠ .accepted) :
    w.op disc o = (w, .err (stateErr w)) := by
  cases o with
  | sendText _ | sendData _ | sendMedia _ _ => cases hr
  | _ =>
    unfold W.op W.recvText W.recvData W.recvMedia W.requireAccepted stateErr
    cases h : w.st with
    | accepted => exact absurd h hst
    | _ => rfl

/-- a receive returns a value iff the frame has the key it asks for with a value - whatever the other key holds: a frame carrying BOTH payloads
    satisfies `receive_text` and `receive_data` alike (and `receive_media` takes its text); the frame is consumed, the state stays ACCEPTED -/
theorem recv_frame (w : W) (disc : Option Int) (t b : Fld) (rest : List InEv) (hst : w.st = .accepted) (hin : w.inbox = .frame t b :: rest) :
    w.op disc .recvText = ({ w with inbox := rest }, if t = .val then .got .text else .err .payloadType) ∧
    w.op disc .recvData = ({ w with inbox := rest }, if b = .val then .got .bytes else .err .payloadType) ∧
    w.op disc .recvMedia = ({ w with inbox := rest }, if t = .val then .got .text else if b = .val then .got .bytes else .err .payloadType) := by
  rw [op_recv w disc _ rfl hst, op_recv w disc _ rfl hst, op_recv w disc _ rfl hst, receive__frame hin]
  cases t <;> cases b <;> exact ⟨rfl, rfl, rfl⟩

/-- `receive_text()` on a frame without a text payload (the key is missing or `None` - a BINARY frame): PayloadTypeError, the frame IS consumed
    (the next receive sees the following event), the connection stays ACCEPTED, nothing is sent. -/
theorem recvText_wrong_kind (w : W) (disc : Option Int) (t b : Fld) (rest : List InEv) (hst : w.st = .accepted)
    (hin : w.inbox = .frame t b :: rest) (ht : t ≠ .val) :
    w.op disc .recvText = ({ w with inbox := rest }, .err .payloadType) := by
  rw [(recv_frame w disc t b rest hst hin).1, if_neg ht]

/-- `receive_data()` on a frame without a bytes payload (a TEXT frame): the same -/
theorem recvData_wrong_kind (w : W) (disc : Option Int) (t b : Fld) (rest : List InEv) (hst : w.st = .accepted)
    (hin : w.inbox = .frame t b :: rest) (hb : b ≠ .val) :
    w.op disc .recvData = ({ w with inbox := rest }, .err .payloadType) := by
  rw [(recv_frame w disc t b rest hst hin).2.1, if_neg hb]

example : W.op { st := .accepted, inbox := [.frame .missing .val, .frame .val .missing] } none .recvText
    = ({ st := .accepted, inbox := [.frame .val .missing] }, .err .payloadType) := by decide
example : W.op { st := .accepted, inbox := [.frame .val .none, .disconnect (some 1001)] } none .recvData
    = ({ st := .accepted, inbox := [.disconnect (some 1001)] }, .err .payloadType) := by decide

/-- a receive that is handed the disconnect event: the connection is CLOSED with the event's code (1000 if it has none), the call raises
    WebSocketDisconnected with that code -/
theorem recv_disconnect (w : W) (disc : Option Int) (o : Op) (code : Option Int) (rest : List InEv) (hr : o.isSend = false) (hst : w.st = .accepted)
    (hin : w.inbox = .disconnect code :: rest) :
    w.op disc o = ({ w with inbox := rest, st := .closed, closeCode := some (code.getD 1000) }, .err (wsd (some (code.getD 1000)))) := by
  rw [op_recv w disc o hr hst, receive__disconnect hin]

/-- after a receive was handed the disconnect event every send - of any argument type - raises WebSocketDisconnected with the event's code and
    hands nothing to the server -/
theorem send_after_disconnect (w : W) (d1 d2 : Option Int) (r o : Op) (code : Option Int) (rest : List InEv) (hr : r.isSend = false)
    (hs : o.isSend = true) (hst : w.st = .accepted) (hin : w.inbox = .disconnect code :: rest) :
    ((w.op d1 r).1.op d2 o).2 = .err (wsd (some (code.getD 1000))) ∧ ((w.op d1 r).1.op d2 o).1.sent = w.sent := by
  rw [recv_disconnect w d1 r code rest hr hst hin, state_error_wins _ d2 o hs (by simp)]
  simp [stateErr]

example : (run { st := .accepted, inbox := [.disconnect none] } [(.recvText, none), (.sendText .int, none), (.sendData .bytes, none)]).2
    = [.err (.disconnected 1000), .err (.disconnected 1000), .err (.disconnected 1000)] := by decide

theorem op_recv_fst (w : W) (disc : Option Int) (o : Op) (hr : o.isSend = false) :
    (w.op disc o).1 = w ∨ (w.op disc o).1 = w.receive_.1 := by
  by_cases hst : w.st = .accepted
  · right
    rw [op_recv w disc o hr hst]
    rcases w.receive_ with ⟨w', e | ⟨t, b⟩⟩ <;> rfl
  · left
    rw [recv_wrong_state w disc o hr hst]

theorem receive__sent (w : W) : w.receive_.1.sent = w.sent := by
  unfold W.receive_
  split <;> rfl

theorem recv_sends_nothing (w : W) (disc : Option Int) (o : Op) (hr : o.isSend = false) : (w.op disc o).1.sent = w.sent := by
  rcases op_recv_fst w disc o hr with h | h
  · rw [h]
  · rw [h, receive__sent]

def projSt : St → Ws.S
  | .handshake => .handshake
  | .accepted => .accepted
  | .closed => .closed

def projKey : Key → Ws.Kind
  | .text => .text
  | .bytes => .bytes

/-- a well-formed client event: a frame with exactly one payload, or the disconnect (`Ws` has no kind for a frame with no or two payloads) -/
def InEv.std : InEv → Bool
  | .frame .val .missing | .frame .val .none | .frame .missing .val | .frame .none .val => true
  | .disconnect _ => true
  | _ => false

/-- `Wt` does not model what `receive_media` does with the payload it chose: for `Ws` every text frame is valid JSON, and the refinement
    theorems take `binMediaOk = true` -/
def projEv : InEv → Ws.InEv
  | .frame .val _ => .text true
  | .frame _ _ => .bytes
  | .disconnect c => .disconnect c

/-- the `Ws` object of a `Wt` object; `b` supplies the configuration (spec version, options, what was sent before) -/
def proj (b : Ws.W) (w : W) : Ws.W :=
  { b with st := projSt w.st, closeCode := w.closeCode, sent := b.sent ++ w.sent.map (fun k => (Ws.Ev.send (projKey k), true)),
           inbox := w.inbox.map projEv }

def projExc : Exc → Ws.Exc
  | .notAllowed => .notAllowed
  | .disconnected c => .disconnected c
  | .payloadType => .payloadType
  | .typeErr | .serErr | .srvErr => .pyErr

def projOut : Out → Option Ws.Exc
  | .err e => some (projExc e)
  | _ => none

def projOp : Op → Ws.Op
  | .sendText _ => .send .text
  | .sendData _ => .send .bytes
  | .sendMedia pt _ => .send (if pt == .text then .text else .bytes)
  | .recvText => .recv .text
  | .recvData => .recv .data
  | .recvMedia => .recv .media

theorem wsdCode_eq (c : Option Int) : wsdCode c = Ws.wsdCode c := by cases c <;> rfl

theorem projOp_send (o : Op) (hs : o.isSend = true) : projOp o = .send (projKey o.key) := by
  cases o with
  | sendMedia pt ok => cases pt <;> rfl
  | sendText a => rfl
  | sendData a => rfl
  | _ => cases hs

theorem stateErr_proj (b : Ws.W) (w : W) (hst : w.st ≠ .accepted) :
    (proj b w).requireAccepted = some (projExc (stateErr w)) := by
  unfold Ws.W.requireAccepted stateErr proj
  cases h : w.st with
  | accepted => exact absurd h hst
  | handshake => rfl
  | closed => exact congrArg (fun c => some (Ws.Exc.disconnected c)) (wsdCode_eq _).symm

/-- `_send` of an accepted connection is `Ws`'s `_send` with a server whose `send` returns -/
theorem send__refines (b : Ws.W) (hf : b.failAt = none) (w : W) (disc : Option Int) (k : Key) (hst : w.st = .accepted) :
    (proj b w).send_ disc (.send (projKey k)) = (proj b (w.send_ disc k).1, projOut (w.send_ disc k).2) := by
  cases disc with
  | some c => rw [send__flag]; exact congrArg (fun x => (_, some (Ws.Exc.disconnected x))) (wsdCode_eq _).symm
  | none =>
    rw [send__clear w k hst]
    simp [Ws.W.send_, Ws.W.asgiSend, Ws.W.refuses, proj, hst, projSt, hf, projOut]

def Op.recvKind : Op → Ws.RecvKind
  | .recvData => .data
  | .recvMedia => .media
  | _ => .text

theorem projOp_recv (o : Op) (hr : o.isSend = false) : projOp o = .recv o.recvKind := by
  cases o with
  | sendText _ | sendData _ | sendMedia _ _ => cases hr
  | _ => rfl

theorem pick_refines (o : Op) (hr : o.isSend = false) (t b : Fld) (hstd : (InEv.frame t b).std = true) :
    Ws.recvExc true o.recvKind (projEv (.frame t b)) = projOut (o.pick t b) := by
  cases o with
  | sendText _ | sendData _ | sendMedia _ _ => cases hr
  | _ => cases t <;> cases b <;> first | rfl | cases hstd

theorem recv_refines (b : Ws.W) (hp : b.pumpStopped = false) (hm : b.binMediaOk = true) (w : W) (disc : Option Int) (o : Op)
    (hr : o.isSend = false) (hst : w.st = .accepted) (hstd : ∀ e ∈ w.inbox, e.std = true) :
    (proj b w).op disc (projOp o) = (proj b (w.op disc o).1, projOut (w.op disc o).2) := by
  have hst' : (proj b w).st = .accepted := by show projSt w.st = _; rw [hst]; rfl
  rw [op_recv w disc o hr hst, projOp_recv o hr]
  show (proj b w).recv o.recvKind = _
  cases hin : w.inbox with
  | nil =>
    rw [receive__nil hin]
    exact Ws.recv_nil _ _ hst' hp (by show w.inbox.map projEv = []; rw [hin]; rfl)
  | cons e rest =>
    have he := hstd e (hin ▸ List.mem_cons_self ..)
    have hin' : (proj b w).inbox = projEv e :: rest.map projEv := by show w.inbox.map projEv = _; rw [hin]; rfl
    cases e with
    | disconnect c =>
      rw [receive__disconnect hin]
      exact Ws.recv_disconnect _ _ c _ hst' hp hin'
    | frame t b' =>
      rw [receive__frame hin, Ws.recv_message _ _ _ _ hst' hp hin' (by cases t <;> nofun)]
      exact congrArg (Prod.mk _) ((show (proj b w).binMediaOk = true from hm) ▸ pick_refines o hr t b' he)

/-- every call whose argument is of an accepted type, on well-formed client events, is exactly the step of the session model `Ws` (server `send`
    working, pump running): same new state, same close code, same event appended to what the server was handed, same error.  All `Ws` theorems
    about `sendMsg` / `recv` (`Ws.wrong_state_send`, `Ws.send_after_disconnect`, …) therefore speak about these entry points. -/
theorem op_refines_Ws (b : Ws.W) (hf : b.failAt = none) (hp : b.pumpStopped = false) (hm : b.binMediaOk = true)
    (w : W) (disc : Option Int) (o : Op) (hb : o.badArg = false) (hstd : ∀ e ∈ w.inbox, e.std = true) :
    (proj b w).op disc (projOp o) = (proj b (w.op disc o).1, projOut (w.op disc o).2) := by
  cases hs : o.isSend with
  | true =>
    rw [projOp_send o hs, op_send w disc o hs, hb]
    unfold Ws.W.op Ws.W.sendMsg
    by_cases hst : w.st = .accepted
    · rw [if_pos hst, show (proj b w).requireAccepted = none by unfold Ws.W.requireAccepted proj; rw [hst]; rfl]
      exact send__refines b hf w disc o.key hst
    · rw [if_neg hst, stateErr_proj b w hst]
      rfl
  | false =>
    by_cases hst : w.st = .accepted
    · exact recv_refines b hp hm w disc o hs hst hstd
    · rw [recv_wrong_state w disc o hs hst]
      cases o with
      | sendText _ | sendData _ | sendMedia _ _ => cases hs
      | _ => unfold projOp Ws.W.op Ws.W.recv; rw [stateErr_proj b w hst]; rfl

/-- a refused argument is invisible to the session model: the `Ws` object before and after is the same, so the session continues exactly as `Ws`
    says it would have without the call -/
theorem bad_argument_invisible_to_Ws (b : Ws.W) (w : W) (disc : Option Int) (o : Op) (hs : o.isSend = true) (hb : o.badArg = true) :
    proj b (w.op disc o).1 = proj b w := by
  rw [(bad_argument_inert w disc o hs hb).1]

/-- `receive_text()` handed a BINARY frame, in the words of `Ws`: the `Ws` step `recv text` on the event `bytes` - PayloadTypeError, the event consumed -/
example (b : Ws.W) (hp : b.pumpStopped = false) :
    (proj b { st := .accepted, inbox := [.frame .missing .val, .frame .val .missing] }).op none (.recv .text)
      = (proj b { st := .accepted, inbox := [.frame .val .missing] }, some .payloadType) := by
  simp [proj, projSt, projEv, Ws.W.op, Ws.W.recv, Ws.W.requireAccepted, Ws.W.receive_, hp]

/-- over any script and any observed flag values: wrongly typed calls can be interleaved at will without changing what the others do - the
    final object is the same, and the log only gains the error of the refused call at its place. -/
theorem run_bad_arguments_invisible (w : W) (pre post : List (Op × Option Int)) (o : Op) (d : Option Int) (hs : o.isSend = true) (hb : o.badArg = true) :
    (run w (pre ++ (o, d) :: post)).1 = (run w (pre ++ post)).1 ∧
    ∃ e, (run w (pre ++ (o, d) :: post)).2 = (run w pre).2 ++ .err e :: (run (run w pre).1 post).2 := by
  induction pre generalizing w with
  | nil =>
    obtain ⟨e, h⟩ := bad_argument_err w d o hs hb
    simp only [List.nil_append, run]
    rw [h]
    exact ⟨rfl, e, rfl⟩
  | cons x xs ih =>
    obtain ⟨o', d'⟩ := x
    obtain ⟨h1, e, h2⟩ := ih (w.op d' o').1
    simp only [List.cons_append, run]
    exact ⟨h1, e, by rw [h2]⟩

theorem send__inbox (w : W) (d : Option Int) (k : Key) : (w.send_ d k).1.inbox = w.inbox := by
  unfold W.send_
  cases d <;> dsimp only <;> split <;> rfl

theorem op_inbox (w : W) (d : Option Int) (o : Op) :
    (w.op d o).1.inbox = w.inbox ∨ ∃ e, w.inbox = e :: (w.op d o).1.inbox := by
  cases hs : o.isSend with
  | true =>
    left
    rw [op_send w d o hs]
    split
    · split
      · rfl
      · exact send__inbox w d o.key
    · rfl
  | false =>
    rcases op_recv_fst w d o hs with h | h
    · left; rw [h]
    · rw [h]
      unfold W.receive_
      split
      · left; rfl
      · right; exact ⟨_, ‹_›⟩
      · right; exact ⟨_, ‹_›⟩

/-- SESSIONS: a whole script of calls with arguments of accepted types, each caught (`except Exception`), against well-formed client events is the
    `Ws` script of the corresponding operations: same final object, same log of errors, nothing escapes. -/
theorem run_refines_Ws (b : Ws.W) (hf : b.failAt = none) (hp : b.pumpStopped = false) (hm : b.binMediaOk = true)
    (sc : List (Op × Option Int)) (w : W) (log : List (Option Ws.Exc))
    (hb : ∀ x ∈ sc, x.1.badArg = false) (hstd : ∀ e ∈ w.inbox, e.std = true) :
    Ws.runScript (proj b w) (sc.map fun x => (projOp x.1, Ws.Catch.all, x.2)) log
      = (proj b (run w sc).1, log ++ (run w sc).2.map projOut, none) := by
  induction sc generalizing w log with
  | nil => simp [Ws.runScript, run]
  | cons x xs ih =>
    obtain ⟨o, d⟩ := x
    have hstep := op_refines_Ws b hf hp hm w d o (hb (o, d) (by simp)) hstd
    have hstd' : ∀ e ∈ (w.op d o).1.inbox, e.std = true := by
      intro e he
      rcases op_inbox w d o with h | ⟨e0, h⟩
      · exact hstd e (h ▸ he)
      · exact hstd e (by rw [h]; exact List.mem_cons_of_mem _ he)
    have hb' : ∀ x ∈ xs, x.1.badArg = false := fun x hx => hb x (List.mem_cons_of_mem _ hx)
    simp only [List.map_cons, Ws.runScript, run]
    rw [hstep]
    cases hout : (w.op d o).2 with
    | sent k => simp [projOut, ih _ _ hb' hstd']
    | got k => simp [projOut, ih _ _ hb' hstd']
    | err e => simp [projOut, Ws.Catch.catches, ih _ _ hb' hstd']

example (b : Ws.W) (hf : b.failAt = none) (hp : b.pumpStopped = false) (hm : b.binMediaOk = true) :
    (Ws.runScript (proj b { st := .accepted, inbox := [.frame .missing .val, .disconnect none] })
      [(.recv .text, .all, none), (.send .text, .all, none), (.recv .data, .all, none), (.send .bytes, .all, none)] []).2.1
      = [some .payloadType, none, some (.disconnected 1000), some (.disconnected 1000)] := by
  have h := run_refines_Ws b hf hp hm [(.recvText, none), (.sendText .str, none), (.recvData, none), (.sendData .bytes, none)]
    { st := .accepted, inbox := [.frame .missing .val, .disconnect none] } [] (by decide) (by decide)
  simp only [List.map, projOp] at h
  rw [h]; rfl

end Wt
