import FalconModel.FinalizeClose
import FalconModel.FinalizeNoneProofs
/-! C05: theorems about `Fc.asgiTraceC` (FinalizeClose.lean) - the ASGI emission when `stream.close()` itself raises, on top
    of every hand-out sequence, failing stream call and failing `send` index of `Fn.asgiTraceN`:
    * `asgiTraceC_nofault` / `asgiTraceC_noclose`   without the fault (or without a close() method) the model is `Fn.asgiTraceN`;
    * `traceC_wellformed`            the framing statement of `Fn.traceN_wellformed` holds with the fault as well;
    * `traceC_closed_exactly_once`   once streaming has begun close() is called exactly once - also when that very call fails,
                                     alone or on top of a stream / send failure;
    * `traceC_closes_zero_otherwise` and never when streaming did not begin;
    * `traceC_close_fault`           a failing close() always ends `__call__` with an exception, after exactly one call, the
                                     server having received the start event and open body events only. -/
namespace Fc
open Fz Fn

theorem asgiTraceC_eq (r : Resp) (items : List Item) (c : Cfg) (hasClose : Bool) (xf : Option Nat) (cf : Bool) :
    asgiTraceC r items c hasClose xf cf = dispatch r c xf (Ev.start (asgi r c).status (asgi r c).headers)
      (fun kind _ sf => finish (Ev.start (asgi r c).status (asgi r c).headers) (if hasClose then 1 else 0) xf
        (hasClose && cf) (streamLoopN kind items sf 1 xf)) := rfl

/-- without a close() fault the model is `Fn.asgiTraceN` (so every Fn / Fz theorem applies) -/
theorem asgiTraceC_nofault (r : Resp) (items : List Item) (c : Cfg) (hasClose : Bool) (xf : Option Nat) :
    asgiTraceC r items c hasClose xf false = asgiTraceN r items c hasClose xf := by
  rw [asgiTraceC_eq, asgiTraceN_eq, Bool.and_false]

/-- a stream object without close() cannot fail in it -/
theorem asgiTraceC_noclose (r : Resp) (items : List Item) (c : Cfg) (xf : Option Nat) (cf : Bool) :
    asgiTraceC r items c false xf cf = asgiTraceN r items c false xf := by
  rw [asgiTraceC_eq, asgiTraceN_eq, Bool.false_and]

theorem traceC_wellformed (r : Resp) (items : List Item) (c : Cfg) (hasClose : Bool) (xf : Option Nat) (cf : Bool) :
    ((asgiTraceC r items c hasClose xf cf).raised = false → Complete (asgiTraceC r items c hasClose xf cf).events) ∧
    ((asgiTraceC r items c hasClose xf cf).raised = true → CutShort (asgiTraceC r items c hasClose xf cf).events) := by
  rw [asgiTraceC_eq]
  exact dispatch_wf r c xf _ _ _ fun kind _ sf => finish_wf _ _ _ _ _ _ (streamLoopN_open kind items sf 1 xf)

theorem traceC_closed_exactly_once (r : Resp) (items : List Item) (c : Cfg) (hasClose : Bool) (xf : Option Nat) (cf : Bool)
    (hb : Begun r c xf) : (asgiTraceC r items c hasClose xf cf).closes = if hasClose then 1 else 0 := by
  obtain ⟨_, _, _, h⟩ := dispatch_begun r c xf _ _ hb
  rw [asgiTraceC_eq, h]
  exact finish_closes _ _ _ _ _

/-- and never when streaming did not begin - whatever close() would have done -/
theorem traceC_closes_zero_otherwise (r : Resp) (items : List Item) (c : Cfg) (hasClose : Bool) (xf : Option Nat) (cf : Bool)
    (hb : ¬ Begun r c xf) : (asgiTraceC r items c hasClose xf cf).closes = 0 := by
  obtain ⟨_, h⟩ := dispatch_not_begun r c xf _ _ hb
  rw [asgiTraceC_eq, h]
  exact twoEvents_closes _ _ _

/-- **a failing close()**: once streaming has begun on a stream object that has close(), a close() that raises ends
    `__call__` with an exception - whatever happened before (the loop completed, the stream raised, send failed) -, the
    call was made exactly once, and what the server got is the start event followed only by body events with
    `more_body = true` (the final event is not sent) -/
theorem traceC_close_fault (r : Resp) (items : List Item) (c : Cfg) (xf : Option Nat) (hb : Begun r c xf) :
    (asgiTraceC r items c true xf true).raised = true ∧ (asgiTraceC r items c true xf true).closes = 1 ∧
    ∃ s h bs, (asgiTraceC r items c true xf true).events = Ev.start s h :: bs ∧ bodiesOpen bs := by
  obtain ⟨kind, _, _, h⟩ := dispatch_begun r c xf _ _ hb
  rw [asgiTraceC_eq, h, finish_eq]
  exact ⟨rfl, rfl, _, _, _, rfl, streamLoopN_open kind items _ 1 xf⟩

def exResp : Resp := { status := 200, text := none, data := none, media := none, stream := some (StreamKind.fileLike, []),
                       streamFail := none, headers := [], cookies := [] }
def exCfg : Cfg := { head := false, appDefaultType := none, respDefaultType := none, fileWrapper := false }

/-- the hypotheses of `traceC_close_fault` are satisfiable: a streamed 200, no send fault -/
example : Begun exResp exCfg none := by
  refine ⟨rfl, rfl, rfl, ?_, ?_⟩ <;> decide

/-- two chunks are streamed, close() raises: start + two open body events, no final event, one close(), exception -/
example : asgiTraceC exResp [some [97], some [98]] exCfg true none true
    = { events := [Ev.start 200 [], Ev.body [97] true, Ev.body [98] true], closes := 1, raised := true } := by decide

/-- send fails at the second body event AND close() raises: still exactly one close() -/
example : asgiTraceC exResp [some [97], some [98]] exCfg true (some 2) true
    = { events := [Ev.start 200 [], Ev.body [97] true], closes := 1, raised := true } := by decide

end Fc
