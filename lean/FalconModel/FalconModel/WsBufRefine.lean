import FalconModel.WsBufProofs
import FalconModel.WsUnbufProofs
/-! C18: both receive paths refine one specification, the plain FIFO queue `Fq`.

    * buffered (`Wb`): abstraction function `held` (queue ++ the event the pump has in hand); a `deliver m` of the server is
      `enq m`, a `recvRet m` of `receive()` is `deq m`, every other event of the log is a stutter.  Every accepted log is a run
      of the FIFO queue (`Wb.buffered_refines_fifo`).
    * unbuffered (`Wu`): the queue is the server's; every consuming observation is a `deq` (`Wu.unbuffered_refines_fifo`).
    Consequently both hand the application a prefix of the same arrival sequence (`buffered_unbuffered_agree`).
    `Fq` itself and the refinement segment by segment (`Wb.segment_refines`) are in WsBufProofs.lean. -/

namespace Wb

/-- **C18 `buffered_refines_fifo`**: every log the trace-inclusion checker accepts (any interleaving of pump, receive, cancel and
    send segments; no `stop()`), read as FIFO operations (`deliver m` ↦ `enq m`, `recvRet m` ↦ `deq m`), is a run of the plain
    FIFO queue from `held` before to `held` after: each message `receive()` returns was, at that very moment, the oldest event
    the framework held -/
theorem buffered_refines_fifo : ∀ (fuel : Nat) (s : S) (log : List Ev) (i : Nat) (s' : S),
    accept fuel s log i = .ok s' → Ev.stop ∉ log → Fq.run (held s) (ops log) = some (held s') := by
  intro fuel s log i s' h hns
  exact (accept_refines fuel s log i s' h hns).1

example : (accept 40 { cap := 1 } [.pull, .deliver 0, .append 0, .pull, .deliver 1, .mkfutPump, .recvStart, .popleft 0,
      .resolvePump, .recvRet 0] 0).toOption.map held = some [1] ∧
    Fq.run [] (ops [.pull, .deliver 0, .append 0, .pull, .deliver 1, .mkfutPump, .recvStart, .popleft 0, .resolvePump,
      .recvRet 0]) = some [1] := by decide +kernel

/-- from a fresh receiver: what `receive()` returned is a prefix of what the server delivered, the rest is still held -/
theorem returned_prefix_delivered (fuel cap : Nat) (log : List Ev) (i : Nat) (s' : S)
    (h : accept fuel { cap := cap } log i = .ok s') (hns : Ev.stop ∉ log) :
    returned log ++ held s' = delivered log := by
  have hr := buffered_refines_fifo fuel _ log i s' h hns
  have := Fq.run_sound _ _ _ hr
  rw [ops_deqs, ops_enqs] at this
  simpa [held] using this

end Wb

namespace Wu

/-- the FIFO operations the observations of a run stand for: each consuming observation dequeues that event -/
def ops (out : List Obs) : List Fq.Op := (out.filterMap Obs.id?).map Fq.Op.deq

/-- **C18 `unbuffered_refines_fifo`**: after every schedule the consuming observations of the application, read as dequeues, are
    a run of the plain FIFO queue that starts with the arrival sequence (the server's queue) and ends with what is still at the
    server -/
theorem unbuffered_refines_fifo (arrived : List CEv) (ls : List Label) (s : S) (hr : runFrom (init arrived) ls = some s) :
    Fq.run (arrived.map CEv.id) (ops s.out) = some (s.pending.map CEv.id) := by
  obtain ⟨_, h2, h3⟩ := fifo_lossless_once arrived ls s hr
  have : ops s.out = (s.taken.map CEv.id).map Fq.Op.deq := by
    unfold ops; unfold observed at h3; rw [h3]
  rw [this, ← h2, List.map_append]
  exact Fq.run_deq_prefix _ _

/-- **C18 `buffered_unbuffered_agree`**: feed the same arrival sequence to a buffered receiver (any capacity, any accepted log
    without `stop()`, the server having delivered some prefix `dl` of it) and to an unbuffered WebSocket (any schedule).  Both
    hand the application a prefix of the arrival sequence; so whenever they have consumed the same number of events they have
    consumed the same events in the same order -/
theorem buffered_unbuffered_agree (arrived : List Wu.CEv) (fuel cap : Nat) (log : List Wb.Ev) (i : Nat) (sb : Wb.S)
    (hb : Wb.accept fuel { cap := cap } log i = .ok sb) (hns : Wb.Ev.stop ∉ log)
    (rest : List Nat) (hd : Wb.delivered log ++ rest = arrived.map Wu.CEv.id)
    (ls : List Wu.Label) (su : Wu.S) (hu : Wu.runFrom (Wu.init arrived) ls = some su)
    (hlen : (Wb.returned log).length = (Wu.observed su).length) :
    Wb.returned log = Wu.observed su := by
  have h1 := Wb.returned_prefix_delivered fuel cap log i sb hb hns
  have h2 := (Wu.fifo_lossless_once arrived ls su hu).1
  have : Wb.returned log ++ (Wb.held sb ++ rest) = Wu.observed su ++ su.pending.map Wu.CEv.id := by
    rw [← List.append_assoc, h1, hd, h2]
  exact List.append_inj_left this hlen

end Wu
