import FalconModel.SharedMemo
/-! C19(c) proofs: a shared bounded memo of a pure function is transparent under every schedule, capacity and store
    policy; racing lazy initialisation with one deterministic value is indistinguishable from eager initialisation. -/
namespace Sm

variable {K V : Type} [DecidableEq K]

/-- every entry of the table is `(k, f k)` -/
def Coh (f : K → V) (t : Table K V) : Prop := ∀ e ∈ t, e.2 = f e.1

/-- what a thread holds in its hands is `f` of its key -/
def GoodPc (f : K → V) : Pc K V → Prop
  | .storing k v => v = f k
  | .returned k v => v = f k
  | _ => True

structure Inv (cap : Nat) (f : K → V) (s : St K V) : Prop where
  coh : Coh f s.table
  pcs : ∀ i, GoodPc f (s.pcs i)
  log : ∀ r ∈ s.log, r.2.2 = f r.2.1
  bound : s.table.length ≤ cap

theorem find_coh (f : K → V) (t : Table K V) (h : Coh f t) (k : K) (v : V) (hf : find t k = some v) : v = f k := by
  unfold find at hf
  split at hf
  · rename_i e he
    have hm := List.mem_of_find?_eq_some he
    have hk : e.1 = k := eq_of_beq (List.find?_some (p := fun (e : K × V) => e.1 == k) he)
    injection hf with hf
    rw [← hf, h e hm, hk]
  · cases hf

theorem erase_coh (f : K → V) (t : Table K V) (h : Coh f t) (k : K) : Coh f (erase t k) := by
  intro e he
  exact h e (List.mem_filter.mp he).1

theorem erase_length (t : Table K V) (k : K) : (erase t k).length ≤ t.length := List.length_filter_le _ _

theorem find_some_erase_lt (t : Table K V) (k : K) (h : (find t k).isSome) : (erase t k).length < t.length := by
  unfold find at h
  split at h
  · rename_i e he
    have hm := List.mem_of_find?_eq_some he
    have hk : (e.1 == k) = true := List.find?_some (p := fun (e : K × V) => e.1 == k) he
    unfold erase
    apply List.length_filter_lt_length_iff_exists.mpr
    exact ⟨e, hm, by simp [hk]⟩
  · cases h

omit [DecidableEq K] in
theorem cons_coh (f : K → V) (t : Table K V) (h : Coh f t) (k : K) (v : V) (hv : v = f k) : Coh f ((k, v) :: t) := by
  intro e he
  rcases List.mem_cons.mp he with rfl | he
  · exact hv
  · exact h e he

/-- what the store step does to the table, whatever the policy choice `c`: nothing, or the new entry in front of entries
    that were there before - never more than `cap` in all -/
theorem store_cases (cap c : Nat) (t : Table K V) (k : K) (v : V) :
    store cap c t k v = t ∨
    ∃ t', store cap c t k v = (k, v) :: t' ∧ (∀ e ∈ t', e ∈ t) ∧ (t.length ≤ cap → t'.length < cap) := by
  rw [store]
  by_cases h0 : cap = 0
  · rw [if_pos h0]; exact Or.inl rfl
  rw [if_neg h0]
  by_cases hp : (find t k).isSome = true
  · rw [if_pos hp]
    by_cases hc : c % 2 = 0
    · rw [if_pos hc]; exact Or.inl rfl
    · rw [if_neg hc]
      exact Or.inr ⟨_, rfl, fun e he => (List.mem_filter.mp he).1, fun hb => Nat.lt_of_lt_of_le (find_some_erase_lt t k hp) hb⟩
  rw [if_neg hp]
  by_cases hroom : t.length < cap
  · rw [if_pos hroom]; exact Or.inr ⟨t, rfl, fun _ he => he, fun _ => hroom⟩
  rw [if_neg hroom]
  by_cases hc : c = 0
  · rw [if_pos hc]; exact Or.inl rfl
  · rw [if_neg hc]
    refine Or.inr ⟨_, rfl, fun e he => List.mem_of_mem_eraseIdx he, fun hb => ?_⟩
    have hpos : 0 < t.length := Nat.lt_of_lt_of_le (Nat.pos_of_ne_zero h0) (Nat.le_of_not_lt hroom)
    rw [List.length_eraseIdx, if_pos (Nat.mod_lt _ hpos)]
    exact Nat.lt_of_lt_of_le (Nat.sub_lt hpos Nat.one_pos) hb

/-- the store step keeps the table coherent whatever the policy choice `c` -/
theorem store_coh (cap c : Nat) (f : K → V) (t : Table K V) (h : Coh f t) (k : K) (v : V) (hv : v = f k) :
    Coh f (store cap c t k v) := by
  rcases store_cases cap c t k v with e | ⟨t', e, hsub, _⟩
  · rw [e]; exact h
  · rw [e]; exact cons_coh f t' (fun x hx => h x (hsub x hx)) k v hv

/-- ... and never lets it grow beyond `cap` -/
theorem store_bound (cap c : Nat) (t : Table K V) (hb : t.length ≤ cap) (k : K) (v : V) :
    (store cap c t k v).length ≤ cap := by
  rcases store_cases cap c t k v with e | ⟨t', e, _, hlen⟩
  · rw [e]; exact hb
  · rw [e]; exact hlen hb

omit [DecidableEq K] in
theorem setPc_good (f : K → V) (s : St K V) (i : Nat) (pc : Pc K V) (h : ∀ j, GoodPc f (s.pcs j)) (hpc : GoodPc f pc) :
    ∀ j, GoodPc f (setPc s i pc j) := by
  intro j
  unfold setPc
  by_cases hj : j = i
  · simp only [hj, if_true]; exact hpc
  · simp only [hj, if_false]; exact h j

omit [DecidableEq K] in
theorem log_snoc (f : K → V) (l : List (Nat × K × V)) (h : ∀ r ∈ l, r.2.2 = f r.2.1) (i : Nat) (k : K) (v : V) (hv : v = f k) :
    ∀ r ∈ l ++ [(i, k, v)], r.2.2 = f r.2.1 := by
  intro r hr
  rcases List.mem_append.mp hr with hr | hr
  · exact h r hr
  · have : r = (i, k, v) := by simpa using hr
    subst this; exact hv

/-- **one step of any thread (or a `cache_clear()`) preserves the invariant**, for every capacity, choice and key -/
theorem step_inv (cap : Nat) (f : K → V) (storable : V → Bool) (s : St K V) (a : Act K) (h : Inv cap f s) :
    Inv cap f (step cap f storable s a) := by
  cases a with
  | call i k =>
    simp only [step]
    split
    · exact ⟨h.coh, setPc_good f s i _ h.pcs trivial, h.log, h.bound⟩
    · exact ⟨h.coh, setPc_good f s i _ h.pcs trivial, h.log, h.bound⟩
    · exact h
  | step i c =>
    simp only [step]
    have hgi := h.pcs i
    split
    · exact h
    · exact h
    · rename_i k hk
      split
      · rename_i v hv
        have hvf : v = f k := find_coh f s.table h.coh k v hv
        refine ⟨cons_coh f _ (erase_coh f _ h.coh k) k v hvf, setPc_good f s i _ h.pcs hvf, log_snoc f _ h.log i k v hvf, ?_⟩
        exact Nat.le_trans (Nat.succ_le_of_lt (find_some_erase_lt s.table k (by rw [hv]; rfl))) h.bound
      · exact ⟨h.coh, setPc_good f s i _ h.pcs trivial, h.log, h.bound⟩
    · rename_i k hk
      split
      · exact ⟨h.coh, setPc_good f s i _ h.pcs rfl, h.log, h.bound⟩
      · exact ⟨h.coh, setPc_good f s i _ h.pcs rfl, log_snoc f _ h.log i k _ rfl, h.bound⟩
    · rename_i k v hk
      rw [hk] at hgi
      exact ⟨store_coh cap c f _ h.coh k v hgi, setPc_good f s i _ h.pcs hgi, log_snoc f _ h.log i k v hgi,
             store_bound cap c _ h.bound k v⟩
  | clear =>
    exact ⟨fun e he => absurd he List.not_mem_nil, h.pcs, h.log, Nat.zero_le _⟩

theorem exec_inv (cap : Nat) (f : K → V) (storable : V → Bool) : ∀ (acts : List (Act K)) (s : St K V),
    Inv cap f s → Inv cap f (exec cap f storable s acts) := by
  intro acts
  induction acts with
  | nil => intro s h; exact h
  | cons a rest ih => intro s h; exact ih _ (step_inv cap f storable s a h)

omit [DecidableEq K] in
theorem init_inv (cap : Nat) (f : K → V) : Inv cap f ({} : St K V) :=
  ⟨fun _ he => absurd he List.not_mem_nil, fun _ => trivial, fun _ hr => absurd hr List.not_mem_nil, Nat.zero_le _⟩

/-- **`memo_transparent`**: for EVERY schedule of calls, thread steps and `cache_clear()`s, every capacity and every store
    policy (the choices inside the schedule): every completed call for key `k` returned `f k` (whether it was a hit on an
    entry stored by another thread, a miss, or raced with another computation of the same key), the value a thread is
    about to return or store is `f` of its key, the table only ever holds pairs `(k, f k)` and never more than `cap` of them -/
theorem memo_transparent (cap : Nat) (f : K → V) (storable : V → Bool) (acts : List (Act K)) :
    let s := exec cap f storable {} acts
    (∀ i k v, (i, k, v) ∈ s.log → v = f k) ∧ (∀ i k v, s.pcs i = .returned k v → v = f k) ∧
    (∀ e ∈ s.table, e.2 = f e.1) ∧ s.table.length ≤ cap := by
  have h := exec_inv cap f storable acts {} (init_inv cap f)
  refine ⟨fun i k v hm => h.log (i, k, v) hm, fun i k v hp => ?_, h.coh, h.bound⟩
  have := h.pcs i; rw [hp] at this; exact this

/-- the LRU replay is one of the schedules `memo_transparent` quantifies over -/
theorem execLru_is_exec (cap : Nat) (f : K → V) (storable : V → Bool) : ∀ (acts : List (Act K)) (s : St K V),
    ∃ acts', execLru cap f storable s acts = exec cap f storable s acts' := by
  intro acts
  induction acts with
  | nil => intro s; exact ⟨[], rfl⟩
  | cons a rest ih =>
    intro s
    cases a with
    | call i k =>
      obtain ⟨r, hr⟩ := ih (step cap f storable s (.call i k))
      exact ⟨.call i k :: r, hr⟩
    | step i c =>
      obtain ⟨r, hr⟩ := ih (step cap f storable s (.step i (lruChoice s.table)))
      exact ⟨.step i (lruChoice s.table) :: r, hr⟩
    | clear =>
      obtain ⟨r, hr⟩ := ih (step cap f storable s .clear)
      exact ⟨.clear :: r, hr⟩

theorem memo_transparent_lru (cap : Nat) (f : K → V) (storable : V → Bool) (acts : List (Act K)) :
    let s := execLru cap f storable {} acts
    (∀ i k v, (i, k, v) ∈ s.log → v = f k) ∧ (∀ e ∈ s.table, e.2 = f e.1) ∧ s.table.length ≤ cap := by
  obtain ⟨acts', h⟩ := execLru_is_exec cap f storable acts ({} : St K V)
  have := memo_transparent cap f storable acts'
  simp only [h]
  exact ⟨this.1, this.2.2.1, this.2.2.2⟩

/-- progress (non-vacuity of "completed call"): a thread that is not inside a call, once it calls and is scheduled three
    times, has returned `f k` - whatever the table contains and whatever the other threads did before -/
theorem call_completes (cap : Nat) (f : K → V) (storable : V → Bool) (s : St K V) (hinv : Inv cap f s) (i : Nat) (k : K)
    (c1 c2 c3 : Nat) (hidle : s.pcs i = .idle ∨ ∃ k' v', s.pcs i = .returned k' v') :
    (exec cap f storable s [.call i k, .step i c1, .step i c2, .step i c3]).pcs i = .returned k (f k) := by
  have h1 : (step cap f storable s (.call i k)).pcs i = .looking k := by
    rcases hidle with h | ⟨k', v', h⟩ <;> simp [step, h, setPc]
  have hinv1 := step_inv cap f storable s (.call i k) hinv
  simp only [exec, List.foldl_cons, List.foldl_nil]
  generalize step cap f storable s (.call i k) = s1 at h1 hinv1 ⊢
  -- first step: hit or miss
  cases hf : find s1.table k with
  | some v =>
    have hv : v = f k := find_coh f _ hinv1.coh k v hf
    have h2 : (step cap f storable s1 (.step i c1)).pcs i = .returned k (f k) := by
      simp [step, h1, hf, setPc, hv]
    have h3 : (step cap f storable (step cap f storable s1 (.step i c1)) (.step i c2)).pcs i = .returned k (f k) := by
      generalize step cap f storable s1 (.step i c1) = s2 at h2
      simp [step, h2]
    generalize step cap f storable (step cap f storable s1 (.step i c1)) (.step i c2) = s3 at h3
    simp [step, h3]
  | none =>
    have h2 : (step cap f storable s1 (.step i c1)).pcs i = .computing k := by
      simp [step, h1, hf, setPc]
    generalize step cap f storable s1 (.step i c1) = s2 at h2
    by_cases hs : storable (f k) = true
    · have h3 : (step cap f storable s2 (.step i c2)).pcs i = .storing k (f k) := by
        simp [step, h2, hs, setPc]
      generalize step cap f storable s2 (.step i c2) = s3 at h3
      simp [step, h3, setPc]
    · have h3 : (step cap f storable s2 (.step i c2)).pcs i = .returned k (f k) := by
        simp [step, h2, hs, setPc]
      generalize step cap f storable s2 (.step i c2) = s3 at h3
      simp [step, h3]

#print axioms memo_transparent
#print axioms call_completes

/-! ### non-vacuity: concrete interleavings (f = (· * 10) on Nat keys, everything storable) -/
section examples
def f10 : Nat → Nat := fun k => k * 10
def yes : Nat → Bool := fun _ => true

/-- two threads compute the same key concurrently; thread 1 stores first, thread 0's store (choice 1) overwrites it -/
example : let s := exec 2 f10 yes {} [.call 0 7, .call 1 7, .step 0 0, .step 1 0, .step 0 0, .step 1 0, .step 1 0, .step 0 1]
    s.log = [(1, 7, 70), (0, 7, 70)] ∧ s.table = [(7, 70)] ∧ s.misses = 2 ∧ s.hits = 0 := by decide

/-- capacity 2, three keys: the third store evicts (LRU choice) the least recently used key 1; key 1 is then a miss again -/
example : let s := execLru 2 f10 yes {} [.call 0 1, .step 0 0, .step 0 0, .step 0 0, .call 0 2, .step 0 0, .step 0 0, .step 0 0,
                                          .call 0 3, .step 0 0, .step 0 0, .step 0 0, .call 0 1, .step 0 0]
    s.table = [(3, 30), (2, 20)] ∧ s.pcs 0 = .computing 1 ∧ s.misses = 4 := by decide

/-- a hit on an entry stored by ANOTHER thread, then `cache_clear()` while thread 1 is between compute and store -/
example : let s := exec 4 f10 yes {} [.call 0 5, .step 0 0, .step 0 0, .step 0 0, .call 1 5, .step 1 0, .call 1 6, .step 1 0, .step 1 0,
                                       .clear, .step 1 0]
    s.log = [(0, 5, 50), (1, 5, 50), (1, 6, 60)] ∧ s.table = [(6, 60)] := by decide

/-- an incoherent table (what `lru_cache` around a function with a MUTABLE result degenerates to once a caller has mutated
    the shared document in place) breaks transparency: the hypothesis "entries are (k, f k)" is what the inventory's
    mutable-result oracle checks on the real functions -/
example : let s := exec 4 f10 yes { table := [(5, 51)] } [.call 0 5, .step 0 0]
    s.log = [(0, 5, 51)] := by decide
end examples

end Sm

namespace Lz

variable {V : Type}

/-- the cell is empty or holds `d`; whatever a thread carries or used is `d`; an empty cell means nobody is past the write -/
def GoodPc (d : V) (cell : Option V) : Pc V → Prop
  | .made v => v = d
  | .done v => v = d
  | .reread => cell = some d
  | _ => True

structure Inv (d : V) (s : St V) : Prop where
  cell : s.cell = none ∨ s.cell = some d
  pcs : ∀ i, GoodPc d s.cell (s.pcs i)

theorem GoodPc_mono (d : V) (c c' : Option V) (pc : Pc V) (h : c = some d → c' = some d) : GoodPc d c pc → GoodPc d c' pc := by
  intro g
  cases pc <;> first | exact g | exact h g

theorem run_inv (d : V) (s : St V) (i : Nat) (h : Inv d s) : Inv d (run d s i) := by
  unfold run
  have hgi := h.pcs i
  have upd : ∀ (c' : Option V) (pc' : Pc V), (s.cell = some d → c' = some d) → GoodPc d c' pc' →
      ∀ j, GoodPc d c' (if j = i then pc' else s.pcs j) := by
    intro c' pc' hc hp j
    by_cases hj : j = i
    · simp only [hj, if_true]; exact hp
    · simp only [hj, if_false]; exact GoodPc_mono d s.cell c' _ hc (h.pcs j)
  split
  · split
    · rename_i v hv
      have : v = d := by rcases h.cell with hc | hc <;> rw [hc] at hv <;> cases hv; rfl
      exact ⟨h.cell, upd s.cell _ id this⟩
    · exact ⟨h.cell, upd s.cell _ id trivial⟩
  · exact ⟨h.cell, upd s.cell _ id rfl⟩
  · rename_i v hv
    rw [hv] at hgi
    have hvd : v = d := hgi
    subst hvd
    exact ⟨Or.inr rfl, upd (some v) _ (fun _ => rfl) rfl⟩
  · split
    · rename_i hp _ v hv
      rw [hp] at hgi
      have : v = d := by
        have hgi' : s.cell = some d := hgi
        rw [hgi'] at hv; injection hv with hv; exact hv.symm
      exact ⟨h.cell, upd s.cell _ id this⟩
    · exact h
  · exact h

theorem exec_inv (d : V) : ∀ (sched : List Nat) (s : St V), Inv d s → Inv d (exec d s sched) := by
  intro sched
  induction sched with
  | nil => intro s h; exact h
  | cons i rest ih => intro s h; exact ih _ (run_inv d s i h)

/-- **`lazy_init_idempotent`**: a cell initialised lazily by any number of racing threads, each writing the same
    deterministic value `d` (several may find it empty and all of them write), is indistinguishable from a cell initialised
    eagerly: under ANY schedule `sched` of the lazy system and ANY schedule `sched'` of the eager system (cell = `some d` from
    the start) every thread that has finished used the same value, namely `d`; the lazy cell never holds anything but `d` -/
theorem lazy_init_idempotent (d : V) (sched sched' : List Nat) (i j : Nat) :
    let lazy := exec d ({} : St V) sched
    let eager := exec d ({ cell := some d } : St V) sched'
    (∀ v, lazy.pcs i = .done v → v = d) ∧ (∀ w, eager.pcs j = .done w → w = d) ∧
    (lazy.cell = none ∨ lazy.cell = some d) ∧ eager.cell = some d := by
  have hl := exec_inv d sched ({} : St V) ⟨Or.inl rfl, fun _ => trivial⟩
  have he := exec_inv d sched' ({ cell := some d } : St V) ⟨Or.inr rfl, fun _ => trivial⟩
  refine ⟨fun v hv => ?_, fun w hw => ?_, hl.cell, ?_⟩
  · have := hl.pcs i; rw [hv] at this; exact this
  · have := he.pcs j; rw [hw] at this; exact this
  · -- the eager cell is never emptied
    have never : ∀ (sched : List Nat) (s : St V), s.cell = some d → Inv d s → (exec d s sched).cell = some d := by
      intro sched
      induction sched with
      | nil => intro s h _; exact h
      | cons a rest ih =>
        intro s h hi
        refine ih _ ?_ (run_inv d s a hi)
        have hg := hi.pcs a
        unfold run
        split
        · split <;> exact h
        · exact h
        · rename_i v hv; rw [hv] at hg; have : v = d := hg; subst this; rfl
        · split <;> exact h
        · exact h
    exact never sched' _ rfl ⟨Or.inr rfl, fun _ => trivial⟩

/-- progress (non-vacuity of "finished"): from any reachable state a thread scheduled four times has finished, with `d` -/
theorem lazy_completes (d : V) (s : St V) (h : Inv d s) (i : Nat) : (exec d s [i, i, i, i]).pcs i = .done d := by
  have h4 := exec_inv d [i, i, i, i] s h
  have ex : ∃ v, (exec d s [i, i, i, i]).pcs i = .done v := by
    cases hp : s.pcs i with
    | start =>
      cases hc : s.cell with
      | some v => exact ⟨v, by simp [exec, run, hp, hc]⟩
      | none => exact ⟨d, by simp [exec, run, hp, hc]⟩
    | sawNone => exact ⟨d, by simp [exec, run, hp]⟩
    | made v => exact ⟨v, by simp [exec, run, hp]⟩
    | reread =>
      have hc : s.cell = some d := by have := h.pcs i; rw [hp] at this; exact this
      exact ⟨d, by simp [exec, run, hp, hc]⟩
    | done v => exact ⟨v, by simp [exec, run, hp]⟩
  obtain ⟨v, hv⟩ := ex
  have hg := h4.pcs i
  rw [hv] at hg
  have : v = d := hg
  subst this; exact hv

#print axioms lazy_init_idempotent

/-- three threads all find the cell empty and all write; everybody uses 9 -/
example : let s := exec 9 ({} : St Nat) [0, 1, 2, 0, 1, 2, 0, 1, 2, 0, 1, 2]
    s.pcs 0 = .done 9 ∧ s.pcs 1 = .done 9 ∧ s.pcs 2 = .done 9 ∧ s.writes = 3 := by decide

end Lz
