import FalconModel.MultipartFlat
import FalconModel.ReaderPublic
/-! C13, cursor level: theorems about the flat parser `Mf.next` / `Mf.parseAll` / `Mf.parseFlat` and the reference encoder
    `Mf.encodeForm` (FalconModel/MultipartFlat.lean):
    `parse_encode` (round trip under explicit, decidable side conditions, each shown necessary by a decided witness),
    `parseAll_encode` (the same with limits that bite: the result is the spec function `expect`),
    `headers_size_limit_exact`, `headers_cap_exact`, `part_count_limit_exact`, `part_count_limit_encoded`,
    `parser_terminates`, `invalid_is_parse_error_only`. -/
namespace Mf
open Rd
open Mp (crlf crlfcrlf dashes Form parseHeaders split splitAux)

theorem firstOcc_some_iff (d A : Bytes) (p : Nat) (hd : d ≠ []) :
    firstOcc d A = some p ↔ (occ d A p ∧ ∀ j < p, ¬ occ d A j) := by
  rcases firstOcc_spec d A hd with ⟨h, hno⟩ | ⟨q, h, hq, hb⟩
  · rw [h]; constructor
    · intro x; cases x
    · rintro ⟨ho, _⟩; exact absurd ho (hno p)
  · rw [h]; constructor
    · intro x; cases x; exact ⟨hq, hb⟩
    · rintro ⟨ho, hb'⟩
      rcases Nat.lt_trichotomy q p with hlt | heq | hgt
      · exact absurd hq (hb' q hlt)
      · rw [heq]
      · exact absurd ho (hb p hgt)

def SafeFor (d c : Bytes) : Prop := firstOcc d (c ++ d) = some c.length
instance (d c : Bytes) : Decidable (SafeFor d c) := by unfold SafeFor; exact inferInstance

theorem occ_self_end (d c X : Bytes) : occ d (c ++ d ++ X) c.length := by
  unfold occ
  rw [List.append_assoc, List.drop_left, isPrefix_iff]
  exact ⟨List.take_left, by rw [List.length_append]; exact Nat.le_add_right _ _⟩

theorem safe_no_occ (d c X : Bytes) (hd : d ≠ []) (h : SafeFor d c) (j : Nat) (hj : j < c.length) : ¬ occ d (c ++ d ++ X) j := by
  rw [occ_append_left _ _ _ _ hd (by rw [List.length_append]; omega)]
  exact ((firstOcc_some_iff d (c ++ d) c.length hd).mp h).2 j hj

theorem stopAt_safe (d c X : Bytes) (n : Nat) (hd : d ≠ []) (h : SafeFor d c) :
    stopAt d (c ++ d ++ X) n = min n c.length :=
  stopAt_of_occ d _ n c.length hd (occ_self_end d c X) (fun j hj => safe_no_occ d c X hd h j hj)

theorem occ_of_take (d A : Bytes) (k : Nat) (hd : d ≠ []) (h : (A.drop k).take d.length = d) : occ d A k := by
  refine (occ_iff d A k hd).mpr ⟨h, ?_⟩
  have := congrArg List.length h
  rw [List.length_take, List.length_drop] at this
  have := List.length_pos_iff.mpr hd
  omega

theorem untilConsume_none (d A : Bytes) (n : Nat) (hd : d ≠ []) (hno : ¬ occ d A (stopAt d A n)) :
    untilConsume d A n = none :=
  if_neg fun h => hno (occ_of_take d A _ hd h)

theorem untilConsume_safe (d c X : Bytes) (n : Nat) (hd : d ≠ []) (h : SafeFor d c) (hn : c.length ≤ n) :
    untilConsume d (c ++ d ++ X) n = some (c, X) := by
  unfold untilConsume
  simp only [stopAt_safe d c X n hd h, Nat.min_eq_right hn]
  rw [← List.length_append, List.drop_left, List.append_assoc, List.drop_left, List.take_left, List.take_left, if_pos rfl]

/-- a text that is too long for the size cap: the split point is not at the delimiter -/
theorem untilConsume_short (d c X : Bytes) (n : Nat) (hd : d ≠ []) (h : SafeFor d c) (hn : n < c.length) :
    untilConsume d (c ++ d ++ X) n = none := by
  refine untilConsume_none d _ n hd ?_
  rw [stopAt_safe d c X n hd h, Nat.min_eq_left (Nat.le_of_lt hn)]
  exact safe_no_occ d c X hd h n hn

theorem contentOf_safe (d c X : Bytes) (hd : d ≠ []) (h : SafeFor d c) : contentOf d (c ++ d ++ X) = c := by
  unfold contentOf
  rw [stopAt_safe d c X _ hd h, List.append_assoc, List.length_append, Nat.min_eq_right (Nat.le_add_right _ _), List.take_left]

/-- what follows a delimiter: the closing `--` and the tail, or CRLF, a part and the next delimiter -/
def restOf (b tail : Bytes) : List Part → Bytes
  | [] => dashes ++ tail
  | p :: ps => crlf ++ (p.block ++ crlfcrlf ++ (p.content ++ (crlf ++ (dashes ++ b)) ++ restOf b tail ps))

theorem encode_eq (parts : List Part) (b pre epi : Bytes) (fin : Bool) :
    encodeForm parts b pre epi fin = pre ++ (dashes ++ b) ++ restOf b ((if fin then crlf else []) ++ epi) parts := by
  unfold encodeForm
  generalize (if fin then crlf else []) = t
  have key : ∀ ps : List Part, (ps.map (encodePart b)).flatten ++ (dashes ++ b ++ dashes) ++ t ++ epi
      = (dashes ++ b) ++ restOf b (t ++ epi) ps := by
    intro ps
    induction ps with
    | nil => simp only [List.map_nil, List.flatten_nil, restOf, List.nil_append, List.append_assoc]
    | cons p ps ih =>
      simp only [List.map_cons, List.flatten_cons, restOf, encodePart, List.append_assoc] at ih ⊢
      rw [ih]
  have := key parts
  simp only [List.append_assoc] at this ⊢
  rw [this]

/-- the header-size cap `maxHdr` allows a block of `n` bytes -/
def fits (maxHdr : Int) (n : Nat) : Prop := maxHdr = -1 ∨ n ≤ maxHdr.toNat
instance (m : Int) (n : Nat) : Decidable (fits m n) := by unfold fits; exact inferInstance

/-- the delimiter in force after this resumption -/
def delimAfter (f : Form) : Bytes := if f.prologue then crlf ++ f.delim else f.delim

theorem crlf_ne : crlf ≠ [] := by decide
theorem crlfcrlf_ne : crlfcrlf ≠ [] := by decide

theorem untilConsume_crlf0 (X : Bytes) : untilConsume crlf (crlf ++ X) 0 = some ([], X) := by
  unfold untilConsume
  have : stopAt crlf (crlf ++ X) 0 = 0 := by unfold stopAt; omega
  simp only [this, List.drop_zero, Nat.zero_add, List.take_zero]
  simp [crlf]

theorem prologue_step (f : Form) :
    (if f.prologue = true then { f with delim := crlf ++ f.delim, prologue := false } else f)
      = { f with delim := delimAfter f, prologue := false } := by
  cases f with | mk p d r mh mc fi => cases p <;> rfl

/-- resuming at `c ++ delimiter ++ "--" ++ tail`: the form ends -/
theorem next_closing (f : Form) (c tail : Bytes) (hd : f.delim ≠ []) (hs : SafeFor f.delim c) :
    ∃ f' A', next f (c ++ f.delim ++ (dashes ++ tail)) = (f', .done A') := by
  unfold next
  rw [untilConsume_safe f.delim c _ _ hd hs (by simp only [List.length_append]; omega)]
  have : ((dashes ++ tail).take 2 == dashes) = true := rfl
  simp only [this, if_true]
  exact ⟨_, _, rfl⟩

/-- the header-size cap seen as the size argument of the header read, on a text at least as long as the block -/
theorem fits_iff (mh : Int) (A : Bytes) (n : Nat) (hn : n ≤ A.length) : fits mh n ↔ n ≤ sizeArg A mh := by
  unfold fits sizeArg
  by_cases h : mh = -1
  · rw [if_pos h]; exact ⟨fun _ => hn, fun _ => Or.inl h⟩
  · rw [if_neg h]; exact ⟨fun hf => hf.resolve_left h, Or.inr⟩

/-- resuming at `c ++ delimiter ++ CRLF ++ block ++ CRLF CRLF ++ X` -/
theorem next_part (f : Form) (c block X : Bytes) (hd : f.delim ≠ []) (hs : SafeFor f.delim c)
    (hb : SafeFor crlfcrlf block) :
    next f (c ++ f.delim ++ (crlf ++ (block ++ crlfcrlf ++ X))) =
      if fits f.maxHdr block.length then
        match parseHeaders (split block crlf) [] with
        | .ok headers =>
          if f.remaining - 1 < 0 ∧ 0 < f.maxCount then
            ({ f with delim := delimAfter f, prologue := false, remaining := f.remaining - 1, finished := true }, .err .tooManyParts)
          else ({ f with delim := delimAfter f, prologue := false, remaining := f.remaining - 1 }, .part headers X)
        | .error _ => ({ f with delim := delimAfter f, prologue := false, finished := true }, .err .cte)
      else ({ f with delim := delimAfter f, prologue := false, finished := true }, .err .incompleteHeaders) := by
  unfold next
  rw [untilConsume_safe f.delim c _ _ hd hs (by simp only [List.length_append]; omega)]
  have h2 : ((crlf ++ (block ++ crlfcrlf ++ X)).take 2 == dashes) = false := rfl
  simp only [h2, Bool.false_eq_true, if_false, untilConsume_crlf0]
  rw [prologue_step]
  have hiff := fits_iff f.maxHdr (block ++ crlfcrlf ++ X) block.length
    (by rw [List.append_assoc, List.length_append]; exact Nat.le_add_right _ _)
  by_cases hfit : fits f.maxHdr block.length
  · simp only [hfit, if_true]
    rw [untilConsume_safe crlfcrlf block X _ crlfcrlf_ne hb (hiff.mp hfit)]
    simp only
    cases parseHeaders (split block crlf) [] with
    | error e => rfl
    | ok h =>
      simp only
      simp only [← Bool.decide_and, decide_eq_true_eq]
  · simp only [hfit, if_false]
    rw [untilConsume_short crlfcrlf block X _ crlfcrlf_ne hb (Nat.lt_of_not_le (mt hiff.mpr hfit))]

/-- **the specification of parsing an encoded form under limits**: parts come back one by one until a header block
    exceeds `maxHdr` ('incomplete body part headers'), a Content-Transfer-Encoding other than `binary` is met, or part number
    `maxCount + 1` is reached; the header-size check comes first, as in the code -/
def expect (maxHdr maxCount : Int) : Int → List Part → List (Headers × Bytes) × Outcome
  | _, [] => ([], .finished)
  | rem, p :: ps =>
    if fits maxHdr p.block.length then
      match parseHeaders (split p.block crlf) [] with
      | .ok h =>
        if rem - 1 < 0 ∧ 0 < maxCount then ([], .error .tooManyParts)
        else ((h, p.content) :: (expect maxHdr maxCount (rem - 1) ps).1, (expect maxHdr maxCount (rem - 1) ps).2)
      | .error _ => ([], .error .cte)
    else ([], .error .incompleteHeaders)

theorem delimAfter_ne (f : Form) (hd : f.delim ≠ []) : delimAfter f ≠ [] := by
  unfold delimAfter; split
  · simp [crlf]
  · exact hd

theorem parseLoop_encoded (b tail : Bytes) : ∀ (ps : List Part) (n : Nat) (f : Form) (c : Bytes) (acc : List (Headers × Bytes)),
    ps.length < n → f.delim ≠ [] → SafeFor f.delim c → delimAfter f = crlf ++ (dashes ++ b) →
    (∀ p ∈ ps, SafeFor crlfcrlf p.block ∧ SafeFor (crlf ++ (dashes ++ b)) p.content) →
    parseLoop n f (c ++ f.delim ++ restOf b tail ps) acc
      = (acc ++ (expect f.maxHdr f.maxCount f.remaining ps).1, (expect f.maxHdr f.maxCount f.remaining ps).2) := by
  intro ps
  induction ps with
  | nil =>
    intro n f c acc hn hd hs hda _
    cases n with
    | zero => simp at hn
    | succ m =>
      obtain ⟨f', A', hnx⟩ := next_closing f c tail hd hs
      simp only [parseLoop, restOf, hnx, expect, List.append_nil]
  | cons p ps ih =>
    intro n f c acc hn hd hs hda hsafe
    cases n with
    | zero => simp at hn
    | succ m =>
      obtain ⟨hpb, hpc⟩ := hsafe p (by simp)
      simp only [parseLoop, restOf, expect]
      rw [next_part f c p.block _ hd hs hpb]
      by_cases hfit : fits f.maxHdr p.block.length
      · simp only [hfit, if_true]
        cases hph : parseHeaders (split p.block crlf) [] with
        | error e => simp only [List.append_nil]
        | ok h =>
          simp only
          by_cases hlim : f.remaining - 1 < 0 ∧ 0 < f.maxCount
          · simp only [hlim, and_self, if_true, List.append_nil]
          · simp only [hlim, if_false]
            have hd2 : (crlf ++ (dashes ++ b)) ≠ [] := by simp [crlf]
            rw [hda, contentOf_safe _ p.content _ hd2 hpc]
            have := ih m { f with delim := crlf ++ (dashes ++ b), prologue := false, remaining := f.remaining - 1 } p.content
              (acc ++ [(h, p.content)]) (by simp at hn; omega) hd2 hpc (by simp [delimAfter])
              (fun q hq => hsafe q (by simp [hq]))
            simp only at this
            rw [this]
            simp only [List.append_assoc, List.singleton_append]
      · simp only [hfit, if_false, List.append_nil]

theorem restOf_length (b tail : Bytes) (ps : List Part) : ps.length ≤ (restOf b tail ps).length := by
  induction ps with
  | nil => simp
  | cons p ps ih =>
    have : crlf.length = 2 := rfl
    simp only [restOf, List.length_cons, List.length_append]; omega

/-- a form is **boundary-safe**: the preamble does not contain the dash-boundary before its end (more exactly: the first
    `--boundary` in `preamble ++ --boundary` is the one appended) and no content contains `CRLF--boundary` (the first one in
    `content ++ CRLF--boundary` is the one appended) -/
def BoundarySafe (parts : List Part) (b pre : Bytes) : Prop :=
  SafeFor (dashes ++ b) pre ∧ ∀ p ∈ parts, SafeFor (crlf ++ (dashes ++ b)) p.content
instance (parts : List Part) (b pre : Bytes) : Decidable (BoundarySafe parts b pre) := by unfold BoundarySafe; exact inferInstance

/-- header blocks do not contain the blank line that ends them -/
def BlocksSafe (parts : List Part) : Prop := ∀ p ∈ parts, SafeFor crlfcrlf p.block
instance (parts : List Part) : Decidable (BlocksSafe parts) := by unfold BlocksSafe; exact inferInstance

/-- **parsing an encoded form, with limits**: for every boundary-safe form, every preamble, epilogue, final CRLF or not, and
    every setting of the two limits, the flat parser yields exactly what `expect` says -/
theorem parseAll_encode (parts : List Part) (b pre epi : Bytes) (fin : Bool) (lim : Limits)
    (hb : BoundarySafe parts b pre) (hh : BlocksSafe parts) :
    parseAll (encodeForm parts b pre epi fin) b lim = expect lim.maxHdr lim.maxCount lim.maxCount parts := by
  unfold parseAll
  rw [encode_eq]
  have hlen : parts.length < (pre ++ (dashes ++ b) ++ restOf b ((if fin then crlf else []) ++ epi) parts).length + 1 := by
    have := restOf_length b ((if fin then crlf else []) ++ epi) parts
    simp only [List.length_append]; omega
  have := parseLoop_encoded b ((if fin then crlf else []) ++ epi) parts _ (initForm b lim) pre [] hlen
    (by simp [initForm, dashes]) hb.1 (by simp [delimAfter, initForm]) (fun p hp => ⟨hh p hp, hb.2 p hp⟩)
  simp only [initForm, List.nil_append] at this ⊢
  rw [this]

theorem occ_zero_iff (d l : Bytes) : occ d l 0 ↔ isPrefix d l = true := by unfold occ; simp

theorem occ_cons (d : Bytes) (h : UInt8) (t : Bytes) (j : Nat) : occ d (h :: t) (j + 1) ↔ occ d t j := by
  unfold occ; simp

theorem splitAux_skip : ∀ (l rest cur : Bytes) (m : Nat), (∀ j < l.length, ¬ occ crlf (l ++ rest) j) →
    splitAux crlf (l.length + m) (l ++ rest) cur = splitAux crlf m rest (cur ++ l)
  | [], rest, cur, m, _ => by rw [List.append_nil, List.length_nil, Nat.zero_add]; rfl
  | h :: t, rest, cur, m, hno => by
    have h0 : ¬ isPrefix crlf (h :: (t ++ rest)) = true := fun hp => hno 0 (Nat.succ_pos _) ((occ_zero_iff _ _).mpr hp)
    rw [List.cons_append, List.length_cons, Nat.add_right_comm, splitAux, if_neg h0,
      splitAux_skip t rest (cur ++ [h]) m fun j hj ho => hno (j + 1) (Nat.succ_lt_succ hj) ((occ_cons crlf h _ j).mpr ho),
      List.append_assoc, List.singleton_append]

/-- no header line contains CRLF -/
def LinesSafe (lines : List Bytes) : Prop := ∀ l ∈ lines, SafeFor crlf l
instance (lines : List Bytes) : Decidable (LinesSafe lines) := by unfold LinesSafe; exact inferInstance

theorem safe_no_occ_self (d c : Bytes) (hd : d ≠ []) (h : SafeFor d c) (j : Nat) : ¬ occ d c j := by
  intro ho
  have hlt := occ_lt_length d c j hd ho
  have hfit := ((occ_iff d c j hd).mp ho).2
  have := safe_no_occ d c [] hd h j hlt
  rw [List.append_nil] at this
  exact this ((occ_append_left d c d j hd hfit).mpr ho)

theorem splitAux_join : ∀ (lines : List Bytes) (k : Nat), lines ≠ [] → LinesSafe lines →
    splitAux crlf ((joinLines lines).length + (k + 1)) (joinLines lines) [] = lines
  | [], _, h, _ => absurd rfl h
  | [l], k, _, hs => by
    have := splitAux_skip l [] [] (k + 1) fun j _ => by
      rw [List.append_nil]; exact safe_no_occ_self crlf l crlf_ne (hs l (List.mem_singleton_self l)) j
    rw [List.append_nil] at this
    rw [joinLines, this]
    rfl
  | l :: l2 :: rest, k, _, hs => by
    have hl := splitAux_skip l (crlf ++ joinLines (l2 :: rest)) [] ((joinLines (l2 :: rest)).length + (k + 1) + 2) fun j hj => by
      rw [← List.append_assoc]; exact safe_no_occ crlf l _ crlf_ne (hs l List.mem_cons_self) j hj
    rw [joinLines, List.append_assoc, List.length_append, List.length_append, Nat.add_assoc, Nat.add_assoc,
      show crlf.length + ((joinLines (l2 :: rest)).length + (k + 1)) = (joinLines (l2 :: rest)).length + (k + 1) + 2 from
        Nat.add_comm _ _, hl]
    show ([] ++ l) :: splitAux crlf _ (joinLines (l2 :: rest)) [] = _
    rw [Nat.add_assoc, splitAux_join (l2 :: rest) (k + 1) (List.cons_ne_nil _ _) fun x hx => hs x (List.mem_cons_of_mem _ hx),
      List.nil_append]

/-- the parser sees the header lines the sender wrote -/
theorem parseHeaders_block (p : Part) (hs : LinesSafe p.lines) :
    parseHeaders (split p.block crlf) [] = headersOf p := by
  unfold headersOf Part.block
  by_cases hl : p.lines = []
  · rw [hl]; simp [joinLines, split, splitAux, parseHeaders, Mp.partition, Mp.partitionAux]
  · unfold split
    rw [splitAux_join p.lines 0 hl hs]

/-- the header lines are acceptable to the parser (no Content-Transfer-Encoding other than `binary`) -/
def okHeaders (p : Part) : Bool := match headersOf p with | .ok _ => true | .error _ => false

/-- the header dict the application sees for this part -/
def Part.headers (p : Part) : Headers := match headersOf p with | .ok h => h | .error _ => []

/-- what the application gets for an encoded part -/
def Part.parsed (p : Part) : Headers × Bytes := (p.headers, p.content)

/-- header blocks end where the sender ended them, lines are lines, and no part asks for a transfer encoding -/
def HeadersSafe (parts : List Part) : Prop :=
  ∀ p ∈ parts, SafeFor crlfcrlf p.block ∧ LinesSafe p.lines ∧ okHeaders p = true
instance (parts : List Part) : Decidable (HeadersSafe parts) := by unfold HeadersSafe; exact inferInstance

/-- the limits do not bite: every header block fits, and there are no more parts than allowed (`0` = unlimited) -/
def WithinLimits (parts : List Part) (lim : Limits) : Prop :=
  (∀ p ∈ parts, fits lim.maxHdr p.block.length) ∧ (lim.maxCount ≤ 0 ∨ (parts.length : Int) ≤ lim.maxCount)
instance (parts : List Part) (lim : Limits) : Decidable (WithinLimits parts lim) := by unfold WithinLimits; exact inferInstance

theorem headersOf_ok (p : Part) (h : okHeaders p = true) : headersOf p = .ok p.headers := by
  unfold okHeaders at h; unfold Part.headers
  cases hh : headersOf p with
  | ok x => rfl
  | error e => rw [hh] at h; simp at h

/-- the parts in front of the first one that trips a limit come back unchanged -/
theorem expect_append (maxHdr maxCount : Int) : ∀ (ps1 ps2 : List Part) (rem : Int),
    (∀ p ∈ ps1, fits maxHdr p.block.length ∧ LinesSafe p.lines ∧ okHeaders p = true) →
    (maxCount ≤ 0 ∨ (ps1.length : Int) ≤ rem) →
    expect maxHdr maxCount rem (ps1 ++ ps2)
      = (ps1.map Part.parsed ++ (expect maxHdr maxCount (rem - ps1.length) ps2).1, (expect maxHdr maxCount (rem - ps1.length) ps2).2) := by
  intro ps1
  induction ps1 with
  | nil => intro ps2 rem _ _; simp
  | cons p ps ih =>
    intro ps2 rem hall hcnt
    obtain ⟨h1, h2, h3⟩ := hall p (by simp)
    have hlim : ¬ (rem - 1 < 0 ∧ 0 < maxCount) := by
      rintro ⟨a, b⟩; rcases hcnt with h | h
      · omega
      · simp only [List.length_cons] at h; omega
    simp only [List.cons_append, expect, h1, if_true, parseHeaders_block p h2, headersOf_ok p h3, hlim, if_false]
    rw [ih ps2 (rem - 1) (fun q hq => hall q (by simp [hq]))
      (by rcases hcnt with h | h
          · exact Or.inl h
          · right; simp only [List.length_cons] at h; omega)]
    have : rem - 1 - (ps.length : Int) = rem - ((p :: ps).length : Int) := by simp only [List.length_cons]; omega
    rw [this]
    rfl

theorem expect_pass (maxHdr maxCount : Int) (ps : List Part) (rem : Int)
    (hall : ∀ p ∈ ps, fits maxHdr p.block.length ∧ LinesSafe p.lines ∧ okHeaders p = true)
    (hcnt : maxCount ≤ 0 ∨ (ps.length : Int) ≤ rem) :
    expect maxHdr maxCount rem ps = (ps.map Part.parsed, .finished) := by
  have := expect_append maxHdr maxCount ps [] rem hall hcnt
  rwa [List.append_nil, show expect maxHdr maxCount (rem - ps.length) [] = ([], .finished) from rfl, List.append_nil] at this

/-- **C13 `parse_encode`.** For every list of parts, boundary, preamble, epilogue, with or without the final CRLF: if the
    form is boundary-safe and header-safe and the limits do not bite, parsing the encoded form yields exactly the encoded
    parts - as many, in order, each with the header dict of its lines and exactly its content. -/
theorem parse_encode (parts : List Part) (b pre epi : Bytes) (fin : Bool) (lim : Limits)
    (hb : BoundarySafe parts b pre) (hh : HeadersSafe parts) (hl : WithinLimits parts lim) :
    parseFlat (encodeForm parts b pre epi fin) b lim = .ok (parts.map Part.parsed) := by
  unfold parseFlat
  rw [parseAll_encode parts b pre epi fin lim hb (fun p hp => (hh p hp).1),
    expect_pass lim.maxHdr lim.maxCount parts lim.maxCount
      (fun p hp => ⟨hl.1 p hp, (hh p hp).2.1, (hh p hp).2.2⟩) hl.2]

theorem withinLimits_noLimits (parts : List Part) : WithinLimits parts noLimits :=
  ⟨fun _ _ => Or.inl rfl, Or.inl (by decide)⟩

/-- `parse_encode` without limits (`max_body_part_count = 0`, header size uncapped) -/
theorem parse_encode_noLimits (parts : List Part) (b pre epi : Bytes) (fin : Bool)
    (hb : BoundarySafe parts b pre) (hh : HeadersSafe parts) :
    parseFlat (encodeForm parts b pre epi fin) b noLimits = .ok (parts.map Part.parsed) :=
  parse_encode parts b pre epi fin noLimits hb hh (withinLimits_noLimits parts)

/-- **`max_body_part_headers_size` at the cursor, for arbitrary text**: with the blank line first occurring `p` bytes in,
    the header read succeeds iff `p ≤ n` and then returns exactly those `p` bytes and steps over the blank line; a block of
    exactly `n` bytes passes, `n + 1` bytes fail -/
theorem headers_cap_exact (A : Bytes) (p n : Nat) (h : firstOcc crlfcrlf A = some p) :
    (p ≤ n → untilConsume crlfcrlf A n = some (A.take p, A.drop (p + 4))) ∧
    (n < p → untilConsume crlfcrlf A n = none) := by
  obtain ⟨ho, hb⟩ := (firstOcc_some_iff crlfcrlf A p crlfcrlf_ne).mp h
  have hst : stopAt crlfcrlf A n = min n p := stopAt_of_occ crlfcrlf A n p crlfcrlf_ne ho hb
  obtain ⟨ho1, ho2⟩ := (occ_iff crlfcrlf A p crlfcrlf_ne).mp ho
  unfold untilConsume
  constructor
  · intro hle
    simp only [hst, Nat.min_eq_right hle, ho1, if_true]
    rfl
  · intro hlt
    refine untilConsume_none crlfcrlf A n crlfcrlf_ne ?_
    rw [hst, Nat.min_eq_left (Nat.le_of_lt hlt)]
    exact hb n hlt

/-- without a blank line the header read fails whatever the cap -/
theorem headers_cap_none (A : Bytes) (n : Nat) (h : firstOcc crlfcrlf A = none) : untilConsume crlfcrlf A n = none := by
  rcases firstOcc_spec crlfcrlf A crlfcrlf_ne with ⟨_, hno⟩ | ⟨p, h2, _, _⟩
  · exact untilConsume_none crlfcrlf A n crlfcrlf_ne (hno _)
  · rw [h] at h2; cases h2

/-- **C13 `headers_size_limit_exact`** on encoded forms: with `max_body_part_headers_size = m ≥ 0`, parts whose header
    blocks have at most `m` bytes - in particular exactly `m` - are parsed; the first part whose block has more - in
    particular `m + 1` - raises 'incomplete body part headers' after exactly the parts before it -/
theorem headers_size_limit_exact (ps1 ps2 : List Part) (p : Part) (b pre epi : Bytes) (fin : Bool) (m : Nat)
    (hb : BoundarySafe (ps1 ++ p :: ps2) b pre) (hh : HeadersSafe (ps1 ++ p :: ps2))
    (h1 : ∀ q ∈ ps1, q.block.length ≤ m) :
    (p.block.length ≤ m → (∀ q ∈ ps2, q.block.length ≤ m) →
      parseFlat (encodeForm (ps1 ++ p :: ps2) b pre epi fin) b ⟨m, 0⟩ = .ok ((ps1 ++ p :: ps2).map Part.parsed)) ∧
    (m < p.block.length →
      parseAll (encodeForm (ps1 ++ p :: ps2) b pre epi fin) b ⟨m, 0⟩ = (ps1.map Part.parsed, .error .incompleteHeaders)) := by
  constructor
  · intro hp h2
    apply parse_encode _ _ _ _ _ _ hb hh
    refine ⟨?_, Or.inl (Int.le_refl 0)⟩
    intro q hq
    right
    simp only [List.mem_append, List.mem_cons] at hq
    rcases hq with hq | rfl | hq
    · simpa using h1 q hq
    · simpa using hp
    · simpa using h2 q hq
  · intro hp
    rw [parseAll_encode _ b pre epi fin ⟨m, 0⟩ hb (fun q hq => (hh q hq).1)]
    rw [expect_append (m : Int) 0 ps1 (p :: ps2) 0
      (fun q hq => ⟨Or.inr (by simpa using h1 q hq), (hh q (by simp [hq])).2.1, (hh q (by simp [hq])).2.2⟩) (Or.inl (Int.le_refl 0))]
    have hnf : ¬ fits (m : Int) p.block.length := by
      unfold fits; rintro (h | h)
      · omega
      · simp at h; omega
    simp only [expect, hnf, if_false, List.append_nil]

/-- **C13 `part_count_limit_exact`** on encoded forms: with `max_body_part_count = m > 0` a form of `n ≤ m` parts is parsed
    completely; a form with more parts yields exactly the first `m` and then raises 'maximum number of form body parts
    exceeded'; `m = 0` means no limit -/
theorem part_count_limit_encoded (ps1 ps2 : List Part) (p : Part) (b pre epi : Bytes) (fin : Bool) (mh : Int)
    (hb : BoundarySafe (ps1 ++ p :: ps2) b pre) (hh : HeadersSafe (ps1 ++ p :: ps2))
    (hf : ∀ q ∈ ps1 ++ p :: ps2, fits mh q.block.length) :
    (∀ m : Int, m = 0 ∨ ((ps1 ++ p :: ps2).length : Int) ≤ m →
      parseFlat (encodeForm (ps1 ++ p :: ps2) b pre epi fin) b ⟨mh, m⟩ = .ok ((ps1 ++ p :: ps2).map Part.parsed)) ∧
    (0 < ps1.length →
      parseAll (encodeForm (ps1 ++ p :: ps2) b pre epi fin) b ⟨mh, ps1.length⟩ = (ps1.map Part.parsed, .error .tooManyParts)) := by
  constructor
  · intro m hm
    apply parse_encode _ _ _ _ _ _ hb hh
    refine ⟨hf, ?_⟩
    rcases hm with h | h
    · left; show m ≤ 0; omega
    · right; exact h
  · intro hpos
    rw [parseAll_encode _ b pre epi fin _ hb (fun q hq => (hh q hq).1)]
    rw [expect_append mh (ps1.length : Int) ps1 (p :: ps2) (ps1.length : Int)
      (fun q hq => ⟨hf q (by simp [hq]), (hh q (by simp [hq])).2.1, (hh q (by simp [hq])).2.2⟩) (Or.inr (Int.le_refl _))]
    have hfp := hf p (by simp)
    obtain ⟨_, hl, hok⟩ := hh p (by simp)
    have hlim : ((ps1.length : Int) - (ps1.length : Int) - 1 < 0 ∧ (0 : Int) < (ps1.length : Int)) := by omega
    simp only [expect, hfp, if_true, parseHeaders_block p hl, headersOf_ok p hok, hlim, and_self, List.append_nil]

theorem untilConsume_shrinks (d A : Bytes) (n : Nat) (x B : Bytes) (hd : d ≠ []) (h : untilConsume d A n = some (x, B)) :
    B.length + d.length ≤ A.length := by
  unfold untilConsume at h
  simp only at h
  split at h
  · rename_i heq
    cases h
    have := ((occ_iff d A _ hd).mp (occ_of_take d A _ hd heq)).2
    rw [List.length_drop]
    omega
  · cases h

/-- the three ways a resumption can end: a part (count not exceeded; the text got shorter), the count error (budget used up
    and a limit set), or anything else -/
inductive Ends (f : Form) (A : Bytes) : Form × Out → Prop
  | part (h : Headers) (A' : Bytes) : ¬ (f.remaining - 1 < 0 ∧ 0 < f.maxCount) → (f.delim ≠ [] → A'.length < A.length) →
      Ends f A ({ f with delim := delimAfter f, prologue := false, remaining := f.remaining - 1 }, .part h A')
  | tooMany (f' : Form) : f.remaining - 1 < 0 → 0 < f.maxCount → Ends f A (f', .err .tooManyParts)
  | other (f' : Form) (o : Out) : (∀ h A', o ≠ .part h A') → o ≠ .err .tooManyParts → Ends f A (f', o)

theorem next_ends (f : Form) (A : Bytes) : Ends f A (next f A) := by
  unfold next
  rw [prologue_step]
  rcases h1 : untilConsume f.delim A A.length with _ | ⟨x0, A1⟩
  · exact .other _ _ (fun _ _ => nofun) nofun
  simp only
  by_cases hd : (A1.take 2 == dashes) = true
  · rw [if_pos hd]; exact .other _ _ (fun _ _ => nofun) nofun
  rw [if_neg hd]
  rcases h2 : untilConsume crlf A1 0 with _ | ⟨x1, A2⟩
  · exact .other _ _ (fun _ _ => nofun) nofun
  simp only
  rcases h3 : untilConsume crlfcrlf A2 (sizeArg A2 f.maxHdr) with _ | ⟨blk, A3⟩
  · exact .other _ _ (fun _ _ => nofun) nofun
  simp only
  rcases parseHeaders (split blk crlf) [] with e | hs
  · exact .other _ _ (fun _ _ => nofun) nofun
  simp only
  by_cases hlim : f.remaining - 1 < 0 ∧ 0 < f.maxCount
  · rw [← Bool.decide_and, if_pos (decide_eq_true hlim)]
    exact .tooMany _ hlim.1 hlim.2
  · rw [← Bool.decide_and, if_neg fun h => hlim (of_decide_eq_true h)]
    refine .part hs A3 hlim fun hd => ?_
    have s1 := untilConsume_shrinks _ _ _ _ _ hd h1
    have s2 := untilConsume_shrinks _ _ _ _ _ crlf_ne h2
    have s3 := untilConsume_shrinks _ _ _ _ _ crlfcrlf_ne h3
    have hdl : 0 < f.delim.length := List.length_pos_iff.mpr hd
    omega

/-- what resuming does to the frame when it yields a part (any text) -/
theorem next_part_frame (f : Form) (A : Bytes) (f' : Form) (h : Headers) (A' : Bytes) (hn : next f A = (f', .part h A')) :
    f'.remaining = f.remaining - 1 ∧ f'.maxCount = f.maxCount ∧ f'.maxHdr = f.maxHdr ∧ f'.prologue = false ∧
    f'.delim = delimAfter f ∧ ¬ (f.remaining - 1 < 0 ∧ 0 < f.maxCount) ∧ (f.delim ≠ [] → A'.length < A.length) := by
  have e := next_ends f A
  rw [hn] at e
  cases e with
  | part _ _ n1 n2 => exact ⟨rfl, rfl, rfl, rfl, rfl, n1, n2⟩
  | other _ _ no _ => exact absurd rfl (no _ _)

/-- the count error is raised only when the budget is used up and a limit is set -/
theorem next_tooMany_frame (f : Form) (A : Bytes) (f' : Form) (hn : next f A = (f', .err .tooManyParts)) :
    f.remaining - 1 < 0 ∧ 0 < f.maxCount := by
  have e := next_ends f A
  rw [hn] at e
  cases e with
  | tooMany _ h1 h2 => exact ⟨h1, h2⟩
  | other _ _ _ no => exact absurd rfl no

/-- **C13 `part_count_limit_exact` for arbitrary bodies**: whatever the body holds, with `max_body_part_count = m > 0` at most
    `m` parts are handed out, and 'maximum number of form body parts exceeded' is raised only after exactly `m` parts and
    only if `m > 0` -/
theorem parseLoop_count : ∀ (n : Nat) (f : Form) (A : Bytes) (acc : List (Headers × Bytes)),
    f.remaining = f.maxCount - acc.length → (0 < f.maxCount → (acc.length : Int) ≤ f.maxCount) →
    (0 < f.maxCount → ((parseLoop n f A acc).1.length : Int) ≤ f.maxCount) ∧
    ((parseLoop n f A acc).2 = .error .tooManyParts → 0 < f.maxCount ∧ ((parseLoop n f A acc).1.length : Int) = f.maxCount) := by
  intro n
  induction n with
  | zero => intro f A acc _ h2; exact ⟨h2, fun h => by simp [parseLoop] at h⟩
  | succ n ih =>
    intro f A acc h1 h2
    unfold parseLoop
    rcases hnx : next f A with ⟨f', o⟩
    cases o with
    | part h A' =>
      obtain ⟨n1, n2, _, _, _, n6, _⟩ := next_part_frame f A f' h A' hnx
      simp only
      have := ih f' A' (acc ++ [(h, contentOf f'.delim A')])
        (by rw [n1, n2, h1]; simp only [List.length_append, List.length_singleton]; omega)
        (by
          intro hpos; rw [n2] at hpos ⊢
          simp only [List.length_append, List.length_singleton]
          have : ¬ (f.remaining - 1 < 0) := fun hlt => n6 ⟨hlt, hpos⟩
          omega)
      rw [n2] at this
      exact this
    | done r => exact ⟨h2, fun h => by simp at h⟩
    | err e =>
      refine ⟨h2, fun h => ?_⟩
      simp only [Outcome.error.injEq] at h
      subst h
      obtain ⟨t1, t2⟩ := next_tooMany_frame f A f' hnx
      have := h2 t2
      refine ⟨t2, ?_⟩
      show (acc.length : Int) = f.maxCount
      omega

theorem part_count_limit_exact (body b : Bytes) (lim : Limits) :
    (0 < lim.maxCount → ((parseAll body b lim).1.length : Int) ≤ lim.maxCount) ∧
    ((parseAll body b lim).2 = .error .tooManyParts → 0 < lim.maxCount ∧ ((parseAll body b lim).1.length : Int) = lim.maxCount) :=
  parseLoop_count (body.length + 1) (initForm b lim) body [] (by simp [initForm]) (by intro h; simp [initForm] at h ⊢; omega)

/-- every resumption that yields a part has consumed at least the delimiter: the loop needs at most one round per byte -/
theorem parseLoop_no_fuel : ∀ (n : Nat) (f : Form) (A : Bytes) (acc : List (Headers × Bytes)),
    f.delim ≠ [] → A.length < n → (parseLoop n f A acc).2 ≠ .fuel := by
  intro n
  induction n with
  | zero => intro f A acc _ h; omega
  | succ n ih =>
    intro f A acc hd hlt
    unfold parseLoop
    rcases hnx : next f A with ⟨f', o⟩
    cases o with
    | part h A' =>
      obtain ⟨_, _, _, _, n5, _, n7⟩ := next_part_frame f A f' h A' hnx
      simp only
      exact ih f' A' _ (by rw [n5]; exact delimAfter_ne f hd) (by have := n7 hd; omega)
    | done r => simp
    | err e => simp

/-- **C13 `parser_terminates`**: on every body the loop fuel `len(body) + 1` is never exhausted (so `parseFlat` is the total
    function it appears to be: no hang, no artificial cut-off) -/
theorem parser_terminates (body b : Bytes) (lim : Limits) : (parseAll body b lim).2 ≠ .fuel :=
  parseLoop_no_fuel _ _ _ _ (by simp [initForm, dashes]) (Nat.lt_succ_self _)

/-- **C13 `invalid_is_parse_error_only`**: for EVERY body, boundary and limits the parser returns - it either reaches the
    closing delimiter (`list(form)` succeeds with the parts handed out) or raises one of the four `MultipartParseError`s
    after the parts handed out so far; there is no third outcome (`Err` has exactly these constructors, and the fuel
    fallback in `parseFlat` is dead code) -/
theorem invalid_is_parse_error_only (body b : Bytes) (lim : Limits) :
    (parseAll body b lim = ((parseAll body b lim).1, .finished) ∧ parseFlat body b lim = .ok (parseAll body b lim).1) ∨
    (∃ e : Err, (e = .structure ∨ e = .incompleteHeaders ∨ e = .cte ∨ e = .tooManyParts) ∧
      parseAll body b lim = ((parseAll body b lim).1, .error e) ∧ parseFlat body b lim = .error e) := by
  have ht := parser_terminates body b lim
  unfold parseFlat
  rcases hp : parseAll body b lim with ⟨ps, o⟩
  rw [hp] at ht
  cases o with
  | finished => left; exact ⟨rfl, rfl⟩
  | fuel => exact absurd rfl ht
  | error e => right; exact ⟨e, by cases e <;> simp, rfl, rfl⟩


theorem toList_loop (bs : ByteArray) : ∀ (m i : Nat) (r : List UInt8), bs.size - i = m →
    ByteArray.toList.loop bs i r = r.reverse ++ bs.data.toList.drop i := by
  have hsz : bs.data.toList.length = bs.size := Array.length_toList
  intro m
  induction m with
  | zero =>
    intro i r h
    rw [ByteArray.toList.loop, if_neg (Nat.not_lt.mpr (Nat.le_of_sub_eq_zero h)),
      List.drop_of_length_le (hsz ▸ Nat.le_of_sub_eq_zero h), List.append_nil]
  | succ m ih =>
    intro i r h
    have hi : i < bs.size := Nat.lt_of_sub_eq_succ h
    rw [ByteArray.toList.loop, if_pos hi, ih (i + 1) _ (by omega), List.drop_eq_getElem_cons (show i < bs.data.toList.length from hsz ▸ hi), List.reverse_cons,
      List.append_assoc, List.singleton_append]
    simp [ByteArray.get!, getElem!_pos, hi]

theorem toByteArray_toList (l : List UInt8) : l.toByteArray.toList = l := by
  rw [ByteArray.toList, toList_loop _ _ 0 [] rfl, List.reverse_nil, List.nil_append, List.drop_zero,
    List.toList_data_toByteArray]
/-- the UTF-8 bytes of a string, in a form the kernel can evaluate on a literal -/
theorem toUTF8_toList (s : String) : s.toUTF8.toList = s.toList.flatMap String.utf8EncodeChar := by
  show s.toByteArray.toList = _
  rw [← String.utf8Encode_toList, List.utf8Encode, toByteArray_toList]

theorem binary_eq : Mp.binary = [98, 105, 110, 97, 114, 121] :=
  (toUTF8_toList _).trans (by decide +kernel)

theorem hCTE_eq : Mp.hCTE = [99, 111, 110, 116, 101, 110, 116, 45, 116, 114, 97, 110, 115, 102, 101, 114, 45, 101, 110, 99, 111, 100, 105, 110, 103] :=
  (toUTF8_toList _).trans (by decide +kernel)

theorem hContentType_eq : Mp.hContentType = [99, 111, 110, 116, 101, 110, 116, 45, 116, 121, 112, 101] :=
  (toUTF8_toList _).trans (by decide +kernel)

theorem hContentDisposition_eq : Mp.hContentDisposition = [99, 111, 110, 116, 101, 110, 116, 45, 100, 105, 115, 112, 111, 115, 105, 116, 105, 111, 110] :=
  (toUTF8_toList _).trans (by decide +kernel)

/-- `Mp.parseHeaders` with the header names spelled out as byte lists (`"…".toUTF8` does not reduce in the kernel, so `decide`
    cannot evaluate `Mp.parseHeaders` on a line that has a name; this copy is proved equal and used for the decided examples) -/
def parseHeadersL : List Bytes → List (Bytes × Bytes) → Except Mp.Err (List (Bytes × Bytes))
  | [], acc => .ok acc
  | line :: rest, acc =>
    let (name, found, value) := Mp.partition line Mp.colonSp
    if found then
      let name := Mp.lowerB name
      if name == [99, 111, 110, 116, 101, 110, 116, 45, 116, 114, 97, 110, 115, 102, 101, 114, 45, 101, 110, 99, 111, 100, 105, 110, 103]
          && value != [98, 105, 110, 97, 114, 121] then .error .cte
      else if name == [99, 111, 110, 116, 101, 110, 116, 45, 116, 121, 112, 101]
          || name == [99, 111, 110, 116, 101, 110, 116, 45, 100, 105, 115, 112, 111, 115, 105, 116, 105, 111, 110]
          || name == [99, 111, 110, 116, 101, 110, 116, 45, 116, 114, 97, 110, 115, 102, 101, 114, 45, 101, 110, 99, 111, 100, 105, 110, 103] then
        parseHeadersL rest (Mp.setKey acc name value)
      else parseHeadersL rest acc
    else parseHeadersL rest acc

theorem parseHeaders_eq_L : ∀ (ls : List Bytes) (acc : List (Bytes × Bytes)), parseHeaders ls acc = parseHeadersL ls acc
  | [], acc => rfl
  | line :: rest, acc => by
    simp only [parseHeaders, parseHeadersL, hCTE_eq, binary_eq, hContentType_eq, hContentDisposition_eq,
      parseHeaders_eq_L rest]

def okHeadersL (p : Part) : Bool := match parseHeadersL p.lines [] with | .ok _ => true | .error _ => false
theorem okHeaders_eq_L (p : Part) : okHeaders p = okHeadersL p := by
  unfold okHeaders okHeadersL headersOf; rw [parseHeaders_eq_L]; cases parseHeadersL p.lines [] <;> rfl
/-- `HeadersSafe` with the literal header names: the form `decide` can evaluate -/
def HeadersSafeL (parts : List Part) : Prop :=
  ∀ p ∈ parts, SafeFor crlfcrlf p.block ∧ LinesSafe p.lines ∧ okHeadersL p = true
instance (parts : List Part) : Decidable (HeadersSafeL parts) := by unfold HeadersSafeL; exact inferInstance
theorem headersSafe_iff_L (parts : List Part) : HeadersSafe parts ↔ HeadersSafeL parts := by
  unfold HeadersSafe HeadersSafeL
  simp only [okHeaders_eq_L]

/-! ### a concrete non-trivial form meets the side conditions of `parse_encode`

    boundary `xy`, preamble `pre CRLF`, epilogue `epi`, final CRLF; part 0 has the lines
    `Content-Disposition: form-data; name="a"` and `X-Other: 1` and the content `CRLF--x` (a near miss of the delimiter);
    part 1 has `content-type: text/plain` and empty content -/
def exParts : List Part :=
  [⟨[[67, 111, 110, 116, 101, 110, 116, 45, 68, 105, 115, 112, 111, 115, 105, 116, 105, 111, 110, 58, 32, 102, 111, 114, 109, 45, 100, 97, 116, 97, 59, 32, 110, 97, 109, 101, 61, 34, 97, 34], [88, 45, 79, 116, 104, 101, 114, 58, 32, 49]], [13, 10, 45, 45, 120]⟩,
   ⟨[[99, 111, 110, 116, 101, 110, 116, 45, 116, 121, 112, 101, 58, 32, 116, 101, 120, 116, 47, 112, 108, 97, 105, 110]], []⟩]
def exB : Bytes := [120, 121]
def exPre : Bytes := [112, 114, 101, 13, 10]
def exEpi : Bytes := [101, 112, 105]

example : BoundarySafe exParts exB exPre := by decide +kernel
example : HeadersSafe exParts := (headersSafe_iff_L _).mpr (by decide +kernel)
example : WithinLimits exParts ⟨52, 2⟩ := by decide +kernel

instance exceptDecEq {ε α : Type} [DecidableEq ε] [DecidableEq α] : DecidableEq (Except ε α)
  | .ok a, .ok b => if h : a = b then isTrue (by rw [h]) else isFalse (by intro h'; cases h'; exact h rfl)
  | .error a, .error b => if h : a = b then isTrue (by rw [h]) else isFalse (by intro h'; cases h'; exact h rfl)
  | .ok _, .error _ => isFalse (by intro h; cases h)
  | .error _, .ok _ => isFalse (by intro h; cases h)

theorem headersOf_eq_L (p : Part) : headersOf p = parseHeadersL p.lines [] := parseHeaders_eq_L _ _

/-- what `parse_encode` then says about it -/
example : parseFlat (encodeForm exParts exB exPre exEpi true) exB ⟨52, 2⟩
    = .ok [([([99, 111, 110, 116, 101, 110, 116, 45, 100, 105, 115, 112, 111, 115, 105, 116, 105, 111, 110], [102, 111, 114, 109, 45, 100, 97, 116, 97, 59, 32, 110, 97, 109, 101, 61, 34, 97, 34])], [13, 10, 45, 45, 120]), ([([99, 111, 110, 116, 101, 110, 116, 45, 116, 121, 112, 101], [116, 101, 120, 116, 47, 112, 108, 97, 105, 110])], [])] := by
  refine (parse_encode exParts exB exPre exEpi true ⟨52, 2⟩ (by decide +kernel)
    ((headersSafe_iff_L _).mpr (by decide +kernel)) (by decide +kernel)).trans ?_
  simp only [exParts, List.map, Part.parsed, Part.headers, headersOf_eq_L]
  decide +kernel

/-! ### every side condition of `parse_encode` is needed (decided witnesses: all the other conditions hold, the result differs) -/

/-- a content that contains `CRLF--boundary`: the part is cut short and the rest is taken for a part with broken headers -/
example :
    let parts : List Part := [⟨[], [13, 10, 45, 45, 98]⟩]
    ¬ BoundarySafe parts [98] [] ∧ SafeFor (dashes ++ [98]) [] ∧ HeadersSafe parts ∧ WithinLimits parts noLimits ∧
    parseAll (encodeForm parts [98] [] [] false) [98] noLimits = ([([], [])], .error .incompleteHeaders) := by
  refine ⟨by decide +kernel, by decide +kernel, ?_, by decide +kernel, by decide +kernel⟩
  rw [headersSafe_iff_L]; decide +kernel

/-- a preamble that contains the dash-boundary (here followed by `--`): the form seems to end before its first part -/
example :
    let parts : List Part := [⟨[], [120]⟩]
    ¬ BoundarySafe parts [98] [45, 45, 98, 45, 45] ∧ (∀ p ∈ parts, SafeFor (crlf ++ (dashes ++ [98])) p.content) ∧ HeadersSafe parts ∧
    WithinLimits parts noLimits ∧ parseAll (encodeForm parts [98] [45, 45, 98, 45, 45] [] false) [98] noLimits = ([], .finished) := by
  refine ⟨by decide +kernel, by decide +kernel, ?_, by decide +kernel, by decide +kernel⟩
  rw [headersSafe_iff_L]; decide +kernel

/-- a header block that contains a blank line (two empty header lines: every line is CRLF-free, the block is not safe): the
    headers end early and the rest of the block is taken for content -/
example :
    let parts : List Part := [⟨[[], []], [120]⟩]
    BoundarySafe parts [98] [] ∧ ¬ SafeFor crlfcrlf (Part.block ⟨[[], []], [120]⟩) ∧ LinesSafe [[], []] ∧ WithinLimits parts noLimits ∧
    parseAll (encodeForm parts [98] [] [] false) [98] noLimits = ([([], [13, 10, 120])], .finished) ∧
    parts.map Part.parsed = [([], [120])] := by
  refine ⟨by decide +kernel, by decide +kernel, by decide +kernel, by decide +kernel, by decide +kernel, by decide +kernel⟩

/-- a header "line" that contains CRLF: the parser sees two lines, here a `content-type` the sender did not write as a line -/
example :
    let p : Part := ⟨[[120, 13, 10, 99, 111, 110, 116, 101, 110, 116, 45, 116, 121, 112, 101, 58, 32, 97]], []⟩
    ¬ LinesSafe p.lines ∧ BoundarySafe [p] [98] [] ∧ SafeFor crlfcrlf p.block ∧
    parseHeaders (split p.block crlf) [] = .ok [([99, 111, 110, 116, 101, 110, 116, 45, 116, 121, 112, 101], [97])] ∧ headersOf p = .ok [] := by
  refine ⟨by decide +kernel, by decide +kernel, by decide +kernel, ?_, ?_⟩
  · rw [parseHeaders_eq_L]; decide +kernel
  · rw [headersOf_eq_L]; decide +kernel

def cteParts : List Part := [⟨[[67, 111, 110, 116, 101, 110, 116, 45, 84, 114, 97, 110, 115, 102, 101, 114, 45, 69, 110, 99, 111, 100, 105, 110, 103, 58, 32, 98, 97, 115, 101, 54, 52]], [120]⟩]

/-- a part that asks for a transfer encoding: 'the deprecated Content-Transfer-Encoding header field is unsupported' -/
example :
    BoundarySafe cteParts [98] [] ∧ BlocksSafe cteParts ∧ (∀ p ∈ cteParts, LinesSafe p.lines) ∧ ¬ HeadersSafe cteParts ∧
    parseAll (encodeForm cteParts [98] [] [] false) [98] noLimits = ([], .error .cte) := by
  have hb : BoundarySafe cteParts [98] [] := by decide +kernel
  have hh : BlocksSafe cteParts := by decide +kernel
  refine ⟨hb, hh, by decide +kernel, fun h => absurd ((headersSafe_iff_L _).mp h) (by decide +kernel), ?_⟩
  rw [parseAll_encode _ _ _ _ _ _ hb hh]
  simp only [cteParts, expect, parseHeaders_eq_L]
  decide +kernel

/-- the limits: a 1-byte header block passes `max_body_part_headers_size = 1` and fails `0`; two parts pass
    `max_body_part_count = 2` (and `0` = unlimited) and the second one fails `1` -/
example :
    let parts : List Part := [⟨[[120]], [120]⟩, ⟨[], []⟩]
    BoundarySafe parts [98] [] ∧ HeadersSafe parts ∧
    parseAll (encodeForm parts [98] [] [] true) [98] ⟨1, 2⟩ = ([([], [120]), ([], [])], .finished) ∧
    parseAll (encodeForm parts [98] [] [] true) [98] ⟨1, 0⟩ = ([([], [120]), ([], [])], .finished) ∧
    parseAll (encodeForm parts [98] [] [] true) [98] ⟨0, 2⟩ = ([], .error .incompleteHeaders) ∧
    parseAll (encodeForm parts [98] [] [] true) [98] ⟨1, 1⟩ = ([([], [120])], .error .tooManyParts) := by
  refine ⟨by decide +kernel, by rw [headersSafe_iff_L]; decide +kernel, by decide +kernel, by decide +kernel, by decide +kernel, by decide +kernel⟩

end Mf
