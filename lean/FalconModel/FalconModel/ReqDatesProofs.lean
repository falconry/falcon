import FalconModel.ReqDates
import FalconModel.CookieOutProofs
/-! C09 proofs for `ReqDates.lean`: HTTP-date request headers.

    * `date_format_parse`: `http_date_to_dt(dt_to_http(dt)) == dt` for every `datetime` (years 1..9999, both `obs_date` settings, any process time zone);
      `date_below_1000_unpadded_not_read_back`: the C library's unpadded `%Y` rendering (`dtToHttpUnpadded`, finding F37) is not read back below the year 1000;
      `date_tz_independent`: without `obs_date` the process time zone plays no role;
    * `date_weekday_not_checked` (+ `_imf`, `date_any_weekday`): the day name is parsed but never compared with the date;
    * `rfc850_parse`, `asctime_parse`: the obsolete forms are read with `obs_date=True`; `obs_forms_rejected_by_properties`:
      the request properties answer 400 for them (known finding F30);
    * `req_date_accessors`: `req.date`, `req.if_modified_since`, `req.if_unmodified_since` are `get_header_as_datetime` of their header
      (absent → `None`, IMF-fixdate → that date-time, anything else → 400); `req_date_reads_response_date`: they read a date written by
      `dt_to_http` as the same date-time; `httpDateToDt_valid` / `reqDate_ok_valid`: a returned date-time is a real date and time of day. -/
namespace Dt
open Hp (Str)
open Cw (Civil digit pad2 natDec monName wdName)

theorem isDig_digit (n : Nat) : isDig (digit n) = true := by
  simp only [isDig, Cw.digit_toNat, Bool.and_eq_true, decide_eq_true_eq]; omega

theorem dv_digit (n : Nat) : dv (digit n) = n % 10 := by
  simp only [dv, Cw.digit_toNat]; omega

theorem isWs_digit (n : Nat) : Hp.isWs (digit n) = false := by
  simp only [Hp.isWs, Cw.digit_toNat, Bool.or_eq_false_iff, Bool.and_eq_false_iff, decide_eq_false_iff_not, beq_eq_false_iff_ne]
  omega

theorem digit_ne_zero (n : Nat) (h : n % 10 ≠ 0) : (digit n != '0') = true := by
  simp only [bne_iff_ne, ne_eq]
  intro e
  have := congrArg Char.toNat e
  rw [Cw.digit_toNat] at this
  simp at this; omega

theorem spanDig_append : ∀ (ds rest : Str), ds.all isDig = true → (∀ x ∈ rest.head?, isDig x = false) → spanDig (ds ++ rest) = (ds, rest)
  | [], [], _, _ => rfl
  | [], x :: r, _, hr => by
    have := hr x (by simp)
    simp only [List.nil_append, spanDig, this, Bool.false_eq_true, if_false]
  | d :: ds, rest, hd, hr => by
    simp only [List.all_cons, Bool.and_eq_true] at hd
    simp only [List.cons_append, spanDig, hd.1, if_true, spanDig_append ds rest hd.2 hr]

theorem pad2_allDig (n : Nat) : (pad2 n).all isDig = true := by
  simp only [pad2, List.all_cons, List.all_nil, isDig_digit, Bool.and_self]

theorem natDec_allDig (n : Nat) : (natDec n).all isDig = true := by
  induction n using Nat.strongRecOn with
  | _ n ih =>
    rw [natDec]
    split
    · simp only [List.all_cons, List.all_nil, isDig_digit, Bool.and_self]
    · simp only [List.all_append, ih (n / 10) (by omega), List.all_cons, List.all_nil, isDig_digit, Bool.and_self]

theorem numDay_pad2 (d : Nat) (h1 : 1 ≤ d) (h2 : d ≤ 31) : numDay (pad2 d) = some d := by
  simp only [pad2, numDay, dv_digit, Cw.dec2 d (by omega), h1, h2, decide_true, Bool.and_self, if_true]

theorem numHour_pad2 (n : Nat) (h : n ≤ 23) : numHour (pad2 n) = some n := by
  simp only [pad2, numHour, dv_digit, Cw.dec2 n (by omega), h, if_true]

theorem numMinute_pad2 (n : Nat) (h : n ≤ 59) : numMinute (pad2 n) = some n := by
  simp only [pad2, numMinute, dv_digit, Cw.dec2 n (by omega), h, if_true]

theorem numSecond_pad2 (n : Nat) (h : n ≤ 59) : numSecond (pad2 n) = some n := by
  have h' : n ≤ 61 := by omega
  simp only [pad2, numSecond, dv_digit, Cw.dec2 n (by omega), h', if_true]

theorem numY4_natDec (y : Nat) (h1 : 1000 ≤ y) (h2 : y ≤ 9999) : numY4 (natDec y) = some y := by
  rw [Cw.natDec_4 y h1 h2]
  simp only [numY4, dv_digit, Cw.dec4 y h2]

/-- below 1000 `'%Y'` (glibc) writes fewer than four digits -/
theorem numY4_natDec_short (y : Nat) (h : y < 1000) : numY4 (natDec y) = none := by
  rw [natDec]
  split
  · rfl
  · rw [natDec]
    split
    · rfl
    · rw [natDec, if_pos (by omega)]; rfl

theorem pad4z_allDig (y : Nat) : (pad4z y).all isDig = true := by
  simp only [pad4z, List.all_cons, List.all_nil, isDig_digit, Bool.and_self]

theorem numY4_pad4z (y : Nat) (h : y ≤ 9999) : numY4 (pad4z y) = some y := by
  simp only [pad4z, numY4, dv_digit, Cw.dec4 y h]

/-- from the year 1000 on the padded and the C library's rendering of the year coincide -/
theorem pad4z_eq_natDec (y : Nat) (h1 : 1000 ≤ y) (h2 : y ≤ 9999) : pad4z y = natDec y := (Cw.natDec_4 y h1 h2).symm

theorem numY2_pad2 (y : Nat) (h1 : 1969 ≤ y) (h2 : y ≤ 2068) : numY2 (pad2 (y % 100)) = some y := by
  simp only [pad2, numY2, dv_digit, Cw.dec2 _ (Nat.mod_lt y (by decide))]
  split <;> (congr 1; omega)

theorem scan_lit (is : List Item) (c : Char) (r : Str) (f : Fields) : scan (.lit c :: is) (c :: r) f = scan is r f := by
  simp only [scan, beq_self_eq_true, if_true]

theorem scan_lit_ne (is : List Item) (c x : Char) (r : Str) (f : Fields) (h : x ≠ c) : scan (.lit c :: is) (x :: r) f = none := by
  simp only [scan, beq_iff_eq, h, if_false]

theorem scan_ws (is : List Item) (x : Char) (r : Str) (f : Fields) (h : Hp.isWs x = false) :
    scan (.ws :: is) (' ' :: x :: r) f = scan is (x :: r) f := by
  have : Hp.isWs ' ' = true := by decide
  simp only [scan, this, if_true, List.dropWhile, h]

theorem scan_ws_not (is : List Item) (x : Char) (r : Str) (f : Fields) (h : Hp.isWs x = false) : scan (.ws :: is) (x :: r) f = none := by
  simp only [scan, h, Bool.false_eq_true, if_false]

theorem scan_wdAbbr (is : List Item) (w : Nat) (r : Str) (f : Fields) : scan (.wdAbbr :: is) (wdName w ++ r) f = scan is r f := by
  unfold wdName; split <;> rfl

theorem monName_head (m : Nat) : ∃ x t, monName m = x :: t ∧ Hp.isWs x = false := by
  unfold monName; split <;> exact ⟨_, _, rfl, by decide⟩

theorem wdName_head (w : Nat) : ∃ x t, wdName w = x :: t ∧ Hp.isWs x = false := by
  unfold wdName; split <;> exact ⟨_, _, rfl, by decide⟩

theorem scan_mon (is : List Item) (m : Nat) (h1 : 1 ≤ m) (h2 : m ≤ 12) (r : Str) (f : Fields) :
    scan (.mon :: is) (monName m ++ r) f = scan is r { f with month := m } := by
  have : m = 1 ∨ m = 2 ∨ m = 3 ∨ m = 4 ∨ m = 5 ∨ m = 6 ∨ m = 7 ∨ m = 8 ∨ m = 9 ∨ m = 10 ∨ m = 11 ∨ m = 12 := by omega
  rcases this with h | h | h | h | h | h | h | h | h | h | h | h <;> (subst h; rfl)

theorem scan_ws_mon (is : List Item) (m : Nat) (h1 : 1 ≤ m) (h2 : m ≤ 12) (r : Str) (f : Fields) :
    scan (.ws :: .mon :: is) (' ' :: (monName m ++ r)) f = scan is r { f with month := m } := by
  obtain ⟨x, t, hm, hx⟩ := monName_head m
  have : scan (.ws :: .mon :: is) (' ' :: (monName m ++ r)) f = scan (.mon :: is) (monName m ++ r) f := by
    rw [hm, List.cons_append, scan_ws _ x _ f hx]
  rw [this, scan_mon is m h1 h2 r f]

theorem headDig_cons (x : Char) (r : Str) (h : isDig x = false) : ∀ y ∈ (x :: r).head?, isDig y = false := by
  intro y hy; simp only [List.head?_cons, Option.mem_def, Option.some.injEq] at hy; subst hy; exact h

theorem headDig_nil : ∀ y ∈ ([] : Str).head?, isDig y = false := by intro y hy; simp at hy

/-- the directives that read a run of digits: how the run is valued, and the field it sets -/
def numItem : Item → Option ((Str → Option Nat) × (Fields → Nat → Fields))
  | .day => some (numDay, fun f v => { f with day := v })
  | .year4 => some (numY4, fun f v => { f with year := v })
  | .year2 => some (numY2, fun f v => { f with year := v })
  | .hour => some (numHour, fun f v => { f with hour := v })
  | .minute => some (numMinute, fun f v => { f with minute := v })
  | .second => some (numSecond, fun f v => { f with second := v })
  | _ => none

theorem scan_num {it : Item} {num : Str → Option Nat} {set : Fields → Nat → Fields} (hit : numItem it = some (num, set)) {ds : Str}
    (hd : ds.all isDig = true) {v : Nat} (hv : num ds = some v) (is : List Item) (rest : Str) (f : Fields)
    (hr : ∀ x ∈ rest.head?, isDig x = false) : scan (it :: is) (ds ++ rest) f = scan is rest (set f v) := by
  cases it <;> cases hit <;> simp only [scan, spanDig_append _ _ hd hr, hv]

theorem scan_year4 (is : List Item) (y : Nat) (h1 : 1000 ≤ y) (h2 : y ≤ 9999) (rest : Str) (f : Fields) (hr : ∀ x ∈ rest.head?, isDig x = false) :
    scan (.year4 :: is) (natDec y ++ rest) f = scan is rest { f with year := y } :=
  scan_num (it := .year4) rfl (natDec_allDig y) (numY4_natDec y h1 h2) is rest f hr

theorem scan_ws_pad4z (is : List Item) (n : Nat) (r : Str) (f : Fields) : scan (.ws :: is) (' ' :: (pad4z n ++ r)) f = scan is (pad4z n ++ r) f := by
  simp only [pad4z, List.cons_append, List.nil_append]
  exact scan_ws is _ _ f (isWs_digit _)

theorem scan_year4_short (is : List Item) (y : Nat) (h : y < 1000) (rest : Str) (f : Fields) (hr : ∀ x ∈ rest.head?, isDig x = false) :
    scan (.year4 :: is) (natDec y ++ rest) f = none := by
  simp only [scan, spanDig_append _ _ (natDec_allDig y) hr, numY4_natDec_short y h]

/-- `' ' 2DIGIT` in front of anything -/
theorem scan_ws_pad2 (is : List Item) (n : Nat) (r : Str) (f : Fields) : scan (.ws :: is) (' ' :: (pad2 n ++ r)) f = scan is (pad2 n ++ r) f := by
  simp only [pad2, List.cons_append, List.nil_append]
  exact scan_ws is _ _ f (isWs_digit _)

theorem natDec_head (n : Nat) : ∃ k t, natDec n = digit k :: t := by
  induction n using Nat.strongRecOn with
  | _ n ih =>
    rw [natDec]
    split
    · exact ⟨_, _, rfl⟩
    · obtain ⟨k, t, h⟩ := ih (n / 10) (by omega)
      exact ⟨k, t ++ [digit n], by rw [h]; rfl⟩

theorem scan_ws_natDec (is : List Item) (n : Nat) (r : Str) (f : Fields) : scan (.ws :: is) (' ' :: (natDec n ++ r)) f = scan is (natDec n ++ r) f := by
  obtain ⟨k, t, h⟩ := natDec_head n
  rw [h, List.cons_append]
  exact scan_ws is _ _ f (isWs_digit _)

def TimeOk (c : Civil) : Prop := c.hour ≤ 23 ∧ c.minute ≤ 59 ∧ c.second ≤ 59

/-- `hms` in front of a format, spelt out as it stands after unfolding the format -/
theorem scan_hms (is : List Item) (c : Civil) (ht : TimeOk c) (rest : Str) (f : Fields) (hr : ∀ x ∈ rest.head?, isDig x = false) :
    scan (.hour :: .lit ':' :: .minute :: .lit ':' :: .second :: is) (pad2 c.hour ++ ':' :: (pad2 c.minute ++ ':' :: (pad2 c.second ++ rest))) f =
      scan is rest { f with hour := c.hour, minute := c.minute, second := c.second } := by
  obtain ⟨h1, h2, h3⟩ := ht
  have hc : isDig ':' = false := by decide
  rw [scan_num (it := .hour) rfl (pad2_allDig _) (numHour_pad2 _ h1) _ _ _ (headDig_cons _ _ hc), scan_lit,
    scan_num (it := .minute) rfl (pad2_allDig _) (numMinute_pad2 _ h2) _ _ _ (headDig_cons _ _ hc), scan_lit,
    scan_num (it := .second) rfl (pad2_allDig _) (numSecond_pad2 _ h3) _ _ _ hr]


theorem daysInMonth_le (y m : Nat) : daysInMonth y m ≤ 31 := by
  unfold daysInMonth
  by_cases h : m = 2
  · subst h; cases Cw.isLeap y <;> decide
  · have h2 : (m == 2) = false := by simpa using h
    have ht : ∀ v ∈ Cw.daysInMonthTbl, v ≤ 31 := by decide
    rw [h2, Bool.false_and, if_neg (by decide), Nat.add_zero, List.getD_eq_getElem?_getD]
    cases hg : Cw.daysInMonthTbl[m]? with
    | none => exact Nat.zero_le _
    | some v => exact ht v (List.mem_of_getElem? hg)

theorem validCivil_iff (c : Civil) : validCivil c = true ↔
    (1 ≤ c.year ∧ c.year ≤ 9999 ∧ 1 ≤ c.month ∧ c.month ≤ 12 ∧ 1 ≤ c.day ∧ c.day ≤ daysInMonth c.year c.month ∧ c.hour ≤ 23 ∧ c.minute ≤ 59 ∧ c.second ≤ 59) := by
  simp only [validCivil, Bool.and_eq_true, decide_eq_true_eq, and_assoc]

theorem validCivil_fields (c : Civil) (h : validCivil c = true) :
    c.year ≤ 9999 ∧ 1 ≤ c.month ∧ c.month ≤ 12 ∧ 1 ≤ c.day ∧ c.day ≤ 31 ∧ TimeOk c := by
  obtain ⟨_, y2, m1, m2, d1, d2, t⟩ := (validCivil_iff c).mp h
  exact ⟨y2, m1, m2, d1, Nat.le_trans d2 (daysInMonth_le _ _), t⟩

theorem mkDatetime_of_valid (c : Civil) (h : validCivil c = true) :
    mkDatetime ⟨c.year, c.month, c.day, c.hour, c.minute, c.second⟩ = some c := by
  simp only [mkDatetime, h, if_true]

/-- whatever `http_date_to_dt` returns is a real calendar date and time of day -/
theorem mkDatetime_valid (f : Fields) (c : Civil) (h : mkDatetime f = some c) : validCivil c = true := by
  simp only [mkDatetime] at h
  split at h
  · cases h
    assumption
  · cases h

/-! ### `%Z`: the zone alternatives of the process -/
theorem ciPrefix_length : ∀ (n s r : Str), ciPrefix n s = some r → s.length = n.length + r.length
  | [], s, r, h => by simp only [ciPrefix, Option.some.injEq] at h; simp [h]
  | _ :: _, [], r, h => by simp [ciPrefix] at h
  | w :: ws, c :: s, r, h => by
    simp only [ciPrefix] at h
    split at h
    · have := ciPrefix_length ws s r h; simp only [List.length_cons, this]; omega
    · exact absurd h (by simp)

theorem mem_insertLen (x n : Str) : ∀ (ms : List Str), x ∈ insertLen n ms ↔ x = n ∨ x ∈ ms
  | [] => by simp [insertLen]
  | m :: ms => by
    simp only [insertLen]
    split
    · simp
    · simp only [List.mem_cons, mem_insertLen x n ms]
      exact or_left_comm

theorem mem_sortLen (x : Str) : ∀ (L : List Str), x ∈ sortLen L ↔ x ∈ L
  | [] => by simp [sortLen]
  | n :: ns => by simp only [sortLen, mem_insertLen, mem_sortLen x ns, List.mem_cons]

/-- reading `GMT` at the end of the string with an alternation that offers `gmt` and no name shorter than three letters -/
theorem firstName_gmt : ∀ (L : List Str) (k : Nat), (∀ n ∈ L, 3 ≤ n.length) → ['g', 'm', 't'] ∈ L → ∃ i, firstName L k ['G', 'M', 'T'] = some (i, [])
  | [], _, _, hg => by simp at hg
  | n :: ns, k, h3, hg => by
    simp only [firstName]
    cases hc : ciPrefix n ['G', 'M', 'T'] with
    | some r =>
      have hl := ciPrefix_length n _ r hc
      have hn := h3 n (by simp)
      simp only [List.length_cons, List.length_nil] at hl
      have : r = [] := List.eq_nil_of_length_eq_zero (by omega)
      exact ⟨k, by rw [this]⟩
    | none =>
      have hne : n ≠ ['g', 'm', 't'] := by intro e; rw [e] at hc; revert hc; decide
      have hg' : ['g', 'm', 't'] ∈ ns := by
        rcases List.mem_cons.mp hg with h | h
        · exact absurd h.symm hne
        · exact h
      exact firstName_gmt ns (k + 1) (fun x hx => h3 x (by simp [hx])) hg'

/-- time zone abbreviations have three or more letters (POSIX `TZ`) -/
def TzNamesOk (tzn : List Str) : Prop := ∀ n ∈ tzn, 3 ≤ n.length

theorem scan_zone_gmt (tzn : List Str) (h : TzNamesOk tzn) (f : Fields) : scan [.zone (zoneAlts tzn)] ['G', 'M', 'T'] f = some f := by
  have h3 : ∀ n ∈ zoneAlts tzn, 3 ≤ n.length := by
    intro n hn
    simp only [zoneAlts, mem_sortLen, List.mem_append, List.mem_cons, List.not_mem_nil, or_false] at hn
    rcases hn with (h1 | h1) | h1
    · rw [h1]; decide
    · rw [h1]; decide
    · exact h n h1
  have hg : ['g', 'm', 't'] ∈ zoneAlts tzn := by simp [zoneAlts, mem_sortLen]
  obtain ⟨i, hi⟩ := firstName_gmt _ 0 h3 hg
  simp only [scan, hi]; rfl

theorem tzNamesOk_nil : TzNamesOk [] := by intro n hn; simp at hn

example : TzNamesOk ["cet".toList] ∧ TzNamesOk ["est".toList, "edt".toList] := by
  unfold TzNamesOk
  decide

/-- everything after the day name of an IMF-fixdate with the year written as `year` -/
def imfBodyY (c : Civil) (year : Str) : Str :=
  ',' :: ' ' :: (pad2 c.day ++ ' ' :: (monName c.month ++ ' ' :: (year ++ ' ' :: (pad2 c.hour ++ ':' :: (pad2 c.minute ++ ':' ::
    (pad2 c.second ++ [' ', 'G', 'M', 'T']))))))

/-- everything after the day name as `dt_to_http` writes it: the year zero-padded to four digits -/
def imfBody (c : Civil) : Str := imfBodyY c (pad4z c.year)

theorem dtToHttp_shape (c : Civil) : dtToHttp c = wdName (civilWeekday c) ++ imfBody c := by
  simp [dtToHttp, Cw.dateTail, civilWeekday, imfBody, imfBodyY, List.append_assoc]

theorem dtToHttpUnpadded_shape (c : Civil) : dtToHttpUnpadded c = wdName (civilWeekday c) ++ imfBodyY c (natDec c.year) := by
  simp [dtToHttpUnpadded, Cw.imfDate, Cw.dateTail, civilWeekday, imfBodyY, List.append_assoc]

/-- the zero-padded and the `%Y` rendering coincide from the year 1000 on -/
theorem dtToHttp_eq_unpadded (c : Civil) (h1 : 1000 ≤ c.year) (h2 : c.year ≤ 9999) : dtToHttp c = dtToHttpUnpadded c := by
  rw [dtToHttp_shape, dtToHttpUnpadded_shape, imfBody, pad4z_eq_natDec _ h1 h2]

/-- the IMF pattern with either last directive (`GMT` literally, or `%Z`), as long as that one reads `GMT` -/
theorem strptime_imf (last : Item) (hl : ∀ f, scan [last] ['G', 'M', 'T'] f = some f) (w : Nat) (c : Civil) (hv : validCivil c = true) :
    strptime ([.wdAbbr, .lit ',', .ws, .day, .ws, .mon, .ws, .year4, .ws] ++ hms ++ [.ws, last]) (wdName w ++ imfBody c) = some c := by
  obtain ⟨y2, m1, m2, d1, d3, ht⟩ := validCivil_fields c hv
  have hsp : isDig ' ' = false := by decide
  unfold strptime imfBody imfBodyY
  simp only [hms, List.cons_append, List.nil_append]
  rw [scan_wdAbbr, scan_lit, scan_ws_pad2, scan_num (it := .day) rfl (pad2_allDig _) (numDay_pad2 _ d1 d3) _ _ _ (headDig_cons _ _ hsp), scan_ws_mon _ _ m1 m2, scan_ws_pad4z,
    scan_num (it := .year4) rfl (pad4z_allDig _) (numY4_pad4z _ y2) _ _ _ (headDig_cons _ _ hsp), scan_ws_pad2, scan_hms _ c ht _ _ (headDig_cons _ _ hsp),
    scan_ws _ 'G' _ _ (by decide), hl]
  exact mkDatetime_of_valid c hv

/-- **`date_format_parse`**: for every date-time a `datetime` object can hold (years 1..9999), in a process with any time
    zone, `http_date_to_dt(dt_to_http(dt)) == dt` (with and without `obs_date`) -/
theorem date_format_parse (tzn : List Str) (htz : TzNamesOk tzn) (obs : Bool) (c : Civil) (hv : validCivil c = true) :
    httpDateToDt tzn obs (dtToHttp c) = some c := by
  rw [dtToHttp_shape]
  cases obs with
  | false => simp only [httpDateToDt, Bool.not_false, if_true, fmtImf, strptime_imf .gmt (fun _ => rfl) _ c hv]
  | true =>
    simp only [httpDateToDt, Bool.not_true, Bool.false_eq_true, if_false, fmtImfZ, strptime_imf _ (scan_zone_gmt tzn htz) _ c hv, Option.orElse]

example : validCivil ⟨2024, 2, 29, 23, 59, 59⟩ = true ∧ dtToHttp ⟨2024, 2, 29, 23, 59, 59⟩ = "Thu, 29 Feb 2024 23:59:59 GMT".toList := by decide +kernel
example : validCivil ⟨999, 3, 1, 1, 2, 3⟩ = true ∧ dtToHttp ⟨999, 3, 1, 1, 2, 3⟩ = "Fri, 01 Mar 0999 01:02:03 GMT".toList := by decide +kernel

/-- **regression witness for F37 (fixed by 8cb1d9b)**: the rendering `dt_to_http` used before the fix — the C library's `%Y`,
    which glibc does not pad — could not be read back below the year 1000, because `%Y` of `strptime` demands exactly four digits -/
theorem date_below_1000_unpadded_not_read_back (tzn : List Str) (c : Civil) (hv : validCivil c = true) (hy : c.year < 1000) :
    httpDateToDt tzn false (dtToHttpUnpadded c) = none := by
  obtain ⟨y2, m1, m2, d1, d3, ht⟩ := validCivil_fields c hv
  have hsp : isDig ' ' = false := by decide
  rw [dtToHttpUnpadded_shape]
  simp only [httpDateToDt, Bool.not_false, if_true, strptime, fmtImf, imfBodyY, List.cons_append, List.nil_append]
  rw [scan_wdAbbr, scan_lit, scan_ws_pad2, scan_num (it := .day) rfl (pad2_allDig _) (numDay_pad2 _ d1 d3) _ _ _ (headDig_cons _ _ hsp), scan_ws_mon _ _ m1 m2, scan_ws_natDec,
    scan_year4_short _ _ hy _ _ (headDig_cons _ _ hsp)]
  rfl
/-! ### the day name is not compared with the date -/
/-- `strptime` with a format that starts with `%a` does not look at which day name it read -/
theorem strptime_wdAbbr_any (is : List Item) (w w' : Nat) (r : Str) :
    strptime (.wdAbbr :: is) (wdName w ++ r) = strptime (.wdAbbr :: is) (wdName w' ++ r) := by
  simp only [strptime, scan_wdAbbr]

theorem lower_alnum {x l : Char} (hl : Cw.isAlnum l = true) (h : Cw.asciiLower x = l) : Cw.isAlnum x = true := by
  unfold Cw.asciiLower at h
  split at h
  · rename_i hx
    simp only [Bool.and_eq_true, decide_eq_true_eq] at hx
    simp only [Cw.isAlnum, Bool.or_eq_true, Bool.and_eq_true, decide_eq_true_eq]
    left; right; exact hx
  · rw [h]; exact hl

theorem lower_ne {x : Char} (hx : Cw.isAlnum x = false) (l : Char) (hl : Cw.isAlnum l = true) : (Cw.asciiLower x == l) = false := by
  cases h : Cw.asciiLower x == l with
  | false => rfl
  | true =>
    have := lower_alnum hl (by simpa using h)
    rw [hx] at this; exact absurd this (by decide)

theorem firstName_none (s : Str) : ∀ (L : List Str) (k : Nat), (∀ n ∈ L, ciPrefix n s = none) → firstName L k s = none
  | [], _, _ => rfl
  | n :: ns, k, h => by
    simp only [firstName, h n (List.mem_cons_self ..)]
    exact firstName_none s ns _ fun x hx => h x (List.mem_cons_of_mem _ hx)

/-- a three-letter day name followed by something that is not a letter or digit is not a full day name: each of those has a
    letter in fourth place -/
theorem firstName_full_none (w : Nat) (x : Char) (r : Str) (hx : Cw.isAlnum x = false) : firstName wdFulls 0 (wdName w ++ x :: r) = none := by
  obtain ⟨a, b, c, hw⟩ := Cw.wdName_len w
  rw [hw]
  apply firstName_none
  have e1 := lower_ne hx 'd' (by decide)
  have e2 := lower_ne hx 's' (by decide)
  have e3 := lower_ne hx 'n' (by decide)
  have e4 := lower_ne hx 'r' (by decide)
  have e5 := lower_ne hx 'u' (by decide)
  simp only [wdFulls, List.forall_mem_cons, List.cons_append, List.nil_append, ciPrefix, e1, e2, e3, e4, e5, Bool.false_eq_true, if_false, ite_self,
    List.not_mem_nil, false_imp_iff, implies_true, and_self]

/-- `%A` does not read a three-letter day name that a non-letter follows -/
theorem strptime_rfc850_abbr (z : List Str) (w : Nat) (x : Char) (r : Str) (hx : Cw.isAlnum x = false) :
    strptime (fmtRfc850 z) (wdName w ++ x :: r) = none := by
  simp only [strptime, fmtRfc850, List.cons_append, scan, firstName_full_none w x r hx]; rfl

/-- **`date_weekday_not_checked`**: the day name must be one of the seven, but it is not compared with the date — every
    name gives the same result (any text after it, `obs_date` or not) -/
theorem date_weekday_not_checked (tzn : List Str) (obs : Bool) (w w' : Nat) (x : Char) (r : Str) (hx : Cw.isAlnum x = false) :
    httpDateToDt tzn obs (wdName w ++ x :: r) = httpDateToDt tzn obs (wdName w' ++ x :: r) := by
  unfold httpDateToDt
  rw [strptime_rfc850_abbr _ w x r hx, strptime_rfc850_abbr _ w' x r hx]
  simp only [strptime, fmtImf, fmtImfZ, fmtDash4, fmtAsctime, List.cons_append, scan_wdAbbr]

/-- without `obs_date` (what the request properties use) this holds for every continuation -/
theorem date_weekday_not_checked_imf (tzn : List Str) (w w' : Nat) (r : Str) :
    httpDateToDt tzn false (wdName w ++ r) = httpDateToDt tzn false (wdName w' ++ r) := by
  simp only [httpDateToDt, Bool.not_false, if_true]
  exact strptime_wdAbbr_any _ w w' r

/-- in particular a rendered date keeps its reading under every day name -/
theorem date_any_weekday (tzn : List Str) (htz : TzNamesOk tzn) (obs : Bool) (w : Nat) (c : Civil) (hv : validCivil c = true) :
    httpDateToDt tzn obs (wdName w ++ imfBody c) = some c := by
  have := date_format_parse tzn htz obs c hv
  rw [dtToHttp_shape] at this
  rw [← this]
  exact date_weekday_not_checked tzn obs w _ ',' _ (by decide)

/-- **the process time zone does not matter** without `obs_date`, i.e. for `req.date`, `req.if_modified_since`,
    `req.if_unmodified_since` and `get_header_as_datetime(…)`: the fields are taken as read and labelled UTC -/
theorem date_tz_independent (tzn : List Str) (s : Str) : httpDateToDt tzn false s = httpDateToDt [] false s := by
  simp only [httpDateToDt, Bool.not_false, if_true]

/-- 1994-11-06 was a Sunday; `Mon, 06 Nov 1994 …` is read all the same -/
example : httpDateToDt [] false "Mon, 06 Nov 1994 08:49:37 GMT".toList = some ⟨1994, 11, 6, 8, 49, 37⟩ := by decide +kernel
/-- what else `strptime` lets through: any letter case, one-digit fields, any run of `str.isspace` characters -/
example : httpDateToDt [] false "sUN,\t 6 nOV 1994 8:9:7 gmt".toList = some ⟨1994, 11, 6, 8, 9, 7⟩ := by decide +kernel
example : httpDateToDt [] false "Sun, 06 Nov 1994 08:49:37 UTC".toList = none ∧ httpDateToDt [] true "Sun, 06 Nov 1994 08:49:37 UTC".toList = some ⟨1994, 11, 6, 8, 49, 37⟩ := by decide +kernel
/-- with `obs_date=True` the process's own zone name is accepted as well (and the time is still labelled UTC) -/
example : httpDateToDt [] true "Sun, 06 Nov 1994 08:49:37 CET".toList = none ∧
    httpDateToDt ["cet".toList] true "Sun, 06 Nov 1994 08:49:37 CET".toList = some ⟨1994, 11, 6, 8, 49, 37⟩ := by decide +kernel
example : httpDateToDt [] false "Sun, 31 Nov 1994 08:49:37 GMT".toList = none ∧ httpDateToDt [] false "Sun, 06 Nov 1994 08:49:60 GMT".toList = none ∧
    httpDateToDt [] false "Sun, 06 Nov 0000 08:49:37 GMT".toList = none ∧ httpDateToDt [] false "Sun, 06 Nov 1994 08:49:37 GMT ".toList = none ∧
    httpDateToDt [] false "Thu, 29 Feb 1900 00:00:00 GMT".toList = none := by decide +kernel

theorem orElse_some_imp {α : Type} {P : α → Prop} {a : Option α} {f : Unit → Option α} (ha : ∀ c, a = some c → P c) (hf : ∀ c, f () = some c → P c)
    (c : α) (h : a.orElse f = some c) : P c := by
  cases a with
  | some v => exact ha c h
  | none => exact hf c h

/-- whatever is returned is a real date and time of day (`datetime` checked it) -/
theorem httpDateToDt_valid (tzn : List Str) (obs : Bool) (s : Str) (c : Civil) (h : httpDateToDt tzn obs s = some c) : validCivil c = true := by
  have key : ∀ fmt c, strptime fmt s = some c → validCivil c = true := by
    intro fmt c hf
    obtain ⟨f, _, hm⟩ := Option.bind_eq_some_iff.mp hf
    exact mkDatetime_valid f c hm
  unfold httpDateToDt at h
  split at h
  · exact key _ c h
  · exact orElse_some_imp (key _) (orElse_some_imp (key _) (orElse_some_imp (key _) (key _))) c h
/-! ### the obsolete forms: read with `obs_date=True`, rejected without (known finding F30) -/
theorem scan_wdFull (is : List Item) (w : Nat) (r : Str) (f : Fields) : scan (.wdFull :: is) (wdFullName w ++ r) f = scan is r f := by
  unfold wdFullName; split <;> rfl

/-- a full day name is not a three-letter name followed by a comma -/
theorem strptime_wdAbbr_comma_full (is : List Item) (w : Nat) (r : Str) : strptime (.wdAbbr :: .lit ',' :: is) (wdFullName w ++ r) = none := by
  unfold strptime wdFullName; split <;> rfl

def rfc850Body (c : Civil) : Str :=
  ',' :: ' ' :: (pad2 c.day ++ '-' :: (monName c.month ++ '-' :: (pad2 (c.year % 100) ++ ' ' :: (pad2 c.hour ++ ':' :: (pad2 c.minute ++ ':' ::
    (pad2 c.second ++ [' ', 'G', 'M', 'T']))))))

theorem rfc850_shape (c : Civil) : rfc850Date c = wdFullName (civilWeekday c) ++ rfc850Body c := by
  simp [rfc850Date, rfc850Body, timeOfDay, List.append_assoc]

theorem strptime_rfc850 (tzn : List Str) (htz : TzNamesOk tzn) (w : Nat) (c : Civil) (hv : validCivil c = true) (h1 : 1969 ≤ c.year) (h2 : c.year ≤ 2068) :
    strptime (fmtRfc850 (zoneAlts tzn)) (wdFullName w ++ rfc850Body c) = some c := by
  obtain ⟨y2, m1, m2, d1, d3, ht⟩ := validCivil_fields c hv
  have hsp : isDig ' ' = false := by decide
  have hda : isDig '-' = false := by decide
  unfold strptime fmtRfc850 rfc850Body
  simp only [hms, List.cons_append, List.nil_append]
  rw [scan_wdFull, scan_lit, scan_ws_pad2, scan_num (it := .day) rfl (pad2_allDig _) (numDay_pad2 _ d1 d3) _ _ _ (headDig_cons _ _ hda), scan_lit, scan_mon _ _ m1 m2, scan_lit,
    scan_num (it := .year2) rfl (pad2_allDig _) (numY2_pad2 _ h1 h2) _ _ _ (headDig_cons _ _ hsp), scan_ws_pad2, scan_hms _ c ht _ _ (headDig_cons _ _ hsp),
    scan_ws _ 'G' _ _ (by decide), scan_zone_gmt tzn htz]
  exact mkDatetime_of_valid c hv

/-- **rfc850-date**: with `obs_date=True` the two-digit-year form reads back for the years 1969..2068 (POSIX pivot) -/
theorem rfc850_parse (tzn : List Str) (htz : TzNamesOk tzn) (c : Civil) (hv : validCivil c = true) (h1 : 1969 ≤ c.year) (h2 : c.year ≤ 2068) :
    httpDateToDt tzn true (rfc850Date c) = some c := by
  rw [rfc850_shape]
  simp only [httpDateToDt, Bool.not_true, Bool.false_eq_true, if_false, fmtImfZ, fmtDash4, List.cons_append, strptime_wdAbbr_comma_full, Option.orElse,
    strptime_rfc850 tzn htz _ c hv h1 h2]

/-- the request properties (no `obs_date`) answer 400 for an rfc850-date, whatever the date -/
theorem rfc850_rejected_without_obs (tzn : List Str) (c : Civil) : httpDateToDt tzn false (rfc850Date c) = none := by
  rw [rfc850_shape]
  simp only [httpDateToDt, Bool.not_false, if_true]
  exact strptime_wdAbbr_comma_full _ _ _

def asctimeBody (c : Civil) : Str :=
  ' ' :: (monName c.month ++ ' ' :: (day2sp c.day ++ ' ' :: (pad2 c.hour ++ ':' :: (pad2 c.minute ++ ':' :: (pad2 c.second ++ ' ' :: pad4z c.year)))))

theorem asctime_shape (c : Civil) : asctimeDate c = wdName (civilWeekday c) ++ asctimeBody c := by
  simp [asctimeDate, asctimeBody, timeOfDay, List.append_assoc]
/-- `\s+%d` on `SP 1DIGIT` / `2DIGIT` -/
theorem scan_ws_day2sp (is : List Item) (d : Nat) (h1 : 1 ≤ d) (h2 : d ≤ 31) (rest : Str) (f : Fields) (hr : ∀ y ∈ rest.head?, isDig y = false) :
    scan (.ws :: .day :: is) (' ' :: (day2sp d ++ rest)) f = scan is rest { f with day := d } := by
  unfold day2sp
  split
  · have hw : Hp.isWs ' ' = true := by decide
    have e : scan (.ws :: .day :: is) (' ' :: ([' ', digit d] ++ rest)) f = scan (.day :: is) ([digit d] ++ rest) f := by
      simp only [List.cons_append, List.nil_append, scan, hw, if_true, List.dropWhile, isWs_digit]
    rw [e]
    have hall : ([digit d] : Str).all isDig = true := by simp only [List.all_cons, List.all_nil, isDig_digit, Bool.and_self]
    have hn : numDay [digit d] = some d := by
      have : d % 10 = d := by omega
      simp only [numDay, digit_ne_zero d (by omega), if_true, dv_digit, this]
    exact scan_num (it := .day) rfl hall hn is rest f hr
  · rw [scan_ws_pad2, scan_num (it := .day) rfl (pad2_allDig _) (numDay_pad2 _ h1 h2) _ _ _ hr]

theorem strptime_wdAbbr_comma_asctime (is : List Item) (w : Nat) (c : Civil) :
    strptime (.wdAbbr :: .lit ',' :: is) (wdName w ++ asctimeBody c) = none := by
  simp only [strptime, asctimeBody, scan_wdAbbr, scan_lit_ne _ _ _ _ _ (by decide : (' ' : Char) ≠ ',')]; rfl

theorem strptime_asctime (w : Nat) (c : Civil) (hv : validCivil c = true) : strptime fmtAsctime (wdName w ++ asctimeBody c) = some c := by
  obtain ⟨y2, m1, m2, d1, d3, ht⟩ := validCivil_fields c hv
  have hsp : isDig ' ' = false := by decide
  unfold strptime fmtAsctime asctimeBody
  simp only [hms, List.cons_append, List.nil_append]
  rw [scan_wdAbbr, scan_ws_mon _ _ m1 m2, scan_ws_day2sp _ _ d1 d3 _ _ (headDig_cons _ _ hsp), scan_ws_pad2,
    scan_hms _ c ht _ _ (headDig_cons _ _ hsp), ← List.append_nil (pad4z c.year), scan_ws_pad4z,
    scan_num (it := .year4) rfl (pad4z_allDig _) (numY4_pad4z _ y2) _ _ _ headDig_nil]
  exact mkDatetime_of_valid c hv

/-- **asctime-date**: with `obs_date=True` the ANSI C form (four-digit year) reads back, for every valid date-time -/
theorem asctime_parse (tzn : List Str) (c : Civil) (hv : validCivil c = true) : httpDateToDt tzn true (asctimeDate c) = some c := by
  rw [asctime_shape]
  have e3 : strptime (fmtRfc850 (zoneAlts tzn)) (wdName (civilWeekday c) ++ asctimeBody c) = none :=
    strptime_rfc850_abbr _ _ ' ' _ (by decide)
  simp only [httpDateToDt, Bool.not_true, Bool.false_eq_true, if_false, e3, fmtImfZ, fmtDash4, List.cons_append, strptime_wdAbbr_comma_asctime, Option.orElse,
    strptime_asctime _ c hv]

theorem asctime_rejected_without_obs (tzn : List Str) (c : Civil) : httpDateToDt tzn false (asctimeDate c) = none := by
  rw [asctime_shape]
  simp only [httpDateToDt, Bool.not_false, if_true]
  exact strptime_wdAbbr_comma_asctime _ _ c

/-- **`req_date_accessors`**: `req.date`, `req.if_modified_since`, `req.if_unmodified_since` are
    `get_header_as_datetime(<their header>)` in a process with any time zone: header absent → `None`; `http_date_to_dt`
    (IMF-fixdate only) succeeds → that date-time; anything else → `HTTPInvalidHeader` (400) -/
theorem req_date_accessors (tzn : List Str) (value : Option Str) :
    reqDate value = getHeaderAsDatetime tzn value false false ∧
    reqDate value = (match value with
      | none => .absent
      | some v => match httpDateToDt tzn false v with
        | some c => .ok c
        | none => .invalid400) := by
  cases value with
  | none => exact ⟨rfl, rfl⟩
  | some v => simp only [reqDate, getHeaderAsDatetime, date_tz_independent tzn v]; exact ⟨trivial, rfl⟩

/-- `required=True` turns only the absent header into an error (`HTTPMissingHeader`, also a 400) -/
theorem getHeaderAsDatetime_required (tzn : List Str) (value : Option Str) (obs : Bool) :
    getHeaderAsDatetime tzn value true obs = (match value with | none => .missing400 | some _ => getHeaderAsDatetime tzn value false obs) := by
  cases value <;> rfl

/-- a date header written by the response API (`dt_to_http`) is read by the three properties as the same date-time — every year 1..9999 -/
theorem req_date_reads_response_date (c : Civil) (hv : validCivil c = true) : reqDate (some (dtToHttp c)) = .ok c := by
  simp only [reqDate, getHeaderAsDatetime, date_format_parse [] tzNamesOk_nil false c hv]

/-- a returned date-time is always a real one -/
theorem reqDate_ok_valid (value : Option Str) (c : Civil) (h : reqDate value = .ok c) : validCivil c = true := by
  cases value with
  | none => cases h
  | some v =>
    simp only [reqDate, getHeaderAsDatetime] at h
    split at h
    · cases h
      exact httpDateToDt_valid [] false v _ ‹_›
    · cases h

/-- **known finding F30, as a theorem**: the two obsolete forms that RFC 9110 5.6.7 obliges a recipient to accept are answered
    with 400 by the properties, although `get_header_as_datetime(…, obs_date=True)` reads them -/
theorem obs_forms_rejected_by_properties (tzn : List Str) (htz : TzNamesOk tzn) (c : Civil) (hv : validCivil c = true) :
    reqDate (some (rfc850Date c)) = .invalid400 ∧ reqDate (some (asctimeDate c)) = .invalid400 ∧
    (1969 ≤ c.year → c.year ≤ 2068 → getHeaderAsDatetime tzn (some (rfc850Date c)) false true = .ok c) ∧
    getHeaderAsDatetime tzn (some (asctimeDate c)) false true = .ok c := by
  refine ⟨?_, ?_, ?_, ?_⟩
  · simp only [reqDate, getHeaderAsDatetime, rfc850_rejected_without_obs]
  · simp only [reqDate, getHeaderAsDatetime, asctime_rejected_without_obs]
  · intro h1 h2; simp only [getHeaderAsDatetime, rfc850_parse tzn htz c hv h1 h2]
  · simp only [getHeaderAsDatetime, asctime_parse tzn c hv]

example : rfc850Date ⟨1994, 11, 6, 8, 49, 37⟩ = "Sunday, 06-Nov-94 08:49:37 GMT".toList := by decide +kernel
example : asctimeDate ⟨1994, 11, 6, 8, 49, 37⟩ = "Sun Nov  6 08:49:37 1994".toList := by decide +kernel

end Dt
