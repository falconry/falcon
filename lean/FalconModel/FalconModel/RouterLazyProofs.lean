import FalconModel.RouterLazy
import FalconModel.RouterTemplateHistProofs
/-! C01: the `compile` flag and the lazy-compile switch are invisible — every lookup of every history returns the
    depth-first walk of the tree at that moment. -/
namespace Rl
open Ri Rh

/-- a compiled finder is never stale: it was compiled from the current tree -/
def Inv (r : Router) : Prop := ∀ s, r.compiled = some s → s = r.roots

theorem inv_empty : Inv {} := by intro s h; cases h

theorem addSegs_roots (r : Router) (route : Nat) (segs : List Seg) (flag : Bool) :
    (addSegs r route segs flag).1.roots = (insert true route segs r.roots).1 := by
  cases hi : (insert true route segs r.roots).2 <;> simp [addSegs, hi]

/-- uses `rejected_insert_unchanged`: when `insert` raises, `_find` is NOT reset — it stays valid only because the
    repaired `insert` leaves the tree as it was -/
theorem addSegs_inv (r : Router) (route : Nat) (segs : List Seg) (flag : Bool) (h : Inv r) :
    Inv (addSegs r route segs flag).1 := by
  cases hi : (insert true route segs r.roots).2 with
  | true =>
    intro s hs
    cases flag with
    | true => simp only [addSegs, hi, if_true, Option.some.injEq] at hs ⊢; exact hs.symm
    | false => simp [addSegs, hi] at hs
  | false =>
    have hu := rejected_insert_unchanged route segs r.roots hi
    intro s hs
    simp only [addSegs, hi, Bool.false_eq_true, if_false] at hs ⊢
    rw [hu]
    exact h s hs

theorem addRoute_roots (cenv : Rv.Cenv) (r : Router) (route : Nat) (t : Rv.Str) (flag : Bool) :
    (addRoute cenv r route t flag).1.roots = (Rv.addRoute cenv route t r.roots).1 := by
  cases hv : Rv.validate cenv t with
  | error k => simp only [addRoute, Rv.addRoute, hv]
  | ok recs =>
    simp only [addRoute, Rv.addRoute, hv]
    exact addSegs_roots _ _ _ _

theorem addRoute_inv (cenv : Rv.Cenv) (r : Router) (route : Nat) (t : Rv.Str) (flag : Bool) (h : Inv r) :
    Inv (addRoute cenv r route t flag).1 := by
  cases hv : Rv.validate cenv t with
  | error k => simp only [addRoute, hv]; exact h
  | ok recs =>
    simp only [addRoute, hv]
    exact addSegs_inv _ _ _ _ h

theorem find_roots (k : Nat → String × Rt.Kind) (tb : List Tree → Rt.Tables) (r : Router) (path : List String) :
    (find k tb r path).1.roots = r.roots := by
  unfold find
  split <;> rfl

theorem find_inv (k : Nat → String × Rt.Kind) (tb : List Tree → Rt.Tables) (r : Router) (path : List String) (h : Inv r) :
    Inv (find k tb r path).1 := by
  unfold find
  split
  · exact h
  · intro s hs
    simp only [Option.some.injEq] at hs
    exact hs.symm

/-- a lookup through whatever `_find` currently is = the finder generated from the CURRENT tree -/
theorem find_out (k : Nat → String × Rt.Kind) (tb : List Tree → Rt.Tables) (r : Router) (path : List String) (h : Inv r) :
    (find k tb r path).2 = Rt.runFinder (tb r.roots) (toNodes k r.roots) path := by
  unfold find
  split
  · rename_i snap hs
    rw [h snap hs]
  · rfl

/-- the history run without any compiled state: every lookup regenerates the finder from the current tree -/
def runEager (cenv : Rv.Cenv) (tb : List Tree → Rt.Tables) : List Tree → List Op → List Rt.Out
  | _, [] => []
  | t, .add route tmpl _ :: ops => runEager cenv tb (Rv.addRoute cenv route tmpl t).1 ops
  | t, .find path :: ops => Rt.runFinder (tb t) (toNodes (Rv.kOf cenv) t) path :: runEager cenv tb t ops

theorem run_eq_eager (cenv : Rv.Cenv) (tb : List Tree → Rt.Tables) : ∀ (ops : List Op) (r : Router), Inv r →
    (run cenv tb r ops).2 = runEager cenv tb r.roots ops := by
  intro ops
  induction ops with
  | nil => intro r _; rfl
  | cons op ops ih =>
    intro r h
    cases op with
    | add route tmpl flag =>
      simp only [run, runEager]
      rw [ih _ (addRoute_inv cenv r route tmpl flag h), addRoute_roots]
    | find path =>
      simp only [run, runEager]
      rw [ih _ (find_inv _ tb r path h), find_roots, find_out _ tb r path h]

/-- the tree after a history, whatever its flags and lookups -/
theorem run_roots (cenv : Rv.Cenv) (tb : List Tree → Rt.Tables) : ∀ (ops : List Op) (r : Router),
    (run cenv tb r ops).1.roots = Rv.runT cenv r.roots (callsOf ops) := by
  intro ops
  induction ops with
  | nil => intro r; rfl
  | cons op ops ih =>
    intro r
    cases op with
    | add route tmpl flag =>
      simp only [run, callsOf, Rv.runT]
      rw [ih, addRoute_roots]
    | find path =>
      simp only [run, callsOf]
      rw [ih, find_roots]

theorem addRoute_wf (cenv : Rv.Cenv) (route : Nat) (tmpl : Rv.Str) (t : List Tree) (h : WfL (Rv.FromText cenv) t) :
    WfL (Rv.FromText cenv) (Rv.addRoute cenv route tmpl t).1 := by
  unfold Rv.addRoute
  split
  · exact h
  · rename_i recs hv
    exact insert_wf (Rv.FromText cenv) true route _ t (Rv.validate_fromText cenv _ recs hv) h

theorem eager_eq_ref (cenv : Rv.Cenv) (tb : List Tree → Rt.Tables)
    (hok : ∀ tr, Rt.okSpec (Rt.dL (toNodes (Rv.kOf cenv) tr) + 1) (tb tr) (toNodes (Rv.kOf cenv) tr) {}) :
    ∀ (ops : List Op) (t : List Tree), WfL (Rv.FromText cenv) t →
      runEager cenv tb t ops = (runRef cenv tb t ops).map .ret := by
  intro ops
  induction ops with
  | nil => intro t _; rfl
  | cons op ops ih =>
    intro t h
    cases op with
    | add route tmpl flag =>
      simp only [runEager, runRef]
      exact ih _ (addRoute_wf cenv route tmpl t h)
    | find path =>
      simp only [runEager, runRef, List.map_cons]
      rw [ih t h]
      congr 1
      exact Rt.compile_correct (tb t) _ path
        (Rv.wfL_toNodes_on (Rv.kOf cenv) (Rv.FromText cenv) (Rv.kOf_inj_on cenv) (Rv.cons_of_fromText cenv) t h) (hok t)

/-- **`compile_flag_irrelevant`**: for every converter environment, every history of `add_route(template, compile=flag)`
    calls with arbitrary flags (accepted, rejected by the validation, rejected inside `insert`) and interleaved lookups on
    the lazily-compiling router, every lookup returns exactly what the plain depth-first walk returns on the tree at that
    moment — `runRef` has no compiled state and never looks at a flag.  `hok`: `groupdict()` of every pattern contains the
    fields its converters pop (as in `compile_correct`). -/
theorem compile_flag_irrelevant (cenv : Rv.Cenv) (tb : List Tree → Rt.Tables)
    (hok : ∀ tr, Rt.okSpec (Rt.dL (toNodes (Rv.kOf cenv) tr) + 1) (tb tr) (toNodes (Rv.kOf cenv) tr) {})
    (ops : List Op) :
    (run cenv tb {} ops).2 = (runRef cenv tb [] ops).map .ret := by
  rw [run_eq_eager cenv tb ops {} inv_empty]
  exact eager_eq_ref cenv tb hok ops [] (by simp [WfL])

/-- all flags of a history set to `b` -/
def setFlags (b : Bool) : List Op → List Op
  | [] => []
  | .add route tmpl _ :: ops => .add route tmpl b :: setFlags b ops
  | .find path :: ops => .find path :: setFlags b ops

theorem runEager_setFlags (cenv : Rv.Cenv) (tb : List Tree → Rt.Tables) (b : Bool) : ∀ (ops : List Op) (t : List Tree),
    runEager cenv tb t (setFlags b ops) = runEager cenv tb t ops := by
  intro ops
  induction ops with
  | nil => intro t; rfl
  | cons op ops ih =>
    intro t
    cases op with
    | add route tmpl flag => simp only [setFlags, runEager]; exact ih _
    | find path => simp only [setFlags, runEager]; rw [ih]

/-- the same history with every flag replaced by `b` (always compile at once / never) gives the same lookup results —
    no hypothesis on the tables at all -/
theorem flags_do_not_matter (cenv : Rv.Cenv) (tb : List Tree → Rt.Tables) (b : Bool) (ops : List Op) :
    (run cenv tb {} (setFlags b ops)).2 = (run cenv tb {} ops).2 := by
  rw [run_eq_eager cenv tb _ {} inv_empty, run_eq_eager cenv tb _ {} inv_empty]
  exact runEager_setFlags cenv tb b ops []

/-! ### the hypothesis is satisfiable, and a concrete history -/

theorem ok_of_pmatch_none (t : Rt.Tables) (hp : ∀ i s, t.pmatch i s = none) :
    ∀ fuel, (∀ nodes c, Rt.okSpec fuel t nodes c) ∧ (∀ nodes c, Rt.okNodes fuel t nodes c) := by
  have hnode : ∀ node c, Rt.okNode t node c := by
    intro node c text convs nf seg g _ hm
    rw [hp] at hm
    cases hm
  have hnodes : ∀ fuel, (∀ nodes c, Rt.okSpec fuel t nodes c) → ∀ nodes c, Rt.okNodes fuel t nodes c := by
    intro fuel hs nodes
    induction nodes with
    | nil => intro c; unfold Rt.okNodes; trivial
    | cons n ns ih => intro c; unfold Rt.okNodes; exact ⟨hnode n c, hs _ _, ih _⟩
  intro fuel
  induction fuel with
  | zero =>
    have h0 : ∀ nodes c, Rt.okSpec 0 t nodes c := by intro nodes c; unfold Rt.okSpec; trivial
    exact ⟨h0, hnodes 0 h0⟩
  | succ f ih =>
    have hs : ∀ nodes c, Rt.okSpec (f + 1) t nodes c := by intro nodes c; unfold Rt.okSpec; exact ih.2 _ _
    exact ⟨hs, hnodes (f + 1) hs⟩

/-- a table in which `int` accepts digit strings, `path` accepts everything, no multi-field pattern matches -/
def tb0 : List Tree → Rt.Tables := fun _ =>
  { pmatch := fun _ _ => none,
    conv := fun _ s => if s.toList.all Char.isDigit && !s.isEmpty then some s else none }

theorem tb0_ok : ∀ tr, Rt.okSpec (Rt.dL (toNodes (Rv.kOf Rv.cenv0) tr) + 1) (tb0 tr) (toNodes (Rv.kOf Rv.cenv0) tr) {} :=
  fun _ => (ok_of_pmatch_none _ (fun _ _ => rfl) _).1 _ _

/-- lookups before the first route, a flagged and an unflagged accepted call, a call rejected by the validation and one
    rejected inside `insert` (both between lookups, i.e. while a compiled finder is installed), lookups after each -/
def ops0 : List Op := [
  .find ["a"],
  .add 0 "/a".toList true,
  .find ["a"],
  .add 1 "/a/{x:int}".toList false,
  .find ["a", "12"],
  .add 2 "/a/{x}/{x}".toList true,
  .add 3 "/a/{y}".toList true,
  .find ["a", "12"],
  .find ["a", "q"]]

/-- per call: the verdict of an `add_route`, and whether a compiled finder is installed afterwards -/
def stateTrace (cenv : Rv.Cenv) (tb : List Tree → Rt.Tables) : Router → List Op → List (Option Rv.Verdict × Bool)
  | _, [] => []
  | r, .add route tmpl flag :: ops =>
    let a := addRoute cenv r route tmpl flag
    (some a.2, a.1.compiled.isSome) :: stateTrace cenv tb a.1 ops
  | r, .find path :: ops =>
    let f := find (Rv.kOf cenv) tb r path
    (none, f.1.compiled.isSome) :: stateTrace cenv tb f.1 ops

/-- the switch at work: the first lookup compiles; `compile=True` compiles at once; an accepted call without the flag
    resets; the two rejected calls leave the installed finder alone -/
example : stateTrace Rv.cenv0 tb0 {} ops0 =
    [(none, true), (some .ok, true), (none, true), (some .ok, false), (none, true),
     (some (.rej .duplicate), true), (some .rejInsert, true), (none, true), (none, true)] := by decide +kernel

/-- `compile_flag_irrelevant` applies to this history and table -/
example : (run Rv.cenv0 tb0 {} ops0).2 = (runRef Rv.cenv0 tb0 [] ops0).map .ret :=
  compile_flag_irrelevant Rv.cenv0 tb0 tb0_ok ops0
end Rl
