import FalconModel.MultipartAsync
import FalconModel.MultipartBridge
/-! C13, the async parser (`Ma`, FalconModel/MultipartAsync.lean): proofs.

    Over ANY reader implementation `o : Ops ρ κ` satisfying the flat-cursor laws (`Lawful o`, explicit structure fields),
    `async for part in form` (iterating `Ma.next`, the transcription of `MultipartForm._iterate_parts`) hands out exactly what
    the flat parser `Mf.parseAll` finds in the text still to come, whatever the application does with the part streams
    (**`async_refines_flat`**). The sync reader model satisfies the laws (they are the C14 / bridge theorems), and over it
    `Ma.next` IS `Mp.next`: the two generator bodies are the same function of the reader calls; hence **`sync_async_agree`**
    (compose with `Mf.next_refines_flat`). The flat cursor itself is a lawful reader (the laws are satisfiable by the
    specification). `async_part_count_limit_exact` holds for EVERY reader, no laws; `tooLarge_sticky` is the repair 913e041,
    `getDataPinned_after_tooLarge` the regression witness for finding F39.

    That the concrete transcription of falcon/asgi/reader.py, `Ma.arOps` (with `delimit` as a nested reader over
    `_iter_delimited`), satisfies `Lawful` is proved in FalconModel/MultipartAsyncReaderProofs.lean (`arLawful`).
    `arOps` is tied to the real code by the correspondence `madriver`; `example`s at the end evaluate `runA arOps` and
    `getData arOps` on concrete chunked bodies. -/
namespace Ma
open Rd (Bytes Res POp Obs cursorStep cursorRun untilSpec want stopAt okSize R Source LawfulSource Inv abs Delim readerStep readerRun)
open Mp (crlf crlfcrlf dashes Form parseHeaders split Err resErr)
open Mf (untilConsume contentOf sizeArg parseAll parseFlat initForm Limits Headers delimAfter Outcome IOutcome runFlat observe
  Part encodeForm BoundarySafe HeadersSafe WithinLimits)

variable {ρ κ : Type}

/-- the same operation on the flat cursor of `Rd.cursorStep` (`readall()` is `read(None)`; a full `async for` hands out,
    joined, what `pipe()` writes) -/
def AOp.toP : AOp → POp
  | .read s => .read s
  | .readall => .read none
  | .peek n => .peek n
  | .readUntil d s c => .readUntil d s c
  | .pipeUntil d c => .pipeUntil d c
  | .pipe => .pipe
  | .exhaust => .exhaust
  | .iterate => .pipe

def AObs.toObs : AObs → Obs
  | .bytes b => .bytes b
  | .unit => .unit
  | .delimErr => .delimErr
  | .valueErr => .valueErr


def crun (o : Ops ρ κ) : κ → List AOp → List AObs × κ
  | c, [] => ([], c)
  | c, op :: rest =>
    let (x, c1) := o.cstep c op
    let (xs, c2) := crun o c1 rest
    (x :: xs, c2)

/-- **the flat-cursor laws**, as explicit fields. `text r` is what is still to come on reader `r` (buffered bytes and what
    the source will still deliver); every operation the parse loop awaits observes what `Rd.cursorStep` (the C14 cursor
    specification) observes on `text r`, leaves exactly the cursor's rest, and keeps the reader `good` with the same chunk
    size; a part stream `delimit(p, d)` behaves, for every history of application operations, as a cursor over the text up to
    the first `d`, and leaves the shared parent `good`, with its cursor NOT beyond that first `d`.
    These are, field by field, the statements `Rd.readerStep_refines` / `Mf.part_stream_refines` prove for the sync reader
    (see `syncLawful`). -/
structure Lawful (o : Ops ρ κ) where
  text : ρ → Bytes
  chunk : ρ → Int
  good : ρ → Prop
  pipeUntil_law : ∀ (r : ρ) (d : Bytes) (c : Bool), good r → d ≠ [] → (d.length : Int) ≤ chunk r →
    Rd.resObs (o.pipeUntil r d c).1 = (untilSpec (text r) d (text r).length c).1 ∧
    text (o.pipeUntil r d c).2 = (untilSpec (text r) d (text r).length c).2 ∧
    good (o.pipeUntil r d c).2 ∧ chunk (o.pipeUntil r d c).2 = chunk r
  peek_law : ∀ (r : ρ) (n : Int), good r →
    (o.peek r n).1 = .ok ((text r).take (if n < 0 || n > chunk r then chunk r else n).toNat) ∧
    text (o.peek r n).2 = text r ∧ good (o.peek r n).2 ∧ chunk (o.peek r n).2 = chunk r
  read_law : ∀ (r : ρ) (s : Option Int), good r → okSize s →
    (o.read r s).1 = .ok ((text r).take (want (text r) s)) ∧
    text (o.read r s).2 = (text r).drop (want (text r) s) ∧ good (o.read r s).2 ∧ chunk (o.read r s).2 = chunk r
  readUntil_law : ∀ (r : ρ) (d : Bytes) (s : Option Int) (c : Bool), good r → d ≠ [] → (d.length : Int) ≤ chunk r → okSize s →
    Rd.resObs (o.readUntil r d s c).1 = (untilSpec (text r) d (want (text r) s) c).1 ∧
    text (o.readUntil r d s c).2 = (untilSpec (text r) d (want (text r) s) c).2 ∧
    good (o.readUntil r d s c).2 ∧ chunk (o.readUntil r d s c).2 = chunk r
  delimit_law : ∀ (p : ρ) (d : Bytes) (ops : List AOp), good p → d ≠ [] → (d.length : Int) ≤ chunk p →
    (∀ op ∈ ops, op.toP.ok (chunk p)) →
    (crun o (o.delimit p d) ops).1.map AObs.toObs = (cursorRun (chunk p) (contentOf d (text p)) (ops.map AOp.toP)).1 ∧
    good (o.parentOf (crun o (o.delimit p d) ops).2) ∧
    chunk (o.parentOf (crun o (o.delimit p d) ops).2) = chunk p ∧
    ∃ j, j ≤ stopAt d (text p) (text p).length ∧ text (o.parentOf (crun o (o.delimit p d) ops).2) = (text p).drop j

/-- a consuming `read_until` / `pipe_until` in the vocabulary of `Mf.untilConsume` -/
theorem until_cases (x : Res × ρ) (A d : Bytes) (n : Nat) (text1 : Bytes)
    (h1 : Rd.resObs x.1 = (untilSpec A d n true).1) (h2 : text1 = (untilSpec A d n true).2) :
    (∃ v, x = (.ok v, x.2) ∧ untilConsume d A n = some (v, text1)) ∨ (x = (.delimErr, x.2) ∧ untilConsume d A n = none) := by
  rcases x with ⟨res, s1⟩
  unfold untilSpec at h1 h2
  unfold untilConsume
  simp only [if_true] at h1 h2 ⊢
  by_cases hat : ((A.drop (stopAt d A n)).take d.length) = d
  · simp only [hat, if_true] at h1 h2 ⊢
    left
    cases res with
    | ok v => simp only [Rd.resObs, Obs.bytes.injEq] at h1; exact ⟨v, rfl, by rw [h1, h2]⟩
    | delimErr | valueErr => simp [Rd.resObs] at h1
  · simp only [hat, if_false] at h1 h2 ⊢
    right
    cases res with
    | ok v | valueErr => simp [Rd.resObs] at h1
    | delimErr => exact ⟨rfl, trivial⟩

def Rel (o : Ops ρ κ) (L : Lawful o) (chunk : Int) (d : Bytes) : Out ρ κ → Mf.Out → Prop
  | .part h c, .part h' A' => h = h' ∧ ∃ p : ρ, c = o.delimit p d ∧ L.text p = A' ∧ L.good p ∧ L.chunk p = chunk
  | .done p, .done A' => L.text p = A'
  | .err e _, .err e' => e = e'.toMp
  | _, _ => False

theorem pipeUntil_cases (o : Ops ρ κ) (L : Lawful o) (r : ρ) (d : Bytes) (hg : L.good r) (hd : d ≠ [])
    (hdc : (d.length : Int) ≤ L.chunk r) :
    (∃ x s1, o.pipeUntil r d true = (.ok x, s1) ∧ untilConsume d (L.text r) (L.text r).length = some (x, L.text s1) ∧
      L.good s1 ∧ L.chunk s1 = L.chunk r) ∨
    (∃ s1, o.pipeUntil r d true = (.delimErr, s1) ∧ untilConsume d (L.text r) (L.text r).length = none) := by
  obtain ⟨a, b, c, e⟩ := L.pipeUntil_law r d true hg hd hdc
  rcases until_cases _ _ _ _ _ a b with ⟨v, hx, hu⟩ | ⟨hx, hu⟩
  · exact Or.inl ⟨v, _, hx, hu, c, e⟩
  · exact Or.inr ⟨_, hx, hu⟩

theorem readUntil_cases (o : Ops ρ κ) (L : Lawful o) (r : ρ) (d : Bytes) (size : Int) (hg : L.good r) (hd : d ≠ [])
    (hdc : (d.length : Int) ≤ L.chunk r) (hs : size = -1 ∨ 0 ≤ size) :
    (∃ x s1, o.readUntil r d (some size) true = (.ok x, s1) ∧
      untilConsume d (L.text r) (sizeArg (L.text r) size) = some (x, L.text s1) ∧ L.good s1 ∧ L.chunk s1 = L.chunk r) ∨
    (∃ s1, o.readUntil r d (some size) true = (.delimErr, s1) ∧ untilConsume d (L.text r) (sizeArg (L.text r) size) = none) := by
  obtain ⟨a, b, c, e⟩ := L.readUntil_law r d (some size) true hg hd hdc (fun x h => by cases h; exact hs)
  rcases until_cases _ _ _ _ _ a b with ⟨v, hx, hu⟩ | ⟨hx, hu⟩
  · exact Or.inl ⟨v, _, hx, hu, c, e⟩
  · exact Or.inr ⟨_, hx, hu⟩

theorem peek2 (o : Ops ρ κ) (L : Lawful o) (r : ρ) (hg : L.good r) (h2 : 2 ≤ L.chunk r) :
    (o.peek r 2).1 = .ok ((L.text r).take 2) ∧ L.text (o.peek r 2).2 = L.text r ∧ L.good (o.peek r 2).2 ∧
    L.chunk (o.peek r 2).2 = L.chunk r := by
  have h := L.peek_law r 2 hg
  rw [if_neg (by simpa using h2)] at h
  exact h

theorem read2 (o : Ops ρ κ) (L : Lawful o) (r : ρ) (hg : L.good r) :
    (∃ x, (o.read r (some 2)).1 = .ok x) ∧ L.text (o.read r (some 2)).2 = (L.text r).drop 2 := by
  obtain ⟨a, b, _⟩ := L.read_law r (some 2) hg (fun s h => by cases h; right; omega)
  have hw : want (L.text r) (some 2) = 2 := by unfold want; simp
  rw [hw] at a b
  exact ⟨⟨_, a⟩, b⟩

/-- **one resumption of the async generator**: over any reader satisfying the laws, `Ma.next` computes `Mf.next` of the
    text still to come (same frame, same headers / same error kind; the part stream is `delimit(d)` of a good parent whose
    text is the flat cursor) -/
theorem next_step (o : Ops ρ κ) (L : Lawful o) (f : Form) (r : ρ) (hg : L.good r) (hd : f.delim ≠ [])
    (hdc : ((delimAfter f).length : Int) ≤ L.chunk r) (h4 : 4 ≤ L.chunk r) (hm : f.maxHdr = -1 ∨ 0 ≤ f.maxHdr) :
    (next o f r).1 = (Mf.next f (L.text r)).1 ∧
    Rel o L (L.chunk r) (Mf.next f (L.text r)).1.delim (next o f r).2 (Mf.next f (L.text r)).2 := by
  have hdc0 : (f.delim.length : Int) ≤ L.chunk r := by have := Mf.delim_le_after f; omega
  unfold next Mf.next
  rw [Mp.prologue_step]
  rcases pipeUntil_cases o L r f.delim hg hd hdc0 with ⟨x, s1, e1, u1, g1, c1⟩ | ⟨s1, e1, u1⟩
  · simp only [e1, u1]
    obtain ⟨k1, k2, k3, k5⟩ := peek2 o L s1 g1 (by omega)
    rw [show o.peek s1 2 = (.ok ((L.text s1).take 2), (o.peek s1 2).2) from Prod.ext k1 rfl]
    simp only
    by_cases hdash : ((L.text s1).take 2 == dashes) = true
    · simp only [hdash, if_true]
      obtain ⟨⟨y, hy⟩, ht⟩ := read2 o L _ k3
      rw [show o.read (o.peek s1 2).2 (some 2) = (.ok y, (o.read (o.peek s1 2).2 (some 2)).2) from Prod.ext hy rfl]
      exact ⟨rfl, ht.trans (congrArg (List.drop 2) k2)⟩
    · simp only [hdash, if_false, Bool.false_eq_true]
      have hz : sizeArg (L.text (o.peek s1 2).2) 0 = 0 := by simp [sizeArg]
      rcases readUntil_cases o L (o.peek s1 2).2 crlf 0 k3 Mf.crlf_ne (by rw [k5, c1]; simp [crlf]; omega) (Or.inr (Int.le_refl 0))
        with ⟨x2, s3, e2, u2, g2, c2⟩ | ⟨s3, e2, u2⟩
      · rw [hz, k2] at u2
        simp only [e2, u2]
        rcases readUntil_cases o L s3 crlfcrlf (Mp.afterDelim f).maxHdr g2 Mf.crlfcrlf_ne (by rw [c2, k5, c1]; simp [crlfcrlf]; omega) hm
          with ⟨x3, s4, e3, u3, g3, c3⟩ | ⟨s4, e3, u3⟩
        · simp only [e3, u3]
          cases hph : parseHeaders (split x3 crlf) [] with
          | error e => exact ⟨rfl, by rw [Mf.parseHeaders_err_cte _ _ e hph]; rfl⟩
          | ok hs =>
            simp only
            by_cases hlim : (decide ((Mp.afterDelim f).remaining - 1 < 0) && decide (0 < (Mp.afterDelim f).maxCount)) = true
            · simp only [hlim, if_true]; exact ⟨trivial, rfl⟩
            · simp only [hlim, if_false, Bool.false_eq_true]
              exact ⟨trivial, rfl, s4, rfl, rfl, g3, by rw [c3, c2, k5, c1]⟩
        · simp only [e3, u3]
          exact ⟨trivial, rfl⟩
      · rw [hz, k2] at u2
        simp only [e2, u2]
        exact ⟨trivial, rfl⟩
  · simp only [e1, u1]
    exact ⟨trivial, rfl⟩

/-- what the application does with the stream of the `k`-th part (`[]` = skip it) -/
abbrev AScripts := Nat → List AOp

def AScripts.toP (sc : AScripts) : Mf.Scripts := fun k => (sc k).map AOp.toP

def obsMap (x : List (Headers × List AObs)) : List (Headers × List Obs) := x.map (fun e => (e.1, e.2.map AObs.toObs))

theorem obsMap_snoc (acc : List (Headers × List AObs)) (h : Headers) (xs : List AObs) :
    obsMap (acc ++ [(h, xs)]) = obsMap acc ++ [(h, xs.map AObs.toObs)] := by
  simp [obsMap]

/-- **the async implementation side**: `async for part in form` - iterate `Ma.next`; between two resumptions the
    application runs its script on the part stream it was handed; the generator is resumed with the parent reader in
    whatever state that left it (`parentOf`) -/
def runA (o : Ops ρ κ) (sc : AScripts) : Nat → Nat → Form → ρ → List (Headers × List AObs) →
    List (Headers × List AObs) × IOutcome
  | 0, _, _, _, acc => (acc, .fuel)
  | n + 1, k, f, r, acc =>
    match next o f r with
    | (f', .part h c) =>
      runA o sc n (k + 1) f' (o.parentOf (crun o c (sc k)).2) (acc ++ [(h, (crun o c (sc k)).1)])
    | (_, .done _) => (acc, .finished)
    | (_, .err e _) => (acc, .error e)

theorem run_refines (o : Ops ρ κ) (L : Lawful o) (sc : AScripts) :
    ∀ (n k : Nat) (f : Form) (r : ρ) (acc : List (Headers × List AObs)),
    L.good r → f.delim ≠ [] → ((delimAfter f).length : Int) ≤ L.chunk r → 4 ≤ L.chunk r →
    (f.maxHdr = -1 ∨ 0 ≤ f.maxHdr) → (∀ k, ∀ op ∈ sc k, op.toP.ok (L.chunk r)) →
    (obsMap (runA o sc n k f r acc).1, (runA o sc n k f r acc).2)
      = ((runFlat (L.chunk r) sc.toP n k f (L.text r) (obsMap acc)).1,
         (runFlat (L.chunk r) sc.toP n k f (L.text r) (obsMap acc)).2.lift) := by
  intro n
  induction n with
  | zero => intro k f r acc _ _ _ _ _ _; rfl
  | succ n ih =>
    intro k f r acc hg hd hdc h4 hm hok
    obtain ⟨s1, s2⟩ := next_step o L f r hg hd hdc h4 hm
    unfold runA runFlat
    rcases hI : next o f r with ⟨f1, o1⟩
    rcases hF : Mf.next f (L.text r) with ⟨f2, o2⟩
    rw [hI, hF] at s1 s2
    simp only at s1 s2
    subst s1
    cases o1 with
    | part h c =>
      cases o2 with
      | part h' A' =>
        obtain ⟨rfl, p, rfl, hp, gp, cp⟩ := s2
        obtain ⟨n1, n2, n3, n4, n5, _, _⟩ := Mf.next_part_frame f (L.text r) f1 h A' hF
        have hd1 : f1.delim ≠ [] := by rw [n5]; exact Mf.delimAfter_ne f hd
        have hda : delimAfter f1 = f1.delim := by unfold delimAfter; simp [n4]
        obtain ⟨q1, q2, q4, j, q5, q6⟩ := L.delimit_law p f1.delim (sc k) gp hd1
          (by rw [cp, n5]; exact hdc) (fun op h => by rw [cp]; exact hok k op h)
        simp only
        rw [ih (k + 1) f1 _ _ q2 hd1 (by rw [q4, cp, hda, n5]; exact hdc) (by rw [q4, cp]; exact h4)
          (by rw [n3]; exact hm) (fun k' op h => by rw [q4, cp]; exact hok k' op h)]
        rw [q4, cp, q6, hp, Mf.runFlat_skip _ _ _ _ _ _ _ _ hd1 (by rw [hp] at q5; exact q5), obsMap_snoc, q1, cp, hp]
        rfl
      | done A' => exact s2.elim
      | err e => exact s2.elim
    | done p =>
      cases o2 with
      | part h' A' => exact s2.elim
      | done A' => rfl
      | err e => exact s2.elim
    | err e p =>
      cases o2 with
      | part h' A' => exact s2.elim
      | done A' => exact s2.elim
      | err e' =>
        obtain rfl : e = e'.toMp := s2
        rfl

/-- **C13 `async_refines_flat`.** Take ANY reader implementation that satisfies the flat-cursor laws (`Lawful`), in a good
    state, with a chunk size of at least `len(CRLF--boundary)` (and ≥ 4), any limits (`max_body_part_headers_size` ≥ 0 or -1),
    and ANY application behaviour between resumptions that is a history of part-stream operations with valid arguments
    (skip, `peek`, partial and full `read`, `readall`, `read_until`, `pipe_until`, `pipe`, `exhaust`, `async for`, in any order
    and number). Then `async for part in form` - iterating `Ma.next`, the transcription of `_iterate_parts` - hands out exactly the
    parts the flat parser `Mf.parseAll` finds in the text still to come: the same header dicts in the same order, the same end
    (`StopAsyncIteration` or the same `MultipartParseError`), and every part stream behaves, operation by operation, as a
    flat cursor over that part's content as computed by `parseAll`. -/
theorem async_refines_flat (o : Ops ρ κ) (L : Lawful o) (sc : AScripts) (r : ρ) (b : Bytes) (lim : Limits) (hg : L.good r)
    (hc : (b.length : Int) + 4 ≤ L.chunk r) (hm : lim.maxHdr = -1 ∨ 0 ≤ lim.maxHdr)
    (hok : ∀ k, ∀ op ∈ sc k, op.toP.ok (L.chunk r)) :
    (obsMap (runA o sc ((L.text r).length + 1) 0 (initForm b lim) r []).1,
     (runA o sc ((L.text r).length + 1) 0 (initForm b lim) r []).2)
      = (observe (L.chunk r) sc.toP 0 (parseAll (L.text r) b lim).1, (parseAll (L.text r) b lim).2.lift) := by
  rw [run_refines o L sc _ 0 (initForm b lim) r [] hg (by simp [initForm, dashes])
    (by simp [delimAfter, initForm, crlf, dashes]; omega) (by omega) hm hok, Mf.runFlat_parse]
  rfl

section sync
variable {σ : Type} [Source σ]

def resObsA : Res → AObs
  | .ok b => .bytes b
  | .delimErr => .delimErr
  | .valueErr => .valueErr

/-- the application operations on a sync reader (falcon/util/reader.py model) -/
def syncStep {τ : Type} [Source τ] (c : R τ) : AOp → AObs × R τ
  | .read s => let x := Rd.read c s; (.bytes x.1, x.2)
  | .readall => let x := Rd.read c none; (.bytes x.1, x.2)
  | .peek n => let x := Rd.peek c n; (.bytes x.1, x.2)
  | .readUntil d s k => let x := Rd.readUntil c d s k; (resObsA x.1, x.2)
  | .pipeUntil d k => let x := Rd.pipeUntil c d k none; (resObsA x.1, x.2)
  | .pipe => let x := Rd.pipe c; (.bytes x.1, x.2)
  | .exhaust => (.unit, Rd.exhaust c)
  | .iterate => let x := Rd.pipe c; (.bytes x.1, x.2)

/-- the interface instantiated with the SYNC reader model `Rd.R σ` (`peek` and `read` cannot raise there) -/
def syncOps : Ops (R σ) (R (Delim σ)) where
  pipeUntil r d c := Rd.pipeUntil r d c none
  peek r n := (.ok (Rd.peek r n).1, (Rd.peek r n).2)
  read r s := (.ok (Rd.read r s).1, (Rd.read r s).2)
  readUntil := Rd.readUntil
  delimit := Rd.delimit
  parentOf c := c.src.parent
  cstep := syncStep

def Out.toMp : Out (R σ) (R (Delim σ)) → Mp.Out σ
  | .part h c => .part h c
  | .done p => .done p
  | .err e p => .err e p

/-- **the async loop has the control flow of the sync loop**: run over the sync reader, the transcription of
    `_iterate_parts` (asgi/multipart.py) and the transcription of `__iter__` (media/multipart.py) are the same function -/
theorem next_sync_eq (f : Form) (r : R σ) :
    ((next syncOps f r).1, (next syncOps f r).2.toMp) = Mp.next f r := by
  unfold next Mp.next
  dsimp only [syncOps]
  generalize (if f.prologue = true then ({ f with delim := crlf ++ f.delim, prologue := false } : Form) else f) = f1
  rcases Rd.pipeUntil r f.delim true none with ⟨res1, s1⟩
  cases res1 with
  | delimErr | valueErr => rfl
  | ok x1 =>
    dsimp only
    rcases Rd.peek s1 2 with ⟨pk, s2⟩
    dsimp only
    by_cases hdash : (pk == dashes) = true
    · simp only [hdash, if_true]
      rcases Rd.read s2 (some 2) with ⟨x, s3⟩
      rfl
    · simp only [hdash, if_false, Bool.false_eq_true]
      rcases Rd.readUntil s2 crlf (some 0) true with ⟨res2, s3⟩
      cases res2 with
      | delimErr | valueErr => rfl
      | ok x2 =>
        dsimp only
        rcases Rd.readUntil s3 crlfcrlf (some f1.maxHdr) true with ⟨res3, s4⟩
        cases res3 with
        | delimErr | valueErr => rfl
        | ok blk =>
          dsimp only
          cases parseHeaders (split blk crlf) [] with
          | error e => rfl
          | ok hs =>
            dsimp only
            by_cases hlim : (decide (f1.remaining - 1 < 0) && decide (0 < f1.maxCount)) = true
            · simp only [hlim, if_true]; rfl
            · simp only [hlim, if_false, Bool.false_eq_true]; rfl

theorem syncStep_eq {τ : Type} [Source τ] (c : R τ) (op : AOp) :
    (syncStep c op).1.toObs = (readerStep c op.toP).1 ∧ (syncStep c op).2 = (readerStep c op.toP).2 := by
  have hres : ∀ x : Res, (resObsA x).toObs = Rd.resObs x := fun x => by cases x <;> rfl
  cases op with
  | readUntil d s k | pipeUntil d k => exact ⟨hres _, rfl⟩
  | _ => exact ⟨rfl, rfl⟩

theorem crun_cons {ρ κ : Type} (o : Ops ρ κ) (c : κ) (op : AOp) (rest : List AOp) :
    crun o c (op :: rest) = ((o.cstep c op).1 :: (crun o (o.cstep c op).2 rest).1, (crun o (o.cstep c op).2 rest).2) := rfl

theorem readerRun_cons {τ : Type} [Source τ] (c : R τ) (op : POp) (rest : List POp) :
    readerRun c (op :: rest) = ((readerStep c op).1 :: (readerRun (readerStep c op).2 rest).1, (readerRun (readerStep c op).2 rest).2) := rfl

theorem cursorRun_cons (chunk : Int) (A : Bytes) (op : POp) (rest : List POp) :
    cursorRun chunk A (op :: rest)
      = ((cursorStep chunk A op).1 :: (cursorRun chunk (cursorStep chunk A op).2 rest).1, (cursorRun chunk (cursorStep chunk A op).2 rest).2) := rfl

theorem crun_sync_eq (ops : List AOp) : ∀ (c : R (Delim σ)),
    (crun syncOps c ops).1.map AObs.toObs = (readerRun c (ops.map AOp.toP)).1 ∧
    (crun syncOps c ops).2 = (readerRun c (ops.map AOp.toP)).2 := by
  induction ops with
  | nil => intro c; exact ⟨rfl, rfl⟩
  | cons op rest ih =>
    intro c
    obtain ⟨a, b⟩ := syncStep_eq c op
    obtain ⟨i1, i2⟩ := ih (syncStep c op).2
    rw [List.map_cons, readerRun_cons, ← b]
    exact ⟨congr (congrArg List.cons a) i1, i2⟩

variable [LawfulSource σ]

/-- the sync reader model satisfies the laws: they are `Rd.readerStep_refines` (C14) and `Mf.part_stream_refines` (the bridge) -/
def syncLawful : Lawful (syncOps (σ := σ)) where
  text := abs
  chunk r := r.chunk
  good r := Inv r ∧ r.pos ≤ r.len
  pipeUntil_law := by
    intro r d c hg hd hdc
    obtain ⟨a, b, i, l, e⟩ := Rd.readerStep_refines r (.pipeUntil d c) hg.1 hg.2 ⟨hd, hdc⟩
    exact ⟨a, b, ⟨i, l⟩, e⟩
  peek_law := by
    intro r n hg
    obtain ⟨a, b, i, l, e⟩ := Rd.peek_refines r n hg.1 hg.2
    exact ⟨by show Res.ok (Rd.peek r n).1 = _; rw [a], b, ⟨i, l⟩, e⟩
  read_law := by
    intro r s hg hs
    obtain ⟨a, b, i, l, e⟩ := Rd.read_refines r s hg.1 hg.2 hs
    exact ⟨by show Res.ok (Rd.read r s).1 = _; rw [a], b, ⟨i, l⟩, e⟩
  readUntil_law := by
    intro r d s c hg hd hdc hs
    obtain ⟨a, b, i, l, e⟩ := Rd.readerStep_refines r (.readUntil d s c) hg.1 hg.2 ⟨hd, hdc, hs⟩
    exact ⟨a, b, ⟨i, l⟩, e⟩
  delimit_law := by
    intro p d ops hg hd hdc hok
    obtain ⟨q1, q2, q3, q4, q5⟩ := Mf.part_stream_refines p d (ops.map AOp.toP) hg.1 hg.2 hd hdc
      (fun op h => by
        obtain ⟨a, ha, rfl⟩ := List.mem_map.mp h
        exact hok a ha)
    obtain ⟨c1, c2⟩ := crun_sync_eq ops (Rd.delimit p d)
    have h2 : syncOps.parentOf (crun syncOps (syncOps.delimit p d) ops).2
        = (readerRun (Rd.delimit p d) (ops.map AOp.toP)).2.src.parent := by
      show (crun syncOps (Rd.delimit p d) ops).2.src.parent = _
      rw [c2]
    rw [h2]
    exact ⟨c1.trans q1, ⟨q2, q3⟩, q4, q5⟩

end sync

structure Cur where
  text : Bytes
  chunk : Int

def obsRes : Obs → Res
  | .bytes b => .ok b
  | .delimErr => .delimErr
  | _ => .valueErr

def obsA : Obs → AObs
  | .bytes b => .bytes b
  | .unit => .unit
  | .delimErr => .delimErr
  | _ => .valueErr

/-- a part stream of the cursor reader: a cursor over the content, and the parent text at the start of the content -/
structure CurPart where
  cur : Cur
  parent : Cur

def curOps : Ops Cur CurPart where
  pipeUntil r d c := let x := cursorStep r.chunk r.text (.pipeUntil d c); (obsRes x.1, { r with text := x.2 })
  peek r n := let x := cursorStep r.chunk r.text (.peek n); (obsRes x.1, { r with text := x.2 })
  read r s := let x := cursorStep r.chunk r.text (.read s); (obsRes x.1, { r with text := x.2 })
  readUntil r d s c := let x := cursorStep r.chunk r.text (.readUntil d s c); (obsRes x.1, { r with text := x.2 })
  delimit r d := { cur := { text := contentOf d r.text, chunk := r.chunk }, parent := r }
  parentOf c := c.parent
  cstep c op := let x := cursorStep c.cur.chunk c.cur.text op.toP; (obsA x.1, { c with cur := { c.cur with text := x.2 } })

theorem obsRes_until (A d : Bytes) (n : Nat) (c : Bool) : Rd.resObs (obsRes (untilSpec A d n c).1) = (untilSpec A d n c).1 := by
  unfold untilSpec
  simp only
  split
  · split <;> rfl
  · rfl

theorem toObs_obsA_step (chunk : Int) (A : Bytes) (op : AOp) : (obsA (cursorStep chunk A op.toP).1).toObs = (cursorStep chunk A op.toP).1 := by
  cases op with
  | readUntil d s c | pipeUntil d c =>
    simp only [AOp.toP, cursorStep, untilSpec]
    split
    · split <;> rfl
    · rfl
  | _ => rfl

theorem crun_cur (ops : List AOp) : ∀ (c : CurPart),
    (crun curOps c ops).1.map AObs.toObs = (cursorRun c.cur.chunk c.cur.text (ops.map AOp.toP)).1 ∧
    (crun curOps c ops).2.parent = c.parent := by
  induction ops with
  | nil => intro c; exact ⟨rfl, rfl⟩
  | cons op rest ih =>
    intro c
    obtain ⟨i1, i2⟩ := ih (curOps.cstep c op).2
    exact ⟨congr (congrArg List.cons (toObs_obsA_step c.cur.chunk c.cur.text op)) i1, i2⟩

def curLawful : Lawful curOps where
  text r := r.text
  chunk r := r.chunk
  good _ := True
  pipeUntil_law := by
    intro r d c _ _ _
    exact ⟨obsRes_until _ _ _ _, rfl, trivial, rfl⟩
  peek_law := by
    intro r n _
    exact ⟨rfl, rfl, trivial, rfl⟩
  read_law := by
    intro r s _ _
    exact ⟨rfl, rfl, trivial, rfl⟩
  readUntil_law := by
    intro r d s c _ _ _ _
    exact ⟨obsRes_until _ _ _ _, rfl, trivial, rfl⟩
  delimit_law := by
    intro p d ops _ _ _ _
    obtain ⟨c1, c2⟩ := crun_cur ops (curOps.delimit p d)
    refine ⟨c1, trivial, ?_, 0, Nat.zero_le _, ?_⟩
    · show (crun curOps (curOps.delimit p d) ops).2.parent.chunk = _
      rw [c2]; rfl
    · show (crun curOps (curOps.delimit p d) ops).2.parent.text = _
      rw [c2]; rfl

theorem toP_ok (sc : AScripts) (chunk : Int) (hok : ∀ k, ∀ op ∈ sc k, op.toP.ok chunk) : ∀ k, ∀ op ∈ sc.toP k, op.ok chunk := by
  intro k op h
  obtain ⟨a, ha, rfl⟩ := List.mem_map.mp h
  exact hok k a ha

/-- **C13 `sync_async_agree`.** The async parser over ANY reader satisfying the flat-cursor laws, and the sync parser
    (`Mf.runImpl` = iterating `Mp.next`, the transcription of `MultipartForm.__iter__`) over the buffered-reader model of
    falcon/util/reader.py on ANY lawful source (every transport chunking / short-read pattern), started on the same text
    still to come with the same reader chunk size (≥ `len(CRLF--boundary)`), the same limits and the same application
    behaviour on the part streams: they hand out the same parts (same header dicts, same order), the application makes
    the same observation for every operation on every part stream, and iteration ends the same way
    (`StopIteration`/`StopAsyncIteration` or the same `MultipartParseError`). -/
theorem sync_async_agree {σ : Type} [Source σ] [LawfulSource σ] (o : Ops ρ κ) (L : Lawful o) (sc : AScripts) (ra : ρ) (rs : R σ)
    (b : Bytes) (lim : Limits) (hg : L.good ra) (hinv : Inv rs) (hpl : rs.pos ≤ rs.len) (htext : L.text ra = abs rs)
    (hch : L.chunk ra = rs.chunk) (hc : (b.length : Int) + 4 ≤ rs.chunk) (hm : lim.maxHdr = -1 ∨ 0 ≤ lim.maxHdr)
    (hok : ∀ k, ∀ op ∈ sc k, op.toP.ok rs.chunk) :
    (obsMap (runA o sc ((L.text ra).length + 1) 0 (initForm b lim) ra []).1,
     (runA o sc ((L.text ra).length + 1) 0 (initForm b lim) ra []).2)
      = Mf.runImpl sc.toP ((abs rs).length + 1) 0 (initForm b lim) rs [] := by
  rw [async_refines_flat o L sc ra b lim hg (by rw [hch]; exact hc) hm (by rw [hch]; exact hok),
    Mf.next_refines_flat sc.toP rs b lim hinv hpl hc hm (toP_ok sc rs.chunk hok), htext, hch]

/-- … and with different reader chunk sizes (each ≥ the delimiter length) and different application behaviour, still
    the same header dicts in the same order and the same end -/
theorem sync_async_agree_parts {σ : Type} [Source σ] [LawfulSource σ] (o : Ops ρ κ) (L : Lawful o) (sc : AScripts) (sc' : Mf.Scripts)
    (ra : ρ) (rs : R σ) (b : Bytes) (lim : Limits) (hg : L.good ra) (hinv : Inv rs) (hpl : rs.pos ≤ rs.len)
    (htext : L.text ra = abs rs) (hca : (b.length : Int) + 4 ≤ L.chunk ra) (hc : (b.length : Int) + 4 ≤ rs.chunk)
    (hm : lim.maxHdr = -1 ∨ 0 ≤ lim.maxHdr) (hok : ∀ k, ∀ op ∈ sc k, op.toP.ok (L.chunk ra)) (hok' : ∀ k, ∀ op ∈ sc' k, op.ok rs.chunk) :
    (runA o sc ((L.text ra).length + 1) 0 (initForm b lim) ra []).1.map Prod.fst
      = (Mf.runImpl sc' ((abs rs).length + 1) 0 (initForm b lim) rs []).1.map Prod.fst ∧
    (runA o sc ((L.text ra).length + 1) 0 (initForm b lim) ra []).2
      = (Mf.runImpl sc' ((abs rs).length + 1) 0 (initForm b lim) rs []).2 := by
  obtain ⟨h1, h2⟩ := Prod.mk.inj (async_refines_flat o L sc ra b lim hg hca hm hok)
  rw [Mf.next_refines_flat sc' rs b lim hinv hpl hc hm hok', ← htext, Mf.observe_fst, ← Mf.observe_fst (L.chunk ra) sc.toP, ← h1]
  exact ⟨by simp [obsMap], h2⟩

/-- the async parser over the sync reader model IS the sync parser (the two generator bodies are the same function of
    the reader operations): iterating `Ma.next syncOps` and iterating `Mp.next` produce the same run -/
theorem runA_sync_eq {σ : Type} [Source σ] (sc : AScripts) : ∀ (n k : Nat) (f : Form) (r : R σ) (acc : List (Headers × List AObs)),
    (obsMap (runA syncOps sc n k f r acc).1, (runA syncOps sc n k f r acc).2) = Mf.runImpl sc.toP n k f r (obsMap acc) := by
  intro n
  induction n with
  | zero => intro k f r acc; rfl
  | succ n ih =>
    intro k f r acc
    have h := next_sync_eq f r
    unfold runA Mf.runImpl
    rcases hA : next syncOps f r with ⟨f1, o1⟩
    rw [hA] at h
    rw [← h]
    cases o1 with
    | part hd c =>
      simp only [Out.toMp]
      obtain ⟨c1, c2⟩ := crun_sync_eq (sc k) c
      rw [ih, c2, obsMap_snoc, c1]
      rfl
    | done p => rfl
    | err e p => rfl

/-- **`invalid_is_parse_error_only` / `parser_terminates` for the async loop**: under the hypotheses of `async_refines_flat`,
    `async for part in form` - whatever the body holds, however it is chunked, whatever the application does with the part
    streams - ends with `StopAsyncIteration` or with one of the four `MultipartParseError`s; it never runs out of fuel
    (no hang) and never raises `ValueError` (`Err.value`, the only other constructor) -/
theorem async_error_only (o : Ops ρ κ) (L : Lawful o) (sc : AScripts) (r : ρ) (b : Bytes) (lim : Limits) (hg : L.good r)
    (hc : (b.length : Int) + 4 ≤ L.chunk r) (hm : lim.maxHdr = -1 ∨ 0 ≤ lim.maxHdr)
    (hok : ∀ k, ∀ op ∈ sc k, op.toP.ok (L.chunk r)) :
    (runA o sc ((L.text r).length + 1) 0 (initForm b lim) r []).2 = .finished ∨
    ∃ e : Mf.Err, (runA o sc ((L.text r).length + 1) 0 (initForm b lim) r []).2 = .error e.toMp := by
  rw [(Prod.mk.inj (async_refines_flat o L sc r b lim hg hc hm hok)).2]
  cases ho : (parseAll (L.text r) b lim).2 with
  | finished => exact .inl rfl
  | error e => exact .inr ⟨e, rfl⟩
  | fuel => exact absurd ho (Mf.parser_terminates (L.text r) b lim)

/-- the shape of one resumption of the async generator, whatever the reader operations return: `f1` is the frame after the
    prologue switch; the generator raises (finished; 'too many parts' only by the count test), returns (finished), or yields
    `delimit(delimiter)` of some reader state with `remaining_parts` decremented and the count test passed -/
theorem next_cases (o : Ops ρ κ) (f : Form) (s : ρ) : ∃ f1 : Form,
    (f1.remaining = f.remaining ∧ f1.maxCount = f.maxCount ∧ f1.maxHdr = f.maxHdr ∧ f1.finished = f.finished ∧
      f1.prologue = false ∧ f1.delim = (if f.prologue then crlf ++ f.delim else f.delim)) ∧
    ((∃ (f0 : Form) (e : Err) (p : ρ), next o f s = ({ f0 with finished := true }, .err e p) ∧ e ≠ .tooManyParts) ∨
     (∃ p, next o f s = ({ f1 with finished := true }, .done p)) ∨
     (∃ p, next o f s = ({ f1 with remaining := f1.remaining - 1, finished := true }, .err .tooManyParts p) ∧
        f1.remaining - 1 < 0 ∧ 0 < f1.maxCount) ∨
     (∃ h p, next o f s = ({ f1 with remaining := f1.remaining - 1 }, .part h (o.delimit p f1.delim)) ∧
        ¬ (f1.remaining - 1 < 0 ∧ 0 < f1.maxCount))) := by
  refine ⟨if f.prologue then { f with delim := crlf ++ f.delim, prologue := false } else f, by cases hp : f.prologue <;> simp [hp], ?_⟩
  fun_cases next o f s
  · exact .inr (.inl ⟨_, rfl⟩)
  · exact .inl ⟨_, _, _, rfl, Mp.resErr_ne_tooMany _⟩
  · rename_i hlim
    simp only [Bool.and_eq_true, decide_eq_true_eq] at hlim
    exact .inr (.inr (.inl ⟨_, rfl, hlim⟩))
  · rename_i hlim
    simp only [Bool.and_eq_true, decide_eq_true_eq] at hlim
    exact .inr (.inr (.inr ⟨_, _, rfl, hlim⟩))
  · rename_i e hph
    exact .inl ⟨_, e, _, rfl, fun he => Mp.parseHeaders_not_tooMany _ _ (he ▸ hph)⟩
  · exact .inl ⟨_, _, _, rfl, by simp⟩
  · exact .inl ⟨_, _, _, rfl, by simp⟩
  · exact .inl ⟨_, _, _, rfl, Mp.resErr_ne_tooMany _⟩
  · exact .inl ⟨_, _, _, rfl, Mp.resErr_ne_tooMany _⟩
  · exact .inl ⟨_, _, _, rfl, Mp.resErr_ne_tooMany _⟩

theorem next_part (o : Ops ρ κ) (f : Form) (s : ρ) (f' : Form) (h : Headers) (c : κ) (hn : next o f s = (f', .part h c)) :
    f'.remaining = f.remaining - 1 ∧ f'.maxCount = f.maxCount ∧ f'.maxHdr = f.maxHdr ∧ f'.finished = f.finished ∧
    f'.prologue = false ∧ f'.delim = (if f.prologue then crlf ++ f.delim else f.delim) ∧
    ¬ (f.remaining - 1 < 0 ∧ 0 < f.maxCount) ∧ ∃ p, c = o.delimit p f'.delim := by
  obtain ⟨f1, ⟨e1, e2, e3, e4, e5, e6⟩, hc⟩ := next_cases o f s
  rw [hn] at hc
  rcases hc with ⟨_, _, _, he, _⟩ | ⟨_, he⟩ | ⟨_, he, _⟩ | ⟨_, p, he, hl⟩
  · cases he
  · cases he
  · cases he
  · cases he
    exact ⟨by show f1.remaining - 1 = _; rw [e1], e2, e3, e4, e5, e6, by rw [← e1, ← e2]; exact hl, p, rfl⟩

/-- 'maximum number of form body parts exceeded' is raised only if `remaining_parts - 1 < 0 < max_body_part_count` -/
theorem next_tooMany (o : Ops ρ κ) (f : Form) (s : ρ) (f' : Form) (p : ρ) (hn : next o f s = (f', .err .tooManyParts p)) :
    f.remaining - 1 < 0 ∧ 0 < f.maxCount ∧ f'.finished = true := by
  obtain ⟨f1, ⟨e1, e2, _⟩, hc⟩ := next_cases o f s
  rw [hn] at hc
  rcases hc with ⟨_, _, _, he, hne⟩ | ⟨_, he⟩ | ⟨_, he, hl⟩ | ⟨_, _, he, _⟩
  · cases he; exact absurd rfl hne
  · cases he
  · cases he; exact ⟨e1 ▸ hl.1, e2 ▸ hl.2, rfl⟩
  · cases he

/-- whenever the async generator returns or raises, it is finished (a later `__anext__` is `StopAsyncIteration`) -/
theorem next_finished (o : Ops ρ κ) (f : Form) (s : ρ) (f' : Form) (out : Out ρ κ) (hn : next o f s = (f', out))
    (hno : ∀ h c, out ≠ .part h c) : f'.finished = true := by
  obtain ⟨f1, _, hc⟩ := next_cases o f s
  rw [hn] at hc
  rcases hc with ⟨_, _, _, he, _⟩ | ⟨_, he⟩ | ⟨_, he, _⟩ | ⟨_, _, he, _⟩
  · cases he; rfl
  · cases he; rfl
  · cases he; rfl
  · cases he; exact absurd rfl (hno _ _)

theorem runA_count (o : Ops ρ κ) (sc : AScripts) : ∀ (n k : Nat) (f : Form) (r : ρ) (acc : List (Headers × List AObs)),
    f.remaining = f.maxCount - acc.length → (0 < f.maxCount → (acc.length : Int) ≤ f.maxCount) →
    (0 < f.maxCount → ((runA o sc n k f r acc).1.length : Int) ≤ f.maxCount) ∧
    ((runA o sc n k f r acc).2 = .error .tooManyParts → 0 < f.maxCount ∧ ((runA o sc n k f r acc).1.length : Int) = f.maxCount) := by
  intro n
  induction n with
  | zero => intro k f r acc _ h2; exact ⟨h2, fun h => by simp [runA] at h⟩
  | succ n ih =>
    intro k f r acc h1 h2
    unfold runA
    rcases hnx : next o f r with ⟨f', out⟩
    cases out with
    | part h c =>
      obtain ⟨n1, n2, _, _, _, _, n7, _⟩ := next_part o f r f' h c hnx
      simp only
      rw [← n2]
      exact ih (k + 1) f' _ _
        (by rw [n1, n2, h1]; simp only [List.length_append, List.length_singleton]; omega)
        (by
          intro hpos; rw [n2] at hpos ⊢
          simp only [List.length_append, List.length_singleton]
          have : ¬ (f.remaining - 1 < 0) := fun hlt => n7 ⟨hlt, hpos⟩
          omega)
    | done p => exact ⟨h2, fun h => by simp at h⟩
    | err e p =>
      refine ⟨h2, fun h => ?_⟩
      simp only [IOutcome.error.injEq] at h
      subst h
      obtain ⟨t1, t2, _⟩ := next_tooMany o f r f' p hnx
      have := h2 t2
      refine ⟨t2, ?_⟩
      show (acc.length : Int) = f.maxCount
      omega

/-- **`max_body_part_count` is exact for the async loop - for EVERY reader implementation, every body, every chunking,
    every application behaviour and any number of resumptions** (no law about the reader is used): with
    `max_body_part_count = m > 0` at most `m` parts are handed out, and 'maximum number of form body parts exceeded' is raised
    only after exactly `m` parts and only if `m > 0` (`m = 0`: never) -/
theorem async_part_count_limit_exact (o : Ops ρ κ) (sc : AScripts) (n : Nat) (r : ρ) (b : Bytes) (lim : Limits) :
    (0 < lim.maxCount → ((runA o sc n 0 (initForm b lim) r []).1.length : Int) ≤ lim.maxCount) ∧
    ((runA o sc n 0 (initForm b lim) r []).2 = .error .tooManyParts →
      0 < lim.maxCount ∧ ((runA o sc n 0 (initForm b lim) r []).1.length : Int) = lim.maxCount) :=
  runA_count o sc n 0 (initForm b lim) r [] (by simp [initForm]) (by intro h; simp [initForm] at h ⊢; omega)

theorem parseFlat_ok (body b : Bytes) (lim : Limits) (ps : List (Headers × Bytes)) (h : parseFlat body b lim = .ok ps) :
    parseAll body b lim = (ps, .finished) := by
  unfold parseFlat at h
  rcases hp : parseAll body b lim with ⟨qs, oc⟩
  rw [hp] at h
  cases oc with
  | finished => simp only [Except.ok.injEq] at h; rw [h]
  | error e => simp at h
  | fuel => simp at h

/-- **end to end (`parse_encode` for the async parser)**: a boundary- and header-safe form within the limits, encoded by the
    reference encoder, held by any lawful reader with chunk size ≥ `len(CRLF--boundary)`, the application consuming the part
    streams in any way: it is handed exactly the encoded parts' header dicts, in order, then `StopAsyncIteration`; and each
    part stream is a flat cursor over exactly the encoded content -/
theorem async_parse_encode (o : Ops ρ κ) (L : Lawful o) (sc : AScripts) (parts : List Part) (b pre epi : Bytes) (fin : Bool)
    (lim : Limits) (r : ρ) (hg : L.good r) (htext : L.text r = encodeForm parts b pre epi fin)
    (hc : (b.length : Int) + 4 ≤ L.chunk r) (hm : lim.maxHdr = -1 ∨ 0 ≤ lim.maxHdr)
    (hok : ∀ k, ∀ op ∈ sc k, op.toP.ok (L.chunk r))
    (hb : BoundarySafe parts b pre) (hh : HeadersSafe parts) (hl : WithinLimits parts lim) :
    (obsMap (runA o sc ((L.text r).length + 1) 0 (initForm b lim) r []).1,
     (runA o sc ((L.text r).length + 1) 0 (initForm b lim) r []).2)
      = (observe (L.chunk r) sc.toP 0 (parts.map Part.parsed), .finished) := by
  rw [async_refines_flat o L sc r b lim hg hc hm hok, htext,
    parseFlat_ok _ _ _ _ (Mf.parse_encode parts b pre epi fin lim hb hh hl)]
  rfl

/-- **`max_body_part_headers_size` is exact for the async loop** (encoded forms, limit `m`): parts whose header blocks have
    at most `m` bytes - in particular exactly `m` - are handed out; the first part whose block has more - in particular
    `m + 1` - raises 'incomplete body part headers' after exactly the parts before it -/
theorem async_headers_size_limit_exact (o : Ops ρ κ) (L : Lawful o) (sc : AScripts) (ps1 ps2 : List Part) (p : Part)
    (b pre epi : Bytes) (fin : Bool) (m : Nat) (r : ρ) (hg : L.good r)
    (htext : L.text r = encodeForm (ps1 ++ p :: ps2) b pre epi fin) (hc : (b.length : Int) + 4 ≤ L.chunk r)
    (hok : ∀ k, ∀ op ∈ sc k, op.toP.ok (L.chunk r))
    (hb : BoundarySafe (ps1 ++ p :: ps2) b pre) (hh : HeadersSafe (ps1 ++ p :: ps2)) (h1 : ∀ q ∈ ps1, q.block.length ≤ m) :
    (p.block.length ≤ m → (∀ q ∈ ps2, q.block.length ≤ m) →
      (obsMap (runA o sc ((L.text r).length + 1) 0 (initForm b ⟨m, 0⟩) r []).1,
       (runA o sc ((L.text r).length + 1) 0 (initForm b ⟨m, 0⟩) r []).2)
        = (observe (L.chunk r) sc.toP 0 ((ps1 ++ p :: ps2).map Part.parsed), .finished)) ∧
    (m < p.block.length →
      (obsMap (runA o sc ((L.text r).length + 1) 0 (initForm b ⟨m, 0⟩) r []).1,
       (runA o sc ((L.text r).length + 1) 0 (initForm b ⟨m, 0⟩) r []).2)
        = (observe (L.chunk r) sc.toP 0 (ps1.map Part.parsed), .error .incompleteHeaders)) := by
  have hm : (⟨m, 0⟩ : Limits).maxHdr = -1 ∨ 0 ≤ (⟨m, 0⟩ : Limits).maxHdr := Or.inr (by simp)
  obtain ⟨l1, l2⟩ := Mf.headers_size_limit_exact ps1 ps2 p b pre epi fin m hb hh h1
  constructor
  · intro hp h2
    rw [async_refines_flat o L sc r b ⟨m, 0⟩ hg hc hm hok, htext, parseFlat_ok _ _ _ _ (l1 hp h2)]
    rfl
  · intro hp
    rw [async_refines_flat o L sc r b ⟨m, 0⟩ hg hc hm hok, htext, l2 hp]
    rfl

/-- **`max_body_part_count` on encoded forms through the async loop**: `n ≤ m` parts (or `m = 0`) are handed out completely;
    with more parts exactly the first `m` come back and then 'maximum number of form body parts exceeded' -/
theorem async_part_count_limit_encoded (o : Ops ρ κ) (L : Lawful o) (sc : AScripts) (ps1 ps2 : List Part) (p : Part)
    (b pre epi : Bytes) (fin : Bool) (mh : Int) (r : ρ) (hg : L.good r)
    (htext : L.text r = encodeForm (ps1 ++ p :: ps2) b pre epi fin) (hc : (b.length : Int) + 4 ≤ L.chunk r)
    (hmh : mh = -1 ∨ 0 ≤ mh) (hok : ∀ k, ∀ op ∈ sc k, op.toP.ok (L.chunk r))
    (hb : BoundarySafe (ps1 ++ p :: ps2) b pre) (hh : HeadersSafe (ps1 ++ p :: ps2))
    (hf : ∀ q ∈ ps1 ++ p :: ps2, Mf.fits mh q.block.length) :
    (∀ m : Int, m = 0 ∨ ((ps1 ++ p :: ps2).length : Int) ≤ m →
      (obsMap (runA o sc ((L.text r).length + 1) 0 (initForm b ⟨mh, m⟩) r []).1,
       (runA o sc ((L.text r).length + 1) 0 (initForm b ⟨mh, m⟩) r []).2)
        = (observe (L.chunk r) sc.toP 0 ((ps1 ++ p :: ps2).map Part.parsed), .finished)) ∧
    (0 < ps1.length →
      (obsMap (runA o sc ((L.text r).length + 1) 0 (initForm b ⟨mh, ps1.length⟩) r []).1,
       (runA o sc ((L.text r).length + 1) 0 (initForm b ⟨mh, ps1.length⟩) r []).2)
        = (observe (L.chunk r) sc.toP 0 (ps1.map Part.parsed), .error .tooManyParts)) := by
  obtain ⟨l1, l2⟩ := Mf.part_count_limit_encoded ps1 ps2 p b pre epi fin mh hb hh hf
  constructor
  · intro m hmm
    rw [async_refines_flat o L sc r b ⟨mh, m⟩ hg hc hmh hok, htext, parseFlat_ok _ _ _ _ (l1 m hmm)]
    rfl
  · intro hpos
    rw [async_refines_flat o L sc r b ⟨mh, ps1.length⟩ hg hc hmh hok, htext, l2 hpos]
    rfl

theorem toObs_bytes (x : AObs) (b : Bytes) (h : x.toObs = .bytes b) : x = .bytes b := by
  cases x <;> simp [AObs.toObs] at h
  rw [h]

/-- what `stream.read(max_body_part_buffer_size + 1)` returns on a part stream nobody has read from yet -/
theorem first_read (o : Ops ρ κ) (L : Lawful o) (p : ρ) (d : Bytes) (m : Int) (hg : L.good p)
    (hd : d ≠ []) (hdc : (d.length : Int) ≤ L.chunk p) (hm : 0 ≤ m) :
    (o.cstep (o.delimit p d) (.read (some (m + 1)))).1 = .bytes ((contentOf d (L.text p)).take (m + 1).toNat) := by
  obtain ⟨q1, _⟩ := L.delimit_law p d [.read (some (m + 1))] hg hd hdc
    (fun op h => by simp at h; subst h; intro x hx; cases hx; right; omega)
  have hcr : (crun o (o.delimit p d) [.read (some (m + 1))]).1 = [(o.cstep (o.delimit p d) (.read (some (m + 1)))).1] := rfl
  rw [hcr] at q1
  have hw : want (contentOf d (L.text p)) (some (m + 1)) = (m + 1).toNat := by
    unfold want; have : m + 1 ≠ -1 := by omega
    simp [this]
  apply toObs_bytes
  simp only [List.map_cons, List.map_nil, AOp.toP, cursorRun, cursorStep, hw, List.cons.injEq, and_true] at q1
  exact q1

theorem getData_some (o : Ops ρ κ) (m : Int) (bp : BodyPart κ) (d : Bytes) (h : bp.data = some d) :
    getData o m bp = if (d.length : Int) > m then (.tooLarge, bp) else (.ok d, bp) := by
  unfold getData; simp only [h]

theorem getData_none_bytes (o : Ops ρ κ) (m : Int) (bp : BodyPart κ) (d : Bytes) (s : κ) (h : bp.data = none)
    (hst : o.cstep bp.stream (.read (some (m + 1))) = (.bytes d, s)) :
    getData o m bp = if (d.length : Int) > m then (.tooLarge, { bp with stream := s, data := some d })
      else (.ok d, { bp with stream := s, data := some d }) := by
  unfold getData; simp only [h, hst]

theorem getData_none_other (o : Ops ρ κ) (m : Int) (bp : BodyPart κ) (x : AObs) (s : κ) (h : bp.data = none)
    (hst : o.cstep bp.stream (.read (some (m + 1))) = (x, s)) (hx : ∀ d, x ≠ .bytes d) :
    getData o m bp = (.raised x, { bp with stream := s }) := by
  cases x with
  | bytes d => exact absurd rfl (hx d)
  | _ => unfold getData; simp only [h, hst]

/-- **`max_body_part_buffer_size` is exact for `await part.get_data()`** on a part stream nobody has read from yet: with
    the limit `m ≥ 0`, a part whose content has at most `m` bytes - in particular exactly `m` - is returned whole (and
    cached); a part with more - in particular `m + 1` - raises 'body part is too large' -/
theorem async_buffer_limit_exact (o : Ops ρ κ) (L : Lawful o) (p : ρ) (d : Bytes) (hs : Headers) (m : Int) (hg : L.good p)
    (hd : d ≠ []) (hdc : (d.length : Int) ≤ L.chunk p) (hm : 0 ≤ m) :
    (((contentOf d (L.text p)).length : Int) ≤ m →
      (getData o m { stream := o.delimit p d, headers := hs }).1 = .ok (contentOf d (L.text p)) ∧
      (getData o m { stream := o.delimit p d, headers := hs }).2.data = some (contentOf d (L.text p))) ∧
    (m < ((contentOf d (L.text p)).length : Int) →
      (getData o m { stream := o.delimit p d, headers := hs }).1 = .tooLarge) := by
  have q2 := first_read o L p d m hg hd hdc hm
  rcases hst : o.cstep (o.delimit p d) (.read (some (m + 1))) with ⟨x, s⟩
  rw [hst] at q2
  simp only at q2
  subst q2
  rw [getData_none_bytes o m _ _ s rfl hst]
  constructor
  · intro hle
    rw [List.take_of_length_le (by omega), if_neg (by omega)]
    exact ⟨rfl, rfl⟩
  · intro hlt
    rw [if_pos (by rw [List.length_take]; omega)]

theorem getData_cases (o : Ops ρ κ) (m : Int) (bp : BodyPart κ) :
    (∃ d, (getData o m bp).2.data = some d ∧ (d.length : Int) > m ∧ (getData o m bp).1 = .tooLarge) ∨
    (∃ d, (getData o m bp).2.data = some d ∧ (d.length : Int) ≤ m ∧ (getData o m bp).1 = .ok d) ∨
    (∃ e, (getData o m bp).1 = .raised e ∧ (getData o m bp).2.data = none) := by
  fun_cases getData o m bp
  · rename_i d hdat hgt
    exact .inl ⟨d, hdat, hgt, rfl⟩
  · rename_i d hdat hle
    exact .inr (.inl ⟨d, hdat, Int.not_lt.mp hle, rfl⟩)
  · rename_i d _ _ _ hgt
    exact .inl ⟨d, rfl, hgt, rfl⟩
  · rename_i d _ _ _ hle
    exact .inr (.inl ⟨d, rfl, Int.not_lt.mp hle, rfl⟩)
  · rename_i hdat _ e _ _ _
    exact .inr (.inr ⟨e, rfl, hdat⟩)

/-- `get_data()` never returns more than `max_body_part_buffer_size` bytes - for EVERY reader implementation, every state of
    the part (fresh, partly read, cached), every limit -/
theorem getData_le_limit (o : Ops ρ κ) (m : Int) (bp : BodyPart κ) (x : Bytes) (h : (getData o m bp).1 = .ok x) :
    (x.length : Int) ≤ m := by
  rcases getData_cases o m bp with ⟨d, _, _, e⟩ | ⟨d, _, hle, e⟩ | ⟨e', e, _⟩
  · rw [e] at h; cases h
  · rw [e] at h; simp only [DataRes.ok.injEq] at h; subst h; exact hle
  · rw [e] at h; cases h

/-- the cache, once filled, is never changed - neither by `get_data()` nor by operations on `part.stream` -/
theorem pstep_cache (o : Ops ρ κ) (m : Int) (bp : BodyPart κ) (op : PartOp) (d : Bytes) (h : bp.data = some d) :
    (pstep o m bp op).2.data = some d := by
  cases op with
  | stream a => exact h
  | getData =>
    show (getData o m bp).2.data = some d
    rw [getData_some o m bp d h]
    split <;> exact h

/-- 'body part is too large' is raised only with the over-long data in the cache -/
theorem getData_tooLarge_cache (o : Ops ρ κ) (m : Int) (bp : BodyPart κ) (h : (getData o m bp).1 = .tooLarge) :
    ∃ d, (getData o m bp).2.data = some d ∧ (d.length : Int) > m := by
  rcases getData_cases o m bp with ⟨d, hd, hgt, _⟩ | ⟨d, _, _, e⟩ | ⟨e', e, _⟩
  · exact ⟨d, hd, hgt⟩
  · rw [e] at h; cases h
  · rw [e] at h; cases h

theorem getData_of_cache (o : Ops ρ κ) (m : Int) (bp : BodyPart κ) (d : Bytes) (h : bp.data = some d) (hgt : (d.length : Int) > m) :
    (getData o m bp).1 = .tooLarge := by
  unfold getData; simp only [h, hgt, if_true]

/-- every `get_data()` observation in a history is `getData` of a state the history reaches; `I` is any property of the
    part that the operations keep -/
theorem prun_data (o : Ops ρ κ) (m : Int) (I : BodyPart κ → Prop) (hI : ∀ bp op, I bp → I (pstep o m bp op).2) :
    ∀ (ops : List PartOp) (bp : BodyPart κ) (r : DataRes), I bp → PartObs.data r ∈ (prun o m bp ops).1 →
      ∃ bp', I bp' ∧ r = (getData o m bp').1 := by
  intro ops
  induction ops with
  | nil => intro bp r _ h; simp [prun] at h
  | cons op rest ih =>
    intro bp r hbp h
    simp only [prun, List.mem_cons] at h
    rcases h with h | h
    · cases op with
      | stream a => simp [pstep] at h
      | getData =>
        simp only [pstep, PartObs.data.injEq] at h
        exact ⟨bp, hbp, h⟩
    · exact ih _ r (hI bp op hbp) h

/-- **the limit is enforced on every call of any call history** (the repair 913e041): for EVERY reader implementation and
    every history of operations on a `BodyPart` (operations on `part.stream` and `get_data()` calls - `get_text()`, `.data`,
    `.text` are `get_data()` plus decoding - in any order and number): no `get_data()` ever returns more than
    `max_body_part_buffer_size` bytes -/
theorem buffer_limit_every_call (o : Ops ρ κ) (m : Int) : ∀ (ops : List PartOp) (bp : BodyPart κ) (x : Bytes),
    PartObs.data (.ok x) ∈ (prun o m bp ops).1 → (x.length : Int) ≤ m := by
  intro ops bp x h
  obtain ⟨bp', _, e⟩ := prun_data o m (fun _ => True) (fun _ _ _ => trivial) ops bp _ trivial h
  exact getData_le_limit o m bp' x e.symm

/-- … and once `get_data()` has raised 'body part is too large', EVERY later `get_data()` (`get_text()`, `.data`, `.text`) on that
    part raises it again, whatever else the application does with the part in between -/
theorem tooLarge_sticky (o : Ops ρ κ) (m : Int) (bp : BodyPart κ) (h : (getData o m bp).1 = .tooLarge) :
    ∀ (ops : List PartOp) (r : DataRes), PartObs.data r ∈ (prun o m (getData o m bp).2 ops).1 → r = .tooLarge := by
  obtain ⟨d, hd, hgt⟩ := getData_tooLarge_cache o m bp h
  intro ops r hr
  obtain ⟨bp', hd', rfl⟩ := prun_data o m (fun bp => bp.data = some d) (fun bp op => pstep_cache o m bp op d) ops _ r hd hr
  exact getData_of_cache o m bp' d hd' hgt

/-- REGRESSION WITNESS for finding F39 (the code before 913e041, `getDataPinned`, sync and async alike, assigned `self._data`
    before the size test and tested only on the buffering call): after `get_data()` had raised 'body part is too large', a
    second `get_data()` / `get_text()` returned the truncated first `m + 1` bytes without any error -/
theorem getDataPinned_after_tooLarge (o : Ops ρ κ) (L : Lawful o) (p : ρ) (d : Bytes) (hs : Headers) (m : Int) (hg : L.good p)
    (hd : d ≠ []) (hdc : (d.length : Int) ≤ L.chunk p) (hm : 0 ≤ m) (hlt : m < ((contentOf d (L.text p)).length : Int)) :
    (getDataPinned o m { stream := o.delimit p d, headers := hs }).1 = .tooLarge ∧
    (getDataPinned o m (getDataPinned o m { stream := o.delimit p d, headers := hs }).2).1
      = .ok ((contentOf d (L.text p)).take (m + 1).toNat) := by
  have q2 := first_read o L p d m hg hd hdc hm
  rcases hst : o.cstep (o.delimit p d) (.read (some (m + 1))) with ⟨x, s⟩
  rw [hst] at q2
  simp only at q2
  subst q2
  have hl : (((contentOf d (L.text p)).take (m + 1).toNat).length : Int) ≥ m + 1 := by
    rw [List.length_take]; omega
  have h1 : getDataPinned o m { stream := o.delimit p d, headers := hs }
      = (.tooLarge, { stream := s, headers := hs, data := some ((contentOf d (L.text p)).take (m + 1).toNat) }) := by
    unfold getDataPinned
    simp only [hst, hl, if_true]
  rw [h1]
  exact ⟨rfl, rfl⟩

/-- `--b CRLF CRLF CRLF x y CRLF --b --` in five transport pieces (one of them empty) -/
def exPieces : List Bytes := [[45, 45, 98, 13, 10, 13], [10, 13, 10, 120], [], [121, 13, 10, 45, 45, 98], [45, 45]]
def exBody : Bytes := [45, 45, 98, 13, 10, 13, 10, 13, 10, 120, 121, 13, 10, 45, 45, 98, 45, 45]
def exSc : AScripts := fun k => if k = 0 then [.peek 1, .read (some 1), .readUntil [10] none false] else [.pipe]
def exR : AR Raw := { chunk := 5, src := ⟨exPieces⟩ }

theorem exSc_ok : ∀ k, ∀ op ∈ exSc k, op.toP.ok 5 := by
  intro k op hop
  by_cases h0 : k = 0
  · simp only [exSc, h0, if_true, List.mem_cons, List.not_mem_nil, or_false] at hop
    rcases hop with rfl | rfl | rfl
    · trivial
    · intro x hx; cases hx; right; decide
    · exact ⟨by decide, by decide, fun x hx => by cases hx⟩
  · simp only [exSc, h0, if_false, List.mem_cons, List.not_mem_nil, or_false] at hop
    subst hop; trivial

def isFinished : IOutcome → Bool
  | .finished => true
  | _ => false

/-- the concrete reader (`arOps`: the transcription of falcon/asgi/reader.py, chunk size 5 = `len(CRLF--b)`) on a chunked body:
    `runA arOps` yields what `async_refines_flat` says a lawful reader yields -/
example : (runA arOps exSc 30 0 (initForm [98] ⟨8192, 64⟩) exR []).1 = [([], [.bytes [120], .bytes [120], .bytes [121]])] ∧
    isFinished (runA arOps exSc 30 0 (initForm [98] ⟨8192, 64⟩) exR []).2 = true ∧
    (parseAll exBody [98] ⟨8192, 64⟩) = ([([], [120, 121])], .finished) := by
  decide +kernel

/-- the hypotheses of `async_refines_flat` / `async_error_only` / `async_parse_encode` hold for the cursor reader on that body,
    boundary "b", chunk size 5, and the script above -/
example : curLawful.good (⟨exBody, 5⟩ : Cur) ∧ (([98] : Bytes).length : Int) + 4 ≤ curLawful.chunk (⟨exBody, 5⟩ : Cur) ∧
    ((8192 : Int) = -1 ∨ (0 : Int) ≤ 8192) ∧ ∀ k, ∀ op ∈ exSc k, op.toP.ok (curLawful.chunk (⟨exBody, 5⟩ : Cur)) := by
  exact ⟨trivial, by decide, by decide, exSc_ok⟩

/-- the hypotheses of `sync_async_agree`: the cursor reader and a sync reader over a source delivering 1-3 bytes per call,
    same text, same chunk size -/
example :
    let rs : R Rd.Src := { rem := 18, chunk := 5, src := Rd.Src.mk exBody [1, 3, 2, 1] [] }
    curLawful.good (⟨exBody, 5⟩ : Cur) ∧ Inv rs ∧ rs.pos ≤ rs.len ∧ curLawful.text (⟨exBody, 5⟩ : Cur) = abs rs ∧
      curLawful.chunk (⟨exBody, 5⟩ : Cur) = rs.chunk ∧ (([98] : Bytes).length : Int) + 4 ≤ rs.chunk := by
  refine ⟨trivial, ⟨rfl, by decide, by decide, by decide, Or.inl (by decide)⟩, by decide, ?_, rfl, by decide⟩
  decide

/-- the same body through the async loop over the SYNC reader model (`syncOps`, `syncLawful`): all hypotheses hold there too -/
example :
    let rs : R Rd.Src := { rem := 18, chunk := 5, src := Rd.Src.mk exBody [1, 3, 2, 1] [] }
    (syncLawful (σ := Rd.Src)).good rs ∧ (([98] : Bytes).length : Int) + 4 ≤ (syncLawful (σ := Rd.Src)).chunk rs :=
  ⟨⟨⟨rfl, by decide, by decide, by decide, Or.inl (by decide)⟩, by decide⟩, by decide⟩

/-- `--b CRLF CRLF CRLF 0123456789 CRLF --b --` -/
def exBig : List Bytes := [[45, 45, 98, 13, 10, 13, 10, 13, 10, 48, 49, 50, 51], [52, 53, 54, 55, 56, 57, 13, 10, 45, 45, 98, 45, 45]]

def firstPart (pieces : List Bytes) : Option (BodyPart (AR (DelimGen Raw))) :=
  match next arOps (initForm [98] ⟨8192, 64⟩) ({ chunk := 8, src := ⟨pieces⟩ } : AR Raw) with
  | (_, .part h c) => some { stream := c, headers := h }
  | _ => none

def twice (g : BodyPart (AR (DelimGen Raw)) → DataRes × BodyPart (AR (DelimGen Raw))) (pieces : List Bytes) : List DataRes :=
  match firstPart pieces with
  | some bp => [(g bp).1, (g (g bp).2).1, (g (g (g bp).2).2).1]
  | none => []

/-- max_body_part_buffer_size = 3, content of 10 bytes: the repaired `get_data()` raises on every call; the pinned one
    (before 913e041) raised once and then returned the truncated first 4 bytes `0123` - finding F39 -/
example : twice (getData arOps 3) exBig = [.tooLarge, .tooLarge, .tooLarge] ∧
    twice (getDataPinned arOps 3) exBig = [.tooLarge, .ok [48, 49, 50, 51], .ok [48, 49, 50, 51]] ∧
    twice (getData arOps 10) exBig = [.ok [48, 49, 50, 51, 52, 53, 54, 55, 56, 57], .ok [48, 49, 50, 51, 52, 53, 54, 55, 56, 57],
      .ok [48, 49, 50, 51, 52, 53, 54, 55, 56, 57]] ∧
    twice (getData arOps 9) exBig = [.tooLarge, .tooLarge, .tooLarge] := by
  decide +kernel

/-- the hypotheses of `async_buffer_limit_exact` / `getDataPinned_after_tooLarge` hold for the cursor reader at the first
    content byte of that body, `d = CRLF--b`, limit 3 < 10 = the content length -/
example :
    let p : Cur := ⟨[48, 49, 50, 51, 52, 53, 54, 55, 56, 57, 13, 10, 45, 45, 98, 45, 45], 8⟩
    curLawful.good p ∧ ([13, 10, 45, 45, 98] : Bytes) ≠ [] ∧ ((([13, 10, 45, 45, 98] : Bytes).length : Int) ≤ curLawful.chunk p) ∧
      (0 : Int) ≤ 3 ∧ (3 : Int) < ((contentOf [13, 10, 45, 45, 98] (curLawful.text p)).length : Int) := by
  refine ⟨trivial, by decide, by decide, by decide, ?_⟩
  decide


end Ma
