import FalconModel.ReaderC14
/-! C14, sync reader: **every history of public operations refines the flat cursor.** -/
namespace Rd
variable {σ : Type} [Source σ] [LawfulSource σ]

/-- the public operations of `BufferedReader` (one reader; `delimit` creates a second reader and is not an operation on this one) -/
inductive POp where
  | read (size : Option Int)
  | peek (size : Int)
  | readUntil (d : Bytes) (size : Option Int) (consume : Bool)
  | pipeUntil (d : Bytes) (consume : Bool)
  | pipe
  | exhaust
  | readline (size : Option Int)
  | readlines (hint : Int)

/-- what the caller observes -/
inductive Obs where
  | bytes (b : Bytes)
  | lines (l : List Bytes)
  | unit
  | delimErr
  | valueErr

def okSize (s : Option Int) : Prop := ∀ x, s = some x → x = -1 ∨ 0 ≤ x

/-- argument conditions: sizes are `None`, `-1` or ≥ 0; delimiters are non-empty and no longer than the chunk size -/
def POp.ok (chunk : Int) : POp → Prop
  | .read s => okSize s
  | .peek _ => True
  | .readUntil d s _ => d ≠ [] ∧ (d.length : Int) ≤ chunk ∧ okSize s
  | .pipeUntil d _ => d ≠ [] ∧ (d.length : Int) ≤ chunk
  | .pipe => True
  | .exhaust => True
  | .readline s => okSize s
  | .readlines _ => True

/-- `read_until` / `pipe_until` on the flat text -/
def untilSpec (A d : Bytes) (n : Nat) (consume : Bool) : Obs × Bytes :=
  let k := stopAt d A n
  if consume then
    (if (A.drop k).take d.length = d then (.bytes (A.take k), A.drop (k + d.length)) else (.delimErr, A.drop k))
  else (.bytes (A.take k), A.drop k)

/-- **the specification**: one operation of a flat cursor over the text `A` still to come (`chunk` only clamps `peek`) -/
def cursorStep (chunk : Int) (A : Bytes) : POp → Obs × Bytes
  | .read s => (.bytes (A.take (want A s)), A.drop (want A s))
  | .peek n => (.bytes (A.take (if n < 0 || n > chunk then chunk else n).toNat), A)
  | .readUntil d s c => untilSpec A d (want A s) c
  | .pipeUntil d c => untilSpec A d A.length c
  | .pipe => (.bytes A, [])
  | .exhaust => (.unit, [])
  | .readline s => (.bytes (A.take (lineStop A (want A s))), A.drop (lineStop A (want A s)))
  | .readlines h => (.lines (linesOf A h).1, (linesOf A h).2)

def cursorRun (chunk : Int) : Bytes → List POp → List Obs × Bytes
  | A, [] => ([], A)
  | A, op :: rest =>
    let (o, A1) := cursorStep chunk A op
    let (os, A2) := cursorRun chunk A1 rest
    (o :: os, A2)

def resObs : Res → Obs
  | .ok b => .bytes b
  | .delimErr => .delimErr
  | .valueErr => .valueErr

/-- **the implementation**: the same operation of the reader model -/
def readerStep (r : R σ) : POp → Obs × R σ
  | .read s => let x := read r s; (.bytes x.1, x.2)
  | .peek n => let x := peek r n; (.bytes x.1, x.2)
  | .readUntil d s c => let x := readUntil r d s c; (resObs x.1, x.2)
  | .pipeUntil d c => let x := pipeUntil r d c none; (resObs x.1, x.2)
  | .pipe => let x := pipe r; (.bytes x.1, x.2)
  | .exhaust => (.unit, exhaust r)
  | .readline s => let x := readline r s; (resObs x.1, x.2)
  | .readlines h => let x := readlines r h; ((match x.1 with | some ls => .lines ls | none => .valueErr), x.2)

def readerRun : R σ → List POp → List Obs × R σ
  | r, [] => ([], r)
  | r, op :: rest =>
    let (o, r1) := readerStep r op
    let (os, r2) := readerRun r1 rest
    (o :: os, r2)

/-- `Stops` in the terms of the specification `untilSpec`, for both values of `consume_delimiter` -/
theorem Stops.until_spec {A d : Bytes} {n : Nat} {chunk : Int} {x0 x1 x : Res × R σ}
    (h : Stops A d (stopAt d A n) chunk x0 x1) (hdc : (d.length : Int) ≤ chunk) (c : Bool) (hx : x = bif c then x1 else x0) :
    resObs x.1 = (untilSpec A d n c).1 ∧ abs x.2 = (untilSpec A d n c).2 ∧ Inv x.2 ∧ x.2.pos ≤ x.2.len ∧
    x.2.chunk = chunk := by
  subst hx
  cases c with
  | false =>
    obtain ⟨r', e1, e2, e3, e4, e5⟩ := h.refines
    rw [cond_false, e1]
    exact ⟨rfl, e2, e3, e4, e5⟩
  | true =>
    rw [cond_true]
    unfold untilSpec
    by_cases hat : (A.drop (stopAt d A n)).take d.length = d
    · obtain ⟨a, b⟩ := (h.consume_refines hdc).1 hat
      rw [if_pos rfl, if_pos hat, a]
      exact ⟨rfl, b⟩
    · obtain ⟨a, b⟩ := (h.consume_refines hdc).2 hat
      rw [if_pos rfl, if_neg hat, a]
      exact ⟨rfl, b⟩

/-- one public operation refines one cursor step and re-establishes everything the next one needs -/
theorem readerStep_refines (r : R σ) (op : POp) (hinv : Inv r) (hpl : r.pos ≤ r.len) (hok : op.ok r.chunk) :
    (readerStep r op).1 = (cursorStep r.chunk (abs r) op).1 ∧
    abs (readerStep r op).2 = (cursorStep r.chunk (abs r) op).2 ∧
    Inv (readerStep r op).2 ∧ (readerStep r op).2.pos ≤ (readerStep r op).2.len ∧ (readerStep r op).2.chunk = r.chunk := by
  cases op with
  | read s =>
    obtain ⟨a, b⟩ := read_refines r s hinv hpl hok
    exact ⟨congrArg Obs.bytes a, b⟩
  | peek n =>
    obtain ⟨a, b⟩ := peek_refines r n hinv hpl
    exact ⟨congrArg Obs.bytes a, b⟩
  | readUntil dl s cons =>
    exact (readUntil_stops r dl s hinv hpl hok.2.2 hok.1 hok.2.1).until_spec hok.2.1 cons (by cases cons <;> rfl)
  | pipeUntil dl cons =>
    exact (pipeUntil_stops r dl none hinv hpl (fun x h => by cases h) hok.1 hok.2).until_spec hok.2 cons
      (by cases cons <;> rfl)
  | pipe =>
    obtain ⟨a, b⟩ := pipe_refines r hinv hpl
    exact ⟨congrArg Obs.bytes a, b⟩
  | exhaust => exact ⟨rfl, exhaust_refines r hinv hpl⟩
  | readline s =>
    obtain ⟨r', e1, e2⟩ := readline_refines r s hinv hpl hok
    simp only [readerStep, cursorStep, e1]
    exact ⟨rfl, e2⟩
  | readlines h =>
    obtain ⟨r', e1, e2⟩ := readlines_refines r h hinv hpl
    simp only [readerStep, cursorStep, e1]
    exact ⟨trivial, e2⟩

/-- **C14 for one synchronous reader.** For every reader state satisfying the representation invariant (in particular the
    freshly constructed one), every lawful source - i.e. every way the source splits the data into chunks and every pattern
    of short reads - and every history of public operations with valid arguments: the observations are, operation by
    operation, those of a flat cursor over the text still to come (`abs r` = buffered bytes followed by what the source will
    still deliver within the declared length), exactly the cursor's rest remains, and the invariant holds again. -/
theorem public_history_refines_cursor (ops : List POp) : ∀ (r : R σ), Inv r → r.pos ≤ r.len →
    (∀ op ∈ ops, op.ok r.chunk) →
    (readerRun r ops).1 = (cursorRun r.chunk (abs r) ops).1 ∧
    abs (readerRun r ops).2 = (cursorRun r.chunk (abs r) ops).2 ∧
    Inv (readerRun r ops).2 ∧ (readerRun r ops).2.pos ≤ (readerRun r ops).2.len := by
  induction ops with
  | nil => intro r hinv hpl _; exact ⟨rfl, rfl, hinv, hpl⟩
  | cons op rest ih =>
    intro r hinv hpl hok
    obtain ⟨s1, s2, s3, s4, s5⟩ := readerStep_refines r op hinv hpl (hok op List.mem_cons_self)
    obtain ⟨t1, t2, t3, t4⟩ := ih _ s3 s4 fun op' h' => s5 ▸ hok op' (List.mem_cons_of_mem _ h')
    rw [s5, s2] at t1 t2
    exact ⟨congr (congrArg List.cons s1) t1, t2, t3, t4⟩

/-- a freshly constructed reader (`BufferedReader(read, max_stream_len, chunk_size)` with `max_stream_len ≥ 0`,
    `chunk_size > 0`) satisfies the invariant, and its text is the first `max_stream_len` bytes of the source -/
theorem fresh_reader (src : σ) (maxLen chunk : Int) (h1 : 0 ≤ maxLen) (h2 : 0 < chunk) :
    let r : R σ := { rem := maxLen, chunk := chunk, src := src }
    Inv r ∧ r.pos ≤ r.len ∧ abs r = (LawfulSource.data src).take maxLen.toNat := by
  intro r
  refine ⟨⟨rfl, Int.le_refl 0, h1, h2, Or.inl (Int.le_refl 0)⟩, Int.le_refl 0, ?_⟩
  simp [abs, avail, sliceFrom, pyIdx, r]
end Rd
