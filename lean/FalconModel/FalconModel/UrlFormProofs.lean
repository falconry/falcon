import FalconModel.UrlForm
import FalconModel.ToQueryStrProofs
/-! C12: the URL-encoded form round trip `deserialize(serialize(d)) = normalForm d`, on top of the C08 theorems
    (`Qs.parseQS_eq_ref`, `Gt.refOf_entries`, `Gt.parse_toQueryStr`). -/
namespace Uf
open Qs (Bytes Str Val Params splitOn partitionEq decodeStr fieldEntry entries Entry parseQS refOf)
open Gt (BVal dec decV decMap)
open Uri
open Probe

theorem allowedSp_pct : allowedSp 37 = false := by decide +kernel

theorem encSp_no43 (x : Bytes) : ∀ c ∈ encodeWith allowedSp x, c ≠ 43 := by
  intro c hc h; subst h
  rcases encodeWith_charset allowedSp x _ hc with h | h | h
  · exact absurd h (by decide +kernel)
  · exact absurd h (by decide)
  · exact absurd h (by decide)

/-- **output alphabet of `quote_plus`**: always-safe characters, '+', '%', upper-case hex digits -/
theorem quotePlus_charset (x : Bytes) : ∀ c ∈ quotePlus x, allowedValue c = true ∨ c = 43 ∨ c = 37 ∨ upperHex c = true := by
  intro c hc
  unfold quotePlus at hc
  by_cases hsp : x.contains 32 = true
  · rw [if_pos hsp] at hc
    obtain ⟨a, ha, rfl⟩ := List.mem_map.1 hc
    by_cases h32 : a = 32
    · subst h32; exact Or.inr (Or.inl rfl)
    · have hb : (a == 32) = false := Qs.byte_beq_false h32
      rw [hb, if_neg Bool.false_ne_true]
      rcases encodeWith_charset allowedSp x a ha with h | h | h
      · unfold allowedSp at h; rw [hb, Bool.or_false] at h; exact Or.inl h
      · exact Or.inr (Or.inr (Or.inl h))
      · exact Or.inr (Or.inr (Or.inr h))
  · rw [if_neg hsp] at hc
    rcases encodeWith_charset allowedValue x c hc with h | h | h
    · exact Or.inl h
    · exact Or.inr (Or.inr (Or.inl h))
    · exact Or.inr (Or.inr (Or.inr h))

theorem quotePlus_no (x : Bytes) (d : UInt8) (hd : allowedValue d = false) (h43 : d ≠ 43) (h37 : d ≠ 37) (hh : upperHex d = false) :
    ∀ c ∈ quotePlus x, c ≠ d := by
  intro c hc he; subst he
  rcases quotePlus_charset x _ hc with h | h | h | h
  · rw [hd] at h; exact Bool.noConfusion h
  · exact h43 h
  · exact h37 h
  · rw [hh] at h; exact Bool.noConfusion h

theorem qp_no38 (x : Bytes) : ∀ c ∈ quotePlus x, c ≠ 38 := quotePlus_no x 38 Qs.seps_not_allowed.1 (by decide) (by decide) rfl
theorem qp_no61 (x : Bytes) : ∀ c ∈ quotePlus x, c ≠ 61 := quotePlus_no x 61 Qs.seps_not_allowed.2.1 (by decide) (by decide) rfl
theorem qp_no44 (x : Bytes) : ∀ c ∈ quotePlus x, c ≠ 44 := quotePlus_no x 44 Qs.seps_not_allowed.2.2 (by decide) (by decide) rfl

theorem unresTab_ascii : unreservedTab.all (fun c => c.toNat < 128) = true := by decide +kernel

/-- the output of `quote_plus` is ASCII -/
theorem quotePlus_ascii (x : Bytes) : ∀ c ∈ quotePlus x, c.toNat < 128 := by
  intro c hc
  rcases quotePlus_charset x c hc with h | h | h | h
  · exact of_decide_eq_true (List.all_eq_true.1 unresTab_ascii c (Qs.contains_iff_mem.1 h))
  · subst h; decide
  · subst h; decide
  · unfold upperHex at h
    simp only [Bool.or_eq_true, Bool.and_eq_true, decide_eq_true_eq] at h
    omega

theorem map_sp_id (l : Bytes) (h : ∀ c ∈ l, c ≠ 43) :
    (l.map (fun c => if c == 32 then 43 else c)).map (fun c => if c == 43 then 32 else c) = l := by
  rw [List.map_map]
  refine (List.map_congr_left fun c hc => ?_).trans (List.map_id l)
  by_cases h32 : c = 32
  · subst h32; rfl
  · simp only [Function.comp, Qs.byte_beq_false h32, Qs.byte_beq_false (h c hc), Bool.false_eq_true, if_false, id]

/-- falcon's `decode(…, unquote_plus=True)` undoes `quote_plus`, byte for byte -/
theorem unquote_quotePlus (x : Bytes) : decodeImpl ((quotePlus x).map (fun c => if c == 43 then 32 else c)) = x := by
  unfold quotePlus
  by_cases h32 : x.contains 32 = true
  · rw [if_pos h32, map_sp_id _ (encSp_no43 x), decodeImpl_eq_ref, decode_encodeWith allowedSp_pct]
  · rw [if_neg h32]; exact decode_encode_value true x

theorem decodeStr_quotePlus (x : Bytes) : decodeStr (quotePlus x) = U8.decodeReplace x :=
  congrArg U8.decodeReplace (unquote_quotePlus x)

theorem quotePlus_isEmpty (x : Bytes) : (quotePlus x).isEmpty = x.isEmpty := by
  cases x with
  | nil => rfl
  | cons c r =>
    cases h : quotePlus (c :: r) with
    | nil =>
      have := unquote_quotePlus (c :: r)
      rw [h] at this
      exact nomatch this
    | cons _ _ => rfl

abbrev mk (k x : Bytes) : Entry := ⟨dec k, [dec x], false⟩

theorem fieldEntry_field (kb csv : Bool) (k v : Bytes) :
    fieldEntry kb csv (quotePlus k ++ 61 :: quotePlus v) = if keeps kb k v then some (mk k v) else none := by
  rw [Qs.fieldEntry_scalar kb csv _ _ (qp_no61 k) (Or.inr (qp_no44 v)), quotePlus_isEmpty, quotePlus_isEmpty,
    decodeStr_quotePlus, decodeStr_quotePlus]
  unfold keeps
  cases v.isEmpty <;> cases kb <;> cases k.isEmpty <;> rfl

theorem filterMap_values (kb csv : Bool) (k : Bytes) : ∀ (vs : List Bytes),
    (vs.map fun lv => quotePlus k ++ 61 :: quotePlus lv).filterMap (fieldEntry kb csv) = (vs.filter (keeps kb k)).map (mk k) := by
  intro vs
  induction vs with
  | nil => rfl
  | cons x r ih =>
    rw [List.map_cons, List.filterMap_cons, List.filter_cons, fieldEntry_field, ih]
    cases keeps kb k x <;> rfl

/-- what the parser reads from the fields of one item: the surviving values, each as a scalar entry under the item's name -/
theorem filterMap_item (kb csv : Bool) (kv : Bytes × BVal) :
    (fieldsOf kv).filterMap (fieldEntry kb csv) = ((valuesOf kv.2).filter (keeps kb kv.1)).map (mk kv.1) := by
  obtain ⟨k, v⟩ := kv
  cases v with
  | one v => exact filterMap_values kb csv k [v]
  | many vs => exact filterMap_values kb csv k vs

theorem splitOn_joinAnd (fs : List Bytes) (hne : fs ≠ []) (h : ∀ f ∈ fs, ∀ c ∈ f, c ≠ 38) : splitOn 38 (joinAnd fs) = fs :=
  Qs.splitOn_join 38 joinAnd (fun _ => rfl) (fun _ _ _ => rfl) fs hne h

theorem mem_field (kv : Bytes × BVal) (f : Bytes) (hf : f ∈ fieldsOf kv) (c : UInt8) (hc : c ∈ f) :
    c = 61 ∨ ∃ x, c ∈ quotePlus x := by
  obtain ⟨k, v⟩ := kv
  have hpair : ∀ x : Bytes, c ∈ quotePlus k ++ 61 :: quotePlus x → c = 61 ∨ ∃ x, c ∈ quotePlus x := by
    intro x h
    rcases List.mem_append.1 h with h | h
    · exact Or.inr ⟨k, h⟩
    · rcases List.mem_cons.1 h with h | h
      · exact Or.inl h
      · exact Or.inr ⟨x, h⟩
  cases v with
  | one v => exact hpair v (List.mem_singleton.1 hf ▸ hc)
  | many vs =>
    obtain ⟨x, _, rfl⟩ := List.mem_map.1 hf
    exact hpair x hc

theorem fields_no38 (m : List (Bytes × BVal)) : ∀ f ∈ m.flatMap fieldsOf, ∀ c ∈ f, c ≠ 38 := by
  intro f hf c hc
  obtain ⟨kv, _, hfk⟩ := List.mem_flatMap.1 hf
  rcases mem_field kv f hfk c hc with h | ⟨x, h⟩
  · subst h; decide
  · exact qp_no38 x c h

/-- **`serialize_ascii`**: the serialized form is ASCII (alphabet: always-safe characters, '+', '%', hex digits, '=', '&') -/
theorem serialize_ascii (h : Handler) (m : List (Bytes × BVal)) : (serialize h m).all (fun c => c.toNat < 128) = true := by
  rw [List.all_eq_true]
  intro c hc
  rw [decide_eq_true_eq]
  rcases Qs.mem_join 38 joinAnd rfl (fun _ => rfl) (fun _ _ _ => rfl) _ c hc with h | ⟨f, hf, hcf⟩
  · subst h; decide
  · obtain ⟨kv, _, hfk⟩ := List.mem_flatMap.1 hf
    rcases mem_field kv f hfk c hcf with h | ⟨x, h⟩
    · subst h; decide
    · exact quotePlus_ascii x c h

/-- the reference entries of the whole rendering -/
theorem entries_urlencode (m : List (Bytes × BVal)) (kb csv : Bool) :
    entries (urlencode m) kb csv = (m.flatMap fieldsOf).filterMap (fieldEntry kb csv) :=
  Qs.entries_join joinAnd rfl (fun _ => rfl) (fun _ _ _ => rfl) _ (fields_no38 m) kb csv

theorem entries_flat (kb csv : Bool) (m : List (Bytes × BVal)) :
    (m.flatMap fieldsOf).filterMap (fieldEntry kb csv) = m.flatMap fun kv => ((valuesOf kv.2).filter (keeps kb kv.1)).map (mk kv.1) :=
  List.filterMap_flatMap.trans (congrArg (List.flatMap · m) (funext (filterMap_item kb csv)))

theorem normItem_entries (kb : Bool) (kv : Bytes × BVal) :
    (match normItem kb kv with | none => [] | some n => Gt.entriesOf false n) = ((valuesOf kv.2).filter (keeps kb kv.1)).map (mk kv.1) := by
  unfold normItem
  cases (valuesOf kv.2).filter (keeps kb kv.1) with
  | nil => rfl
  | cons x r => cases r <;> rfl

theorem normalForm_entries (kb : Bool) : ∀ (m : List (Bytes × BVal)),
    (normalForm kb m).flatMap (Gt.entriesOf false) = m.flatMap fun kv => ((valuesOf kv.2).filter (keeps kb kv.1)).map (mk kv.1) := by
  intro m
  induction m with
  | nil => rfl
  | cons kv r ih =>
    rw [List.flatMap_cons, ← ih, ← normItem_entries kb kv]
    unfold normalForm
    rw [List.filterMap_cons]
    cases normItem kb kv <;> rfl

theorem keeps_iff {kb : Bool} {k x : Bytes} : keeps kb k x = true ↔ (x ≠ [] ∨ (kb = true ∧ k ≠ [])) := by
  simp only [keeps, Bool.or_eq_true, Bool.and_eq_true, Bool.not_eq_true', List.isEmpty_eq_false_iff]

theorem normItem_ok (kb : Bool) (kv n : Bytes × BVal) (h : normItem kb kv = some n) : n.1 = kv.1 ∧ Gt.ItemOk kb n := by
  unfold normItem at h
  have hmem : ∀ x ∈ (valuesOf kv.2).filter (keeps kb kv.1), x ≠ [] ∨ (kb = true ∧ kv.1 ≠ []) :=
    fun x hx => keeps_iff.1 (List.mem_filter.1 hx).2
  generalize (valuesOf kv.2).filter (keeps kb kv.1) = l at h hmem
  cases l with
  | nil => exact nomatch h
  | cons x r =>
    cases r with
    | nil => cases h; exact ⟨rfl, hmem, trivial⟩
    | cons y r => cases h; exact ⟨rfl, hmem, Nat.le_add_left 2 r.length⟩

theorem normalForm_items (kb : Bool) (m : List (Bytes × BVal)) : ∀ n ∈ normalForm kb m, Gt.ItemOk kb n := by
  intro n hn
  obtain ⟨kv, _, h⟩ := List.mem_filterMap.1 hn
  exact (normItem_ok kb kv n h).2

theorem normalForm_keys_sublist (kb : Bool) : ∀ (m : List (Bytes × BVal)),
    ((normalForm kb m).map fun kv => dec kv.1).Sublist (m.map fun kv => dec kv.1) := by
  intro m
  induction m with
  | nil => exact List.Sublist.slnil
  | cons kv r ih =>
    unfold normalForm at ih ⊢
    rw [List.filterMap_cons]
    cases hn : normItem kb kv with
    | none => exact List.Sublist.cons _ ih
    | some n =>
      rw [List.map_cons, List.map_cons, (normItem_ok kb kv n hn).1]
      exact List.Sublist.cons_cons _ ih

/-- the normal form satisfies the side conditions of the C08 `to_query_str` round trip (for either csv setting) -/
theorem normalForm_wf (kb csv : Bool) (m : List (Bytes × BVal)) (hnd : (m.map fun kv => dec kv.1).Nodup) :
    Gt.WFmap (normalForm kb m) kb csv false :=
  ⟨(normalForm_keys_sublist kb m).nodup hnd, normalForm_items kb m, fun h => by cases h⟩

/-- the parser reads `urlencode(d, doseq=True)` as the normal form of `d`, for every option setting -/
theorem parse_urlencode (m : List (Bytes × BVal)) (kb csv : Bool) (hnd : (m.map fun kv => dec kv.1).Nodup) :
    parseQS (urlencode m) kb csv = decMap (normalForm kb m) := by
  rw [Qs.parseQS_eq_ref]
  show refOf (entries (urlencode m) kb csv) = _
  rw [entries_urlencode, entries_flat, ← normalForm_entries]
  exact Gt.refOf_entries kb false _ ((normalForm_keys_sublist kb m).nodup hnd) (normalForm_items kb m)

/-- urllib's `urlencode(d, doseq=True)` and falcon's `to_query_str(normal form of d)` are read the same (they differ as
    text: '+' against '%20' for a space) — the C08 round-trip theorem `Gt.parse_toQueryStr` applies to the normal form -/
theorem parse_urlencode_eq_toQueryStr (m : List (Bytes × BVal)) (kb csv : Bool) (hnd : (m.map fun kv => dec kv.1).Nodup) :
    parseQS (urlencode m) kb csv = parseQS (Gt.toQueryStr (normalForm kb m) false false) kb csv := by
  rw [Gt.parse_toQueryStr _ kb csv false (normalForm_wf kb csv m hnd), parse_urlencode m kb csv hnd]

/-- **form media round trip** (`URLEncodedFormHandler`, any `keep_blank` / `csv` setting): for every document `d` - a
    mapping (or sequence of pairs) with distinct names from `str` to `str` or list of `str` -
    `deserialize(serialize(d))` succeeds and is the normal form of `d`: names in order; per name the values that survive
    (`keeps`: non-empty, or blank values kept and the name non-empty); no survivor - name absent; one survivor - a plain
    string (so a one-element list comes back as a string); several - a list in order.  Commas, '&', '=', '+', '%', spaces
    and non-ASCII text inside names and values are immaterial (all escaped), also with `csv=True`. -/
theorem deserialize_serialize (h : Handler) (m : List (Bytes × BVal)) (hnd : (m.map fun kv => dec kv.1).Nodup) :
    deserialize h (serialize h m) = some (decMap (normalForm h.keepBlank m)) := by
  unfold deserialize
  rw [serialize_ascii, if_pos rfl]
  exact congrArg some (parse_urlencode m _ _ hnd)

-- {'a b': 'x&y=z,+%', '': 'v', 'l': ['1', '', 'é'], 'q': '', 's': ['only'], 'e': []} with the default options:
-- names distinct; 's' comes back as a plain string, 'e' is absent
example : ([([97, 32, 98], BVal.one [120, 38, 121, 61, 122, 44, 43, 37]), ([], .one [118]), ([108], .many [[49], [], [195, 169]]),
    ([113], .one []), ([115], .many [[111]]), ([101], .many [])].map fun kv => dec kv.1).Nodup := by decide +kernel
example : serialize {} [([97, 32, 98], .one [120, 38, 121, 61, 122, 44, 43, 37]), ([], .one [118]), ([108], .many [[49], [], [195, 169]])]
    = -- a+b=x%26y%3Dz%2C%2B%25&=v&l=1&l=&l=%C3%A9
      [97, 43, 98, 61, 120, 37, 50, 54, 121, 37, 51, 68, 122, 37, 50, 67, 37, 50, 66, 37, 50, 53, 38, 61, 118, 38, 108, 61, 49, 38, 108, 61, 38, 108, 61, 37, 67, 51, 37, 65, 57] := by decide +kernel
example : (deserialize {} (serialize {} [([97, 32, 98], .one [120, 38, 121, 61, 122, 44, 43, 37]), ([], .one [118]), ([108], .many [[49], [], [195, 169]]),
    ([113], .one []), ([115], .many [[111]]), ([101], .many [])])
    == some [([97, 32, 98], .one [120, 38, 121, 61, 122, 44, 43, 37]), ([], .one [118]), ([108], .many [[49], [], [233]]), ([113], .one []), ([115], .one [111])]) = true := by decide +kernel

/-! ### when the round trip is exact, and the normalisations one by one -/

theorem normItem_of_ok (kb : Bool) (kv : Bytes × BVal) (hk : Gt.ItemOk kb kv) : normItem kb kv = some kv := by
  obtain ⟨k, v⟩ := kv
  have hf : (valuesOf v).filter (keeps kb k) = valuesOf v :=
    List.filter_eq_self.2 fun x hx => keeps_iff.2 (hk.1 x (by cases v <;> exact hx))
  unfold normItem
  dsimp only
  rw [hf]
  cases v with
  | one v => rfl
  | many vs =>
    obtain ⟨a, b, r, rfl⟩ := Qs.exists_cons_cons hk.2
    rfl

/-- a document that satisfies the C08 side conditions item by item (`Gt.ItemOk`: no value dropped, every list has at
    least two elements) is its own normal form -/
theorem normalForm_id (kb : Bool) : ∀ (m : List (Bytes × BVal)), (∀ kv ∈ m, Gt.ItemOk kb kv) → normalForm kb m = m := by
  intro m h
  induction m with
  | nil => rfl
  | cons kv r ih =>
    obtain ⟨hkv, hr⟩ := List.forall_mem_cons.1 h
    unfold normalForm
    rw [List.filterMap_cons, normItem_of_ok kb kv hkv]
    exact congrArg (kv :: ·) (ih hr)

/-- **exact form round trip**: names distinct, no pair with name and value both empty (no empty value at all with
    `keep_blank=False`), every list of length at least two: `deserialize(serialize(d)) = d`. -/
theorem roundtrip_exact (h : Handler) (m : List (Bytes × BVal)) (hnd : (m.map fun kv => dec kv.1).Nodup)
    (hok : ∀ kv ∈ m, Gt.ItemOk h.keepBlank kv) : deserialize h (serialize h m) = some (decMap m) := by
  rw [deserialize_serialize h m hnd, normalForm_id _ m hok]

-- {'a b': 'x&y=z,+%', '': 'v', 'l': ['1', '', 'é'], 'q': ''}: exact under the defaults and under csv=True
example : ∀ kv ∈ [([97, 32, 98], BVal.one [120, 38, 121, 61, 122, 44, 43, 37]), ([], .one [118]), ([108], .many [[49], [], [195, 169]]), ([113], .one [])],
    Gt.ItemOk ({} : Handler).keepBlank kv := by decide +kernel

/-- a one-element list comes back as a plain string -/
theorem normItem_one_element_list (kb : Bool) (k x : Bytes) (h : keeps kb k x = true) :
    normItem kb (k, .many [x]) = some (k, .one x) := by
  unfold normItem valuesOf; rw [List.filter_cons, h, if_pos rfl]; rfl
/-- an empty list vanishes -/
theorem normItem_empty_list (kb : Bool) (k : Bytes) : normItem kb (k, .many []) = none := rfl
/-- an empty string is dropped when `keep_blank=False`, or when the name is empty too -/
theorem normItem_blank (kb : Bool) (k : Bytes) (h : kb = false ∨ k = []) : normItem kb (k, .one []) = none := by
  have hk : keeps kb k [] = false := by
    rcases h with rfl | rfl
    · rfl
    · exact Bool.and_false kb
  unfold normItem valuesOf; rw [List.filter_cons, hk]; rfl

theorem handler_defaults : ({} : Handler).keepBlank = true ∧ ({} : Handler).csv = false := ⟨rfl, rfl⟩

/-- an empty body is the empty mapping (not an error) -/
theorem deserialize_empty (h : Handler) : deserialize h [] = some [] := by
  unfold deserialize; cases h.keepBlank <;> cases h.csv <;> rfl

/-- a body with a byte >= 0x80 is `MediaMalformedError` … -/
theorem deserialize_non_ascii (h : Handler) (body : Bytes) (c : UInt8) (hc : c ∈ body) (h128 : 128 ≤ c.toNat) :
    deserialize h body = none := by
  unfold deserialize
  rw [if_neg fun hall => Nat.not_lt.2 h128 (of_decide_eq_true (List.all_eq_true.1 hall c hc))]

/-- … and every other body parses (to what `parse_query_string` gives: C08): no third outcome -/
theorem deserialize_ascii (h : Handler) (body : Bytes) (ha : ∀ c ∈ body, c.toNat < 128) :
    deserialize h body = some (parseQS body h.keepBlank h.csv) := by
  unfold deserialize
  rw [if_pos (List.all_eq_true.2 fun c hc => decide_eq_true (ha c hc))]

example : deserialize {} [97, 61, 195, 169] = none := by decide +kernel

/-! ### each hypothesis / normalisation is needed (concrete witnesses) -/
/-- {'a': ['b']} comes back as {'a': 'b'} -/
theorem witness_one_element_list : (deserialize {} (serialize {} [([97], .many [[98]])]) == some [([97], .one [98])]) = true := by decide +kernel
/-- {'a': []} comes back as {} -/
theorem witness_empty_list : (deserialize {} (serialize {} [([97], .many [])]) == some []) = true := by decide +kernel
/-- {'a': ''} is kept by default, lost with keep_blank=False; {'': ''} is lost always -/
theorem witness_blank_kept : (deserialize {} (serialize {} [([97], .one [])]) == some [([97], .one [])]) = true := by decide +kernel
theorem witness_blank_dropped : (deserialize { keepBlank := false } (serialize {} [([97], .one [])]) == some []) = true := by decide +kernel
theorem witness_both_empty : (deserialize {} (serialize {} [([], .one [])]) == some []) = true := by decide +kernel
/-- {'a': ['', 'x', '']} with keep_blank=False comes back as {'a': 'x'} -/
theorem witness_blank_in_list : (deserialize { keepBlank := false } (serialize {} [([97], .many [[], [120], []])]) == some [([97], .one [120])]) = true := by decide +kernel
/-- {'a': 'x,y'} with csv=True comes back as the string 'x,y' (the comma is escaped), not as a list -/
theorem witness_comma_csv : (deserialize { csv := true } (serialize {} [([97], .one [120, 44, 121])]) == some [([97], .one [120, 44, 121])]) = true := by decide +kernel
/-- but a body written by someone else with a literal comma is split under csv=True and not under the default -/
theorem witness_csv_option : (deserialize { csv := true } [97, 61, 120, 44, 121] == some [([97], .many [[120], [121]])]) = true
    ∧ (deserialize {} [97, 61, 120, 44, 121] == some [([97], .one [120, 44, 121])]) = true := by decide +kernel
/-- distinct names are needed: the sequence of pairs [('a','x'), ('a','y')] comes back as {'a': ['x','y']} -/
theorem witness_same_name : (deserialize {} (serialize {} [([97], .one [120]), ([97], .one [121])]) == some [([97], .many [[120], [121]])]) = true := by decide +kernel

end Uf
