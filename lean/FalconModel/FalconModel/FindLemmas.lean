import FalconModel.Reader
/-! `bytes.find` as modelled in `Rd.find`: it returns the first occurrence (`occ`) of a non-empty needle. On top of it the flat
    specification of `read_until`: `upTo d A` is where it stops without a size (first occurrence or the end),
    `stopAt_eq : stopAt d A n = min n (upTo d A)`, with the composition law `stopAt_add`; and the cross-chunk fragment test of `_read_until`. -/
namespace Rd

def occ (d hay : Bytes) (i : Nat) : Prop := isPrefix d (hay.drop i) = true

theorem isPrefix_iff (d l : Bytes) : isPrefix d l = true ↔ l.take d.length = d ∧ d.length ≤ l.length := by
  induction d generalizing l with
  | nil => simp [isPrefix]
  | cons a as ih =>
    cases l with
    | nil => simp [isPrefix]
    | cons b bs =>
      simp only [isPrefix, Bool.and_eq_true, beq_iff_eq, ih, List.length_cons, List.take_succ_cons,
        List.cons.injEq]
      constructor
      · rintro ⟨rfl, h1, h2⟩; exact ⟨⟨rfl, h1⟩, by omega⟩
      · rintro ⟨⟨rfl, h1⟩, h2⟩; exact ⟨rfl, h1, by omega⟩

theorem occ_iff (d hay : Bytes) (i : Nat) (hd : d ≠ []) :
    occ d hay i ↔ (hay.drop i).take d.length = d ∧ i + d.length ≤ hay.length := by
  unfold occ
  rw [isPrefix_iff, List.length_drop]
  constructor
  · rintro ⟨h1, h2⟩
    refine ⟨h1, ?_⟩
    by_cases hi : i ≤ hay.length
    · omega
    · -- drop beyond the end is empty: then d = []
      have : hay.drop i = [] := List.drop_of_length_le (by omega)
      rw [this] at h1; simp at h1
      exact absurd h1 hd
  · rintro ⟨h1, h2⟩; exact ⟨h1, by omega⟩

theorem findAux_spec (d : Bytes) (hd : d ≠ []) : ∀ (l : Bytes) (i : Nat),
    (findAux d l i = -1 ∧ ∀ j, ¬ occ d l j) ∨
    (∃ j, findAux d l i = ((i + j : Nat) : Int) ∧ occ d l j ∧ ∀ j' < j, ¬ occ d l j') := by
  intro l
  induction l with
  | nil =>
    intro i
    left
    refine ⟨by simp [findAux], ?_⟩
    intro j h
    unfold occ at h
    cases d with
    | nil => exact hd rfl
    | cons a as => simp [isPrefix] at h
  | cons h t ih =>
    intro i
    simp only [findAux]
    by_cases hp : isPrefix d (h :: t) = true
    · right
      refine ⟨0, by simp [hp], by simpa [occ] using hp, by intro j' hj'; omega⟩
    · simp only [hp, Bool.false_eq_true, if_false]
      rcases ih (i + 1) with ⟨h1, h2⟩ | ⟨j, h1, h2, h3⟩
      · left
        refine ⟨h1, ?_⟩
        intro j hj
        cases j with
        | zero => exact hp (by simpa [occ] using hj)
        | succ j' => exact h2 j' (by simpa [occ] using hj)
      · right
        refine ⟨j + 1, ?_, by simpa [occ] using h2, ?_⟩
        · rw [h1]; congr 1; omega
        · intro j' hj'
          cases j' with
          | zero => intro hc; exact hp (by simpa [occ] using hc)
          | succ j'' => intro hc; exact h3 j'' (by omega) (by simpa [occ] using hc)

theorem occ_drop (d hay : Bytes) (s j : Nat) : occ d (hay.drop s) j ↔ occ d hay (s + j) := by
  unfold occ; rw [List.drop_drop]

/-- `b.find(d, start)` for `0 ≤ start ≤ len(b)` -/
theorem find_spec (b d : Bytes) (start : Int) (hd : d ≠ []) (h0 : 0 ≤ start) (h1 : start ≤ b.length) :
    (find b d start = -1 ∧ ∀ j, start.toNat ≤ j → ¬ occ d b j) ∨
    (∃ p : Nat, find b d start = (p : Int) ∧ start.toNat ≤ p ∧ occ d b p ∧ ∀ j, start.toNat ≤ j → j < p → ¬ occ d b j) := by
  unfold find
  have hs : pyIdx b.length start = start.toNat := by
    unfold pyIdx
    have : ¬ start < 0 := by omega
    have h2 : ¬ start > b.length := by omega
    simp [this, h2]
  rw [hs]
  rcases findAux_spec d hd (b.drop start.toNat) start.toNat with ⟨h2, h3⟩ | ⟨j, h2, h3, h4⟩
  · left
    refine ⟨h2, ?_⟩
    intro j hj hc
    have : j = start.toNat + (j - start.toNat) := by omega
    rw [this, ← occ_drop] at hc
    exact h3 _ hc
  · right
    refine ⟨start.toNat + j, h2, by omega, (occ_drop _ _ _ _).mp h3, ?_⟩
    intro j' hj' hlt hc
    have : j' = start.toNat + (j' - start.toNat) := by omega
    rw [this, ← occ_drop] at hc
    exact h4 _ (by omega) hc

#print axioms find_spec
theorem occ_append_left (d a b : Bytes) (j : Nat) (hd : d ≠ []) (hfit : j + d.length ≤ a.length) :
    occ d (a ++ b) j ↔ occ d a j := by
  rw [occ_iff _ _ _ hd, occ_iff _ _ _ hd]
  have h1 : ((a ++ b).drop j).take d.length = (a.drop j).take d.length := by
    rw [List.drop_append_of_le_length (by omega), List.take_append_of_le_length (by rw [List.length_drop]; omega)]
  rw [h1, List.length_append]
  constructor
  · rintro ⟨h, _⟩; exact ⟨h, hfit⟩
  · rintro ⟨h, _⟩; exact ⟨h, by omega⟩

theorem occ_append_right (d a b : Bytes) (j : Nat) : occ d (a ++ b) (a.length + j) ↔ occ d b j := by
  unfold occ
  rw [List.drop_append, List.drop_of_length_le (by omega), Nat.add_sub_cancel_left, List.nil_append]

theorem occ_straddle (d a b : Bytes) (j : Nat) (hj : j < a.length) (hnf : ¬ j + d.length ≤ a.length) :
    a.length - (d.length - 1) ≤ j := by omega

theorem occ_take (d l : Bytes) (j n : Nat) (hd : d ≠ []) (hfit : j + d.length ≤ n) :
    occ d (l.take n) j ↔ occ d l j := by
  conv => rhs; rw [← List.take_append_drop n l]
  by_cases hn : n ≤ l.length
  · rw [occ_append_left _ _ _ _ hd (by rw [List.length_take]; omega)]
  · have : l.drop n = [] := List.drop_of_length_le (by omega)
    rw [this, List.append_nil]

def firstOcc (d l : Bytes) : Option Nat :=
  let p := find l d 0
  if p < 0 then none else some p.toNat

theorem firstOcc_spec (d l : Bytes) (hd : d ≠ []) :
    (firstOcc d l = none ∧ ∀ j, ¬ occ d l j) ∨
    (∃ p, firstOcc d l = some p ∧ occ d l p ∧ ∀ j < p, ¬ occ d l j) := by
  unfold firstOcc
  rcases find_spec l d 0 hd (Int.le_refl 0) (by omega) with ⟨h1, h2⟩ | ⟨p, h1, _, h3, h4⟩
  · left; simp only [h1]
    exact ⟨by simp, fun j => h2 j (by simp)⟩
  · right
    refine ⟨p, ?_, h3, fun j hj => h4 j (by simp) hj⟩
    simp only [h1]
    have : ¬ ((p : Int) < 0) := by omega
    simp [this]

/-- how far `read_until(d, size)` goes on the flat text `A` -/
def stopAt (d A : Bytes) (size : Nat) : Nat :=
  min size ((firstOcc d A).getD A.length)

#print axioms firstOcc_spec
theorem occ_lt_length (d l : Bytes) (j : Nat) (hd : d ≠ []) (h : occ d l j) : j < l.length := by
  have := ((occ_iff d l j hd).mp h).2
  have : 0 < d.length := List.length_pos_iff.mpr hd
  omega

/-- where `read_until(d)` stops on `A` when no size is given: at the first occurrence of `d`, or at the end -/
def upTo (d A : Bytes) : Nat := (firstOcc d A).getD A.length

theorem stopAt_eq (d A : Bytes) (n : Nat) : stopAt d A n = min n (upTo d A) := rfl

theorem upTo_of_occ (d A : Bytes) (p : Nat) (hd : d ≠ []) (hp : occ d A p) (hno : ∀ j < p, ¬ occ d A j) :
    upTo d A = p := by
  unfold upTo
  rcases firstOcc_spec d A hd with ⟨_, h2⟩ | ⟨q, h1, h2, h3⟩
  · exact absurd hp (h2 p)
  · rw [h1]
    rcases Nat.lt_trichotomy q p with h | h | h
    · exact absurd h2 (hno q h)
    · exact h
    · exact absurd hp (h3 p h)

theorem upTo_of_none (d A : Bytes) (hd : d ≠ []) (hno : ∀ j, ¬ occ d A j) : upTo d A = A.length := by
  unfold upTo
  rcases firstOcc_spec d A hd with ⟨h1, _⟩ | ⟨q, _, h2, _⟩
  · rw [h1]; rfl
  · exact absurd h2 (hno q)

theorem upTo_le (d A : Bytes) (hd : d ≠ []) : upTo d A ≤ A.length := by
  rcases firstOcc_spec d A hd with ⟨_, hno⟩ | ⟨p, _, hp, hb⟩
  · exact Nat.le_of_eq (upTo_of_none d A hd hno)
  · exact upTo_of_occ d A p hd hp hb ▸ Nat.le_of_lt (occ_lt_length d A p hd hp)

theorem upTo_drop (d A : Bytes) (m : Nat) (hd : d ≠ []) (hm : m ≤ upTo d A) :
    upTo d (A.drop m) = upTo d A - m := by
  rcases firstOcc_spec d A hd with ⟨_, hno⟩ | ⟨p, _, hp, hb⟩
  · rw [upTo_of_none d A hd hno, upTo_of_none d _ hd fun j h => hno (m + j) ((occ_drop d A m j).mp h),
      List.length_drop]
  · rw [upTo_of_occ d A p hd hp hb] at hm ⊢
    exact upTo_of_occ d _ (p - m) hd ((occ_drop d A m _).mpr (by rw [Nat.add_sub_of_le hm]; exact hp))
      fun j hj h => hb (m + j) (by omega) ((occ_drop d A m j).mp h)

theorem stopAt_of_occ (d A : Bytes) (size p : Nat) (hd : d ≠ []) (hp : occ d A p) (hno : ∀ j < p, ¬ occ d A j) :
    stopAt d A size = min size p := by
  rw [stopAt_eq, upTo_of_occ d A p hd hp hno]

theorem stopAt_none (d A : Bytes) (size : Nat) (hd : d ≠ []) (hno : ∀ j, ¬ occ d A j) :
    stopAt d A size = min size A.length := by
  rw [stopAt_eq, upTo_of_none d A hd hno]

theorem stopAt_no_occ_before (d A : Bytes) (size : Nat) (hd : d ≠ []) (hno : ∀ j < size, ¬ occ d A j)
    (hle : size ≤ A.length) : stopAt d A size = size := by
  rw [stopAt_eq]
  refine Nat.min_eq_left (Nat.le_of_not_lt fun hlt => ?_)
  rcases firstOcc_spec d A hd with ⟨_, hnone⟩ | ⟨p, _, hp, hb⟩
  · rw [upTo_of_none d A hd hnone] at hlt; omega
  · rw [upTo_of_occ d A p hd hp hb] at hlt; exact hno p hlt hp

theorem stopAt_le_length (d A : Bytes) (n : Nat) (hd : d ≠ []) : stopAt d A n ≤ A.length :=
  Nat.le_trans (Nat.min_le_right _ _) (upTo_le d A hd)

theorem stopAt_zero (d A : Bytes) : stopAt d A 0 = 0 := Nat.zero_min _

theorem stopAt_big (d A : Bytes) (n : Nat) (hd : d ≠ []) (hn : A.length ≤ n) : stopAt d A n = stopAt d A A.length := by
  have := upTo_le d A hd
  rw [stopAt_eq, stopAt_eq]; omega

/-- `read_until(d, m)` followed by `read_until(d, n)` stops where `read_until(d, m + n)` does -/
theorem stopAt_add (d A : Bytes) (m n : Nat) (hd : d ≠ []) :
    stopAt d A (m + n) = stopAt d A m + stopAt d (A.drop (stopAt d A m)) n := by
  rw [stopAt_eq d A, stopAt_eq d A, stopAt_eq d (A.drop _), upTo_drop d A _ hd (Nat.min_le_right _ _)]
  rcases Nat.le_total (upTo d A) m with h | h
  · rw [Nat.min_eq_right h, Nat.sub_self, Nat.min_zero, Nat.add_zero,
      Nat.min_eq_right (Nat.le_trans h (Nat.le_add_right _ _))]
  · rw [Nat.min_eq_left h]; omega
/-- **cross-chunk delimiter detection** (`fragment = buffer[offset:] + next_chunk[:len(d)-1]`): the occurrences of `d` in the
    fragment are, shifted by the offset, exactly the occurrences in `b ++ c` that start inside `b` at or after the offset (`hno` is
    not needed for this; that the first of them is the first occurrence at or after `pos` is `border_search`). -/
theorem fragment_first_occ (d b c : Bytes) (pos : Nat) (hd : d ≠ []) (hpos : pos ≤ b.length)
    (hno : ∀ j, pos ≤ j → ¬ occ d b j) :
    let dl1 := d.length - 1
    let offset := max (b.length - dl1) pos
    let fragment := b.drop offset ++ c.take dl1
    (∀ j, occ d fragment j ↔ (occ d (b ++ c) (offset + j) ∧ offset + j < b.length)) := by
  intro dl1 offset fragment j
  have hdl : 0 < d.length := List.length_pos_iff.mpr hd
  have hoff : offset ≤ b.length := by simp only [offset]; omega
  have hfl : fragment.length = (b.length - offset) + min dl1 c.length := by
    simp only [fragment, List.length_append, List.length_drop, List.length_take]
  -- the fragment is a prefix of (b ++ c).drop offset
  have hbl : (b.drop offset).length = b.length - offset := List.length_drop ..
  have hpre : fragment = ((b ++ c).drop offset).take ((b.drop offset).length + dl1) := by
    simp only [fragment]
    rw [List.drop_append_of_le_length hoff, List.take_append,
      List.take_of_length_le (Nat.le_add_right _ _), Nat.add_sub_cancel_left]
  constructor
  · intro h
    have hfit := ((occ_iff d fragment j hd).mp h).2
    refine ⟨?_, by omega⟩
    rw [hpre, occ_take _ _ _ _ hd (by omega), occ_drop] at h
    exact h
  · rintro ⟨h, hlt⟩
    have hfit := ((occ_iff d (b ++ c) (offset + j) hd).mp h).2
    rw [List.length_append] at hfit
    rw [hpre, occ_take _ _ _ _ hd (by simp only [dl1]; omega), occ_drop]
    exact h

#print axioms fragment_first_occ

theorem occ_in_fragment (d b c : Bytes) (pos j : Nat) (hd : d ≠ []) (hpos : pos ≤ b.length)
    (hno : ∀ j, pos ≤ j → ¬ occ d b j) (hj : pos ≤ j) (hjb : j < b.length) (hocc : occ d (b ++ c) j) :
    max (b.length - (d.length - 1)) pos ≤ j ∧
      occ d (b.drop (max (b.length - (d.length - 1)) pos) ++ c.take (d.length - 1)) (j - max (b.length - (d.length - 1)) pos) := by
  have hnf : ¬ j + d.length ≤ b.length := fun hfit => hno j hj ((occ_append_left d b c j hd hfit).mp hocc)
  have hoff : max (b.length - (d.length - 1)) pos ≤ j := Nat.max_le.mpr ⟨occ_straddle d b c j hjb hnf, hj⟩
  refine ⟨hoff, (fragment_first_occ d b c pos hd hpos hno _).mpr ?_⟩
  rw [Nat.add_sub_of_le hoff]
  exact ⟨hocc, hjb⟩

/-- the search `_read_until` performs at the border between the buffer `b` (already searched from `pos` without success) and
    the next chunk `c`; it is skipped for a one-byte delimiter -/
theorem border_search (d b c F : Bytes) (pos off : Nat) (hd : d ≠ []) (hpos : pos ≤ b.length)
    (hno : ∀ j, pos ≤ j → ¬ occ d b j) (hoff : off = max (b.length - (d.length - 1)) pos)
    (hF : F = b.drop off ++ c.take (d.length - 1)) :
    ((if (d.length : Int) - 1 > 0 then find F d 0 else -1) = -1 ∧ ∀ j, ¬ occ d F j) ∨
    ∃ q : Nat, (d.length : Int) - 1 > 0 ∧ find F d 0 = (q : Int) ∧ pos ≤ off + q ∧ occ d (b ++ c) (off + q) ∧
      ∀ j, pos ≤ j → j < off + q → ¬ occ d (b ++ c) j := by
  subst hoff hF
  by_cases hdl1 : (d.length : Int) - 1 > 0
  · rw [if_pos hdl1]
    rcases find_spec _ d 0 hd (Int.le_refl 0) (Int.natCast_nonneg _) with ⟨f1, f2⟩ | ⟨q, f1, _, f3, f4⟩
    · exact Or.inl ⟨f1, fun j => f2 j (Nat.zero_le j)⟩
    · obtain ⟨g1, g2⟩ := (fragment_first_occ d b c pos hd hpos hno q).mp f3
      refine Or.inr ⟨q, hdl1, f1, Nat.le_trans (Nat.le_max_right _ _) (Nat.le_add_right _ _), g1,
        fun j hj1 hj2 hocc => ?_⟩
      obtain ⟨o1, o2⟩ := occ_in_fragment d b c pos j hd hpos hno hj1 (Nat.lt_trans hj2 g2) hocc
      exact f4 _ (Nat.zero_le _) (by omega) o2
  · refine Or.inl ⟨if_neg hdl1, fun j hj => ?_⟩
    -- for a one-byte delimiter the fragment is empty
    have hl := occ_lt_length d _ j hd hj
    rw [show d.length - 1 = 0 by omega, Nat.sub_zero, List.take_zero, List.append_nil,
      List.drop_eq_nil_iff.mpr (Nat.le_max_left _ _)] at hl
    exact absurd hl (Nat.not_lt_zero _)
end Rd
