import FalconModel.RespHeaders
namespace Hd
variable {Name κ : Type} [DecidableEq κ]

theorem lookup_cons (x : κ × String) (m : List (κ × String)) (k : κ) :
    lookup (x :: m) k = if x.1 == k then some x.2 else lookup m k := by
  unfold lookup
  rw [List.find?_cons]
  cases x.1 == k <;> rfl

theorem lookup_eq_none_of_not_any (m : List (κ × String)) (k : κ) (h : ¬ m.any (·.1 == k) = true) : lookup m k = none := by
  unfold lookup
  rw [List.find?_eq_none.mpr (fun x hx hk => h (List.any_eq_true.mpr ⟨x, hx, hk⟩))]
  rfl

theorem lookup_append (m n : List (κ × String)) (k : κ) : lookup (m ++ n) k = (lookup m k).or (lookup n k) := by
  unfold lookup
  rw [List.find?_append]
  cases List.find? (·.1 == k) m <;> rfl

theorem lookup_map_self (m : List (κ × String)) (k : κ) (v : String) (h : m.any (·.1 == k) = true) :
    lookup (m.map (fun e => if e.1 == k then (k, v) else e)) k = some v := by
  induction m with
  | nil => cases h
  | cons x xs ih =>
    rw [List.any_cons] at h
    rw [List.map_cons, lookup_cons]
    cases hx : x.1 == k with
    | true => rw [if_pos rfl, if_pos (beq_self_eq_true k)]
    | false =>
      rw [hx, Bool.false_or] at h
      rw [if_neg Bool.false_ne_true, hx, if_neg Bool.false_ne_true, ih h]

theorem lookup_setKey_self (m : List (κ × String)) (k : κ) (v : String) : lookup (setKey m k v) k = some v := by
  unfold setKey
  split
  · rename_i hany; exact lookup_map_self m k v hany
  · rename_i hany
    rw [lookup_append, lookup_eq_none_of_not_any m k hany, lookup_cons, if_pos (beq_self_eq_true k)]
    rfl

theorem lookup_map_ne (m : List (κ × String)) (k k' : κ) (v : String) (hne : k' ≠ k) :
    lookup (m.map (fun e => if e.1 == k then (k, v) else e)) k' = lookup m k' := by
  have hk : (k == k') = false := beq_false_of_ne (Ne.symm hne)
  induction m with
  | nil => rfl
  | cons x xs ih =>
    rw [List.map_cons, lookup_cons, lookup_cons, ih]
    cases hx : x.1 == k with
    | true => rw [if_pos rfl, hk, eq_of_beq hx, hk]; rfl
    | false => rw [if_neg Bool.false_ne_true]

theorem lookup_setKey_ne (m : List (κ × String)) (k k' : κ) (v : String) (hne : k' ≠ k) :
    lookup (setKey m k v) k' = lookup m k' := by
  unfold setKey
  split
  · exact lookup_map_ne m k k' v hne
  · rw [lookup_append, lookup_cons, if_neg (Bool.eq_false_iff.mp (beq_false_of_ne (Ne.symm hne)))]
    cases lookup m k' <;> rfl

theorem lookup_delKey_self (m : List (κ × String)) (k : κ) : lookup (delKey m k) k = none := by
  refine lookup_eq_none_of_not_any _ k (fun h => ?_)
  obtain ⟨x, hx, hk⟩ := List.any_eq_true.mp h
  have := (List.mem_filter.mp hx).2
  rw [eq_of_beq hk] at this
  exact absurd this (by rw [bne_self_eq_false]; exact Bool.false_ne_true)

theorem lookup_delKey_ne (m : List (κ × String)) (k k' : κ) (hne : k' ≠ k) :
    lookup (delKey m k) k' = lookup m k' := by
  unfold delKey
  induction m with
  | nil => rfl
  | cons x xs ih =>
    rw [List.filter_cons, lookup_cons]
    cases hx : x.1 != k with
    | true => rw [if_pos rfl, lookup_cons, ih]
    | false =>
      have : x.1 = k := by simpa using hx
      rw [if_neg Bool.false_ne_true, ih, this, if_neg (Bool.eq_false_iff.mp (beq_false_of_ne (Ne.symm hne)))]

/-! ### C15: the operations refine a map keyed by normalised names -/
variable (c : Cfg Name κ)

/-- a call that does not raise: the name is not Set-Cookie and only the dict entry changes -/
theorem setHeader_eq_some {r r' : Resp κ} {a : Name} {v : String} (h : setHeader c r a v = some r') :
    c.norm a ≠ c.cookie ∧ r' = { r with headers := setKey r.headers (c.norm a) v } := by
  unfold setHeader at h
  split at h
  · cases h
  · rename_i hn; exact ⟨hn, (Option.some.inj h).symm⟩

theorem deleteHeader_eq_some {r r' : Resp κ} {a : Name} (h : deleteHeader c r a = some r') :
    c.norm a ≠ c.cookie ∧ r' = { r with headers := delKey r.headers (c.norm a) } := by
  unfold deleteHeader at h
  split at h
  · cases h
  · rename_i hn; exact ⟨hn, (Option.some.inj h).symm⟩

/-- reading back in any spelling that normalises alike returns what was set -/
theorem get_after_set (r r' : Resp κ) (a b : Name) (v : String) (h : setHeader c r a v = some r')
    (hab : c.norm a = c.norm b) : getHeader c r' b = some (some v) := by
  obtain ⟨hn, rfl⟩ := setHeader_eq_some c h
  rw [getHeader, ← hab, if_neg hn]
  exact congrArg some (lookup_setKey_self _ _ _)

/-- … and leaves every other header as it was -/
theorem get_after_set_other (r r' : Resp κ) (a b : Name) (v : String) (h : setHeader c r a v = some r')
    (hab : c.norm b ≠ c.norm a) : getHeader c r' b = getHeader c r b := by
  obtain ⟨_, rfl⟩ := setHeader_eq_some c h
  unfold getHeader
  split
  · rfl
  · exact congrArg some (lookup_setKey_ne _ _ _ _ hab)

theorem get_after_delete (r r' : Resp κ) (a b : Name) (h : deleteHeader c r a = some r')
    (hab : c.norm a = c.norm b) : getHeader c r' b = some none := by
  obtain ⟨hn, rfl⟩ := deleteHeader_eq_some c h
  rw [getHeader, ← hab, if_neg hn]
  exact congrArg some (lookup_delKey_self _ _)

/-- appending to a plain header joins with ", "; the first append behaves like set -/
theorem get_after_append (r : Resp κ) (a b : Name) (v : String) (hn : c.norm a ≠ c.cookie)
    (hab : c.norm a = c.norm b) :
    getHeader c (appendHeader c r a v) b =
      some (some (match lookup r.headers (c.norm a) with | some old => old ++ ", " ++ v | none => v)) := by
  rw [appendHeader, getHeader, ← hab, if_neg hn, if_neg hn]
  cases lookup r.headers (c.norm a) <;> exact congrArg some (lookup_setKey_self _ _ _)

/-- Set-Cookie is out of reach of the plain calls: they raise, and they never touch the raw cookie lines -/
theorem cookie_unreachable (r : Resp κ) (a : Name) (v : String) (ha : c.norm a = c.cookie) :
    getHeader c r a = none ∧ setHeader c r a v = none ∧ deleteHeader c r a = none := by
  simp [getHeader, setHeader, deleteHeader, ha]

theorem extra_untouched_by_set (r r' : Resp κ) (a : Name) (v : String) (h : setHeader c r a v = some r') :
    r'.extra = r.extra := by
  obtain ⟨_, rfl⟩ := setHeader_eq_some c h
  rfl

theorem extra_untouched_by_delete (r r' : Resp κ) (a : Name) (h : deleteHeader c r a = some r') :
    r'.extra = r.extra := by
  obtain ⟨_, rfl⟩ := deleteHeader_eq_some c h
  rfl

/-- what every non-raising `set_header` keeps, `set_headers` keeps - also when it raises half-way -/
theorem setHeaders_preserves (P : Resp κ → Prop) (h : ∀ r r' n v, setHeader c r n v = some r' → P r → P r')
    (items : List (Name × String)) : ∀ (r : Resp κ), P r → P (setHeaders c r items).1 := by
  induction items with
  | nil => exact fun r hr => hr
  | cons it rest ih =>
    intro r hr
    unfold setHeaders
    cases hs : setHeader c r it.1 it.2 with
    | none => exact hr
    | some r' => exact ih r' (h r r' _ _ hs hr)

theorem extra_untouched_by_setHeaders (items : List (Name × String)) : ∀ (r : Resp κ),
    (setHeaders c r items).1.extra = r.extra :=
  fun r => setHeaders_preserves c (·.extra = r.extra) (fun r₁ r' n v hs h => (extra_untouched_by_set c r₁ r' n v hs).trans h)
    items r rfl

/-- each appended raw cookie gets its own line, in order, and plain headers are not affected -/
theorem append_cookie_separate_line (r : Resp κ) (a : Name) (v : String) (ha : c.norm a = c.cookie) :
    (appendHeader c r a v).extra = r.extra ++ [(c.cookie, v)] ∧ (appendHeader c r a v).headers = r.headers := by
  simp [appendHeader, ha]

#print axioms get_after_set
#print axioms get_after_append
#print axioms extra_untouched_by_setHeaders
end Hd

namespace Hd
variable {Name κ : Type} [DecidableEq κ]
set_option linter.unusedSectionVars false

def keys (m : List (κ × String)) : List κ := m.map (·.1)

theorem keys_setKey_of_any (m : List (κ × String)) (k : κ) (v : String) (h : m.any (·.1 == k) = true) :
    keys (setKey m k v) = keys m := by
  unfold setKey keys
  simp only [h, if_true, List.map_map]
  apply List.map_congr_left
  intro e _
  simp only [Function.comp]
  by_cases he : e.1 = k
  · simp [he]
  · simp [he]

theorem keys_setKey_of_not_any (m : List (κ × String)) (k : κ) (v : String) (h : ¬ (m.any (·.1 == k) = true)) :
    keys (setKey m k v) = keys m ++ [k] := by
  unfold setKey keys
  have h' : (m.any (·.1 == k)) = false := by
    cases hh : m.any (·.1 == k) with
    | false => rfl
    | true => exact absurd hh h
  simp [h']

theorem not_mem_keys_of_not_any (m : List (κ × String)) (k : κ) (h : ¬ (m.any (·.1 == k) = true)) : k ∉ keys m := by
  intro hk
  unfold keys at hk
  obtain ⟨e, he, hek⟩ := List.mem_map.mp hk
  exact h (List.any_eq_true.mpr ⟨e, he, by simp [hek]⟩)

theorem nodup_concat {l : List κ} {k : κ} (h : l.Nodup) (hk : k ∉ l) : (l ++ [k]).Nodup := by
  rw [List.nodup_append]
  exact ⟨h, List.nodup_cons.mpr ⟨List.not_mem_nil, List.nodup_nil⟩, fun a ha b hb hab => hk (List.mem_singleton.mp hb ▸ hab ▸ ha)⟩

theorem nodup_setKey (m : List (κ × String)) (k : κ) (v : String) (h : (keys m).Nodup) : (keys (setKey m k v)).Nodup := by
  by_cases ha : m.any (·.1 == k) = true
  · rw [keys_setKey_of_any m k v ha]; exact h
  · rw [keys_setKey_of_not_any m k v ha]
    exact nodup_concat h (not_mem_keys_of_not_any m k ha)

theorem mem_keys_setKey (m : List (κ × String)) (k k' : κ) (v : String) (h : k' ∈ keys (setKey m k v)) : k' ∈ keys m ∨ k' = k := by
  by_cases ha : m.any (·.1 == k) = true
  · rw [keys_setKey_of_any m k v ha] at h; exact Or.inl h
  · rw [keys_setKey_of_not_any m k v ha] at h
    simpa using h

theorem keys_delKey_sublist (m : List (κ × String)) (k : κ) : (keys (delKey m k)).Sublist (keys m) := by
  unfold keys delKey
  exact List.Sublist.map _ List.filter_sublist

theorem nodup_delKey (m : List (κ × String)) (k : κ) (h : (keys m).Nodup) : (keys (delKey m k)).Nodup :=
  List.Nodup.sublist (keys_delKey_sublist m k) h


/-! ### C15: well-formedness of the three stores is an invariant of every history; what is emitted -/
variable (c : Cfg Name κ)

/-- invariant: dict keys are distinct, no dict key is Set-Cookie, every raw extra line is a Set-Cookie line,
    and the jar holds each cookie name once -/
structure WF (r : Resp κ) : Prop where
  nodup : (keys r.headers).Nodup
  nocookie : c.cookie ∉ keys r.headers
  extraCookie : ∀ e ∈ r.extra, e.1 = c.cookie
  jarNodup : (keys r.cookies).Nodup

theorem wf_empty : WF c ({} : Resp κ) := ⟨List.nodup_nil, by simp [keys], by simp, List.nodup_nil⟩

/-- writing a dict entry under a name other than Set-Cookie keeps the invariant -/
theorem wf_setKey (r : Resp κ) (k : κ) (v : String) (hw : WF c r) (hk : k ≠ c.cookie) :
    WF c { r with headers := setKey r.headers k v } :=
  ⟨nodup_setKey _ _ _ hw.nodup, fun hm => (mem_keys_setKey _ _ _ _ hm).elim hw.nocookie (fun e => hk e.symm), hw.extraCookie,
    hw.jarNodup⟩

theorem wf_delKey (r : Resp κ) (k : κ) (hw : WF c r) : WF c { r with headers := delKey r.headers k } :=
  ⟨nodup_delKey _ _ hw.nodup, fun hm => hw.nocookie ((keys_delKey_sublist _ _).subset hm), hw.extraCookie, hw.jarNodup⟩

theorem wf_setHeader (r r' : Resp κ) (a : Name) (v : String) (hw : WF c r) (h : setHeader c r a v = some r') : WF c r' := by
  obtain ⟨hn, rfl⟩ := setHeader_eq_some c h
  exact wf_setKey c r _ v hw hn

theorem wf_deleteHeader (r r' : Resp κ) (a : Name) (hw : WF c r) (h : deleteHeader c r a = some r') : WF c r' := by
  obtain ⟨_, rfl⟩ := deleteHeader_eq_some c h
  exact wf_delKey c r _ hw

theorem wf_appendHeader (r : Resp κ) (a : Name) (v : String) (hw : WF c r) : WF c (appendHeader c r a v) := by
  unfold appendHeader
  split
  · refine ⟨hw.nodup, hw.nocookie, fun e he => ?_, hw.jarNodup⟩
    rcases List.mem_append.mp he with h1 | h1
    · exact hw.extraCookie e h1
    · rw [List.mem_singleton.mp h1]
  · rename_i hn
    split <;> exact wf_setKey c r _ _ hw hn

theorem wf_setHeaders (items : List (Name × String)) : ∀ (r : Resp κ), WF c r → WF c (setHeaders c r items).1 :=
  setHeaders_preserves c (WF c) (fun r r' n v hs hw => wf_setHeader c r r' n v hw hs) items

theorem not_mem_keys_delKey (m : List (κ × String)) (k : κ) : k ∉ keys (delKey m k) := by
  intro hk
  unfold keys delKey at hk
  obtain ⟨e, he, hek⟩ := List.mem_map.mp hk
  have := (List.mem_filter.mp he).2
  simp [hek] at this

theorem nodup_popAppend (m : List (κ × String)) (k : κ) (v : String) (h : (keys m).Nodup) :
    (keys (delKey m k ++ [(k, v)])).Nodup := by
  have hk : keys (delKey m k ++ [(k, v)]) = keys (delKey m k) ++ [k] := List.map_append
  rw [hk]
  exact nodup_concat (nodup_delKey m k h) (not_mem_keys_delKey m k)

theorem wf_applyOp (r : Resp κ) (op : Op Name κ) (hw : WF c r) : WF c (applyOp c r op) := by
  cases op with
  | set n v =>
    rw [applyOp]
    cases hs : setHeader c r n v with
    | none => exact hw
    | some r' => exact wf_setHeader c r r' n v hw hs
  | append n v => exact wf_appendHeader c r n v hw
  | delete n =>
    rw [applyOp]
    cases hs : deleteHeader c r n with
    | none => exact hw
    | some r' => exact wf_deleteHeader c r r' n hw hs
  | setMany items => exact wf_setHeaders c items r hw
  | propSet k v =>
    rw [applyOp]
    split
    · exact hw
    · rename_i hk; exact wf_setKey c r k v hw hk
  | propDel k => exact wf_delKey c r k hw
  | cookie n l => exact ⟨hw.nodup, hw.nocookie, hw.extraCookie, nodup_popAppend _ _ _ hw.jarNodup⟩
  | uncookie n l => exact ⟨hw.nodup, hw.nocookie, hw.extraCookie, nodup_setKey _ _ _ hw.jarNodup⟩

/-- **the invariant holds after every history** of set / append / delete / bulk set / typed property / cookie operations -/
theorem wf_run (ops : List (Op Name κ)) : ∀ (r : Resp κ), WF c r → WF c (run c r ops) := by
  induction ops with
  | nil => intro r hw; exact hw
  | cons op rest ih => intro r hw; exact ih _ (wf_applyOp c r op hw)

/-- the emitted list is the dict, then the raw lines, then one line per cookie of the jar -/
theorem emitAll_eq (r : Resp κ) : emitAll c r = r.headers ++ r.extra ++ r.cookies.map (fun p => (c.cookie, p.2)) := rfl

theorem filter_append_left {α : Type} {l₁ l₂ : List α} {p : α → Bool} (h₁ : ∀ e ∈ l₁, p e = true) (h₂ : ∀ e ∈ l₂, p e = false) :
    (l₁ ++ l₂).filter p = l₁ := by
  rw [List.filter_append, List.filter_eq_self.mpr h₁, List.filter_eq_nil_iff.mpr (fun e he => by rw [h₂ e he]; exact Bool.false_ne_true),
    List.append_nil]

theorem filter_append_right {α : Type} {l₁ l₂ : List α} {p : α → Bool} (h₁ : ∀ e ∈ l₁, p e = false) (h₂ : ∀ e ∈ l₂, p e = true) :
    (l₁ ++ l₂).filter p = l₂ := by
  rw [List.filter_append, List.filter_eq_self.mpr h₂, List.filter_eq_nil_iff.mpr (fun e he => by rw [h₁ e he]; exact Bool.false_ne_true),
    List.nil_append]

/-- under the invariant the dict part of the emitted list has no Set-Cookie name and the rest has no other -/
theorem emitAll_parts (r : Resp κ) (hw : WF c r) :
    (∀ e ∈ r.headers, e.1 ≠ c.cookie) ∧ ∀ e ∈ r.extra ++ r.cookies.map (fun p => (c.cookie, p.2)), e.1 = c.cookie := by
  refine ⟨fun e he hh => hw.nocookie (hh ▸ List.mem_map.mpr ⟨e, he, rfl⟩), fun e he => ?_⟩
  rcases List.mem_append.mp he with h | h
  · exact hw.extraCookie e h
  · obtain ⟨p, _, rfl⟩ := List.mem_map.mp h
    rfl

/-- **each plain header is emitted exactly once**: the entries of the emitted list that are not Set-Cookie lines
    are exactly the dict items, whose (normalised) names are pairwise distinct -/
theorem emit_each_plain_header_once (r : Resp κ) (hw : WF c r) :
    (emitAll c r).filter (fun e => e.1 != c.cookie) = r.headers ∧ (keys r.headers).Nodup := by
  obtain ⟨hH, hR⟩ := emitAll_parts c r hw
  refine ⟨?_, hw.nodup⟩
  rw [emitAll, List.append_assoc]
  exact filter_append_left (fun e he => bne_iff_ne.mpr (hH e he)) (fun e he => by rw [hR e he]; exact bne_self_eq_false _)

/-- **one separate Set-Cookie line per appended raw cookie and per cookie of the jar**, after the plain headers -/
theorem one_line_per_cookie_and_per_raw_append (r : Resp κ) (hw : WF c r) :
    (emitAll c r).filter (fun e => e.1 == c.cookie) = r.extra ++ r.cookies.map (fun p => (c.cookie, p.2)) ∧
    ((emitAll c r).filter (fun e => e.1 == c.cookie)).length = r.extra.length + r.cookies.length := by
  obtain ⟨hH, hR⟩ := emitAll_parts c r hw
  have hf : (emitAll c r).filter (fun e => e.1 == c.cookie) = r.extra ++ r.cookies.map (fun p => (c.cookie, p.2)) := by
    rw [emitAll, List.append_assoc]
    exact filter_append_right (fun e he => beq_false_of_ne (hH e he)) (fun e he => beq_iff_eq.mpr (hR e he))
  refine ⟨hf, ?_⟩
  rw [hf, List.length_append, List.length_map]

/-- both facts for the response reached by **any** history from the fresh response -/
theorem emitted_after_history (ops : List (Op Name κ)) :
    let r := run c ({} : Resp κ) ops
    (emitAll c r).filter (fun e => e.1 != c.cookie) = r.headers ∧ (keys r.headers).Nodup ∧
    ((emitAll c r).filter (fun e => e.1 == c.cookie)).length = r.extra.length + r.cookies.length ∧ (keys r.cookies).Nodup := by
  intro r
  have hw : WF c r := wf_run c ops _ (wf_empty c)
  exact ⟨(emit_each_plain_header_once c r hw).1, hw.nodup, (one_line_per_cookie_and_per_raw_append c r hw).2, hw.jarNodup⟩

theorem cookies_setHeaders (items : List (Name × String)) (r : Resp κ) : (setHeaders c r items).1.cookies = r.cookies :=
  setHeaders_preserves c (·.cookies = r.cookies) (fun _ _ _ _ hs h => by obtain ⟨_, rfl⟩ := setHeader_eq_some c hs; exact h)
    items r rfl

/-- the plain calls and the typed properties never touch the cookie jar, and cookie calls never touch plain headers -/
theorem jar_untouched_by_plain (r : Resp κ) (op : Op Name κ) (h : ∀ n l, op ≠ .cookie n l) (h' : ∀ n l, op ≠ .uncookie n l) :
    (applyOp c r op).cookies = r.cookies := by
  cases op with
  | set n v =>
    rw [applyOp]
    cases hs : setHeader c r n v with
    | none => rfl
    | some r' => obtain ⟨_, rfl⟩ := setHeader_eq_some c hs; rfl
  | append n v =>
    rw [applyOp, appendHeader]
    split
    · rfl
    · split <;> rfl
  | delete n =>
    rw [applyOp]
    cases hs : deleteHeader c r n with
    | none => rfl
    | some r' => obtain ⟨_, rfl⟩ := deleteHeader_eq_some c hs; rfl
  | setMany items => exact cookies_setHeaders c items r
  | propSet k v => rw [applyOp]; split <;> rfl
  | propDel k => rfl
  | cookie n l => exact absurd rfl (h n l)
  | uncookie n l => exact absurd rfl (h' n l)

theorem plain_untouched_by_cookie (r : Resp κ) (n l : String) :
    (setCookie r n l).headers = r.headers ∧ (setCookie r n l).extra = r.extra ∧
    (unsetCookie r n l).headers = r.headers ∧ (unsetCookie r n l).extra = r.extra := ⟨rfl, rfl, rfl, rfl⟩

/-- setting a cookie again replaces its single line; a new name adds exactly one line -/
theorem unsetCookie_line (r : Resp κ) (n l : String) : lookup (unsetCookie r n l).cookies n = some l :=
  lookup_setKey_self _ _ _

/-- `set_cookie` drops whatever the jar held under that name and emits the new line last -/
theorem setCookie_fresh_last (r : Resp κ) (n l : String) :
    (setCookie r n l).cookies = delKey r.cookies n ++ [(n, l)] ∧ n ∉ keys (delKey r.cookies n) :=
  ⟨rfl, not_mem_keys_delKey _ _⟩


/-! ### C15: every history refines a map keyed by normalised names -/
def absMap (r : Resp κ) : κ → Option String := fun k => lookup r.headers k
def upd (f : κ → Option String) (k : κ) (v : Option String) : κ → Option String := fun k' => if k' = k then v else f k'

def specMany (c : Cfg Name κ) (f : κ → Option String) : List (Name × String) → (κ → Option String)
  | [] => f
  | (n, v) :: rest => if c.norm n = c.cookie then f else specMany c (upd f (c.norm n) (some v)) rest

/-- the specification: a map from normalised names to values; Set-Cookie is never a key; cookie calls do not touch it -/
def specOp (c : Cfg Name κ) (f : κ → Option String) : Op Name κ → (κ → Option String)
  | .set n v => if c.norm n = c.cookie then f else upd f (c.norm n) (some v)
  | .append n v =>
    if c.norm n = c.cookie then f
    else upd f (c.norm n) (some (match f (c.norm n) with | some old => old ++ ", " ++ v | none => v))
  | .delete n => if c.norm n = c.cookie then f else upd f (c.norm n) none
  | .setMany items => specMany c f items
  | .propSet k v => if k = c.cookie then f else upd f k (some v)
  | .propDel k => upd f k none
  | .cookie _ _ => f
  | .uncookie _ _ => f

theorem absMap_setKey (r : Resp κ) (k : κ) (v : String) :
    absMap { r with headers := setKey r.headers k v } = upd (absMap r) k (some v) := by
  funext k'
  unfold absMap upd
  by_cases hk : k' = k
  · subst hk; simp [lookup_setKey_self]
  · simp [hk, lookup_setKey_ne _ _ _ _ hk]

theorem absMap_delKey (r : Resp κ) (k : κ) :
    absMap { r with headers := delKey r.headers k } = upd (absMap r) k none := by
  funext k'
  unfold absMap upd
  by_cases hk : k' = k
  · subst hk; simp [lookup_delKey_self]
  · simp [hk, lookup_delKey_ne _ _ _ hk]

theorem absMap_setHeaders (items : List (Name × String)) : ∀ (r : Resp κ),
    absMap (setHeaders c r items).1 = specMany c (absMap r) items := by
  induction items with
  | nil => intro r; rfl
  | cons it rest ih =>
    intro r
    obtain ⟨n, v⟩ := it
    unfold setHeaders specMany setHeader
    by_cases hn : c.norm n = c.cookie
    · simp [hn]
    · simp only [hn, if_false]
      rw [ih, absMap_setKey]

theorem absMap_applyOp (r : Resp κ) (op : Op Name κ) : absMap (applyOp c r op) = specOp c (absMap r) op := by
  cases op with
  | set n v =>
    simp only [applyOp, specOp, setHeader]
    by_cases hn : c.norm n = c.cookie
    · simp [hn]
    · simp only [hn, if_false, Option.getD_some]; exact absMap_setKey r _ _
  | append n v =>
    simp only [applyOp, specOp, appendHeader]
    by_cases hn : c.norm n = c.cookie
    · simp only [hn, if_true]; rfl
    · simp only [hn, if_false]
      have : absMap r (c.norm n) = lookup r.headers (c.norm n) := rfl
      rw [this]
      cases lookup r.headers (c.norm n) with
      | some old => exact absMap_setKey r _ _
      | none => exact absMap_setKey r _ _
  | delete n =>
    simp only [applyOp, specOp, deleteHeader]
    by_cases hn : c.norm n = c.cookie
    · simp [hn]
    · simp only [hn, if_false, Option.getD_some]; exact absMap_delKey r _
  | setMany items => exact absMap_setHeaders c items r
  | propSet k v =>
    simp only [applyOp, specOp]
    by_cases hk : k = c.cookie
    · simp [hk]
    · simp only [hk, if_false]; exact absMap_setKey r _ _
  | propDel k => exact absMap_delKey r _
  | cookie n l => rfl
  | uncookie n l => rfl

/-- **after any history, a read in any spelling returns what the case-insensitive map specification holds**
    (and raises exactly for the spellings of Set-Cookie) -/
theorem history_refines_ci_map (ops : List (Op Name κ)) (r : Resp κ) (b : Name) :
    getHeader c (run c r ops) b =
      if c.norm b = c.cookie then none else some (ops.foldl (specOp c) (absMap r) (c.norm b)) := by
  have habs : ∀ (ops : List (Op Name κ)) (r : Resp κ), absMap (run c r ops) = ops.foldl (specOp c) (absMap r) := by
    intro ops
    induction ops with
    | nil => intro r; rfl
    | cons op rest ih =>
      intro r
      simp only [run, List.foldl_cons]
      have := ih (applyOp c r op)
      simp only [run] at this
      rw [this, absMap_applyOp]
  unfold getHeader
  split
  · rfl
  · rw [← habs ops r]; rfl


/-- **what `resp.headers` returns after any history**: a mapping whose keys are pairwise distinct normalised names, none of them
    Set-Cookie, and in which every spelling `b` of a plain header looks up exactly what the case-insensitive map specification holds
    (= what `get_header(b)` returns) -/
theorem headers_copy_after_history (ops : List (Op Name κ)) :
    (keys (headersCopy (run c ({} : Resp κ) ops))).Nodup ∧ c.cookie ∉ keys (headersCopy (run c ({} : Resp κ) ops)) ∧
    ∀ b : Name, c.norm b ≠ c.cookie →
      lookup (headersCopy (run c ({} : Resp κ) ops)) (c.norm b) = ops.foldl (specOp c) (absMap ({} : Resp κ)) (c.norm b) ∧
      getHeader c (run c ({} : Resp κ) ops) b = some (lookup (headersCopy (run c ({} : Resp κ) ops)) (c.norm b)) := by
  have hw := wf_run c ops ({} : Resp κ) (wf_empty c)
  refine ⟨hw.nodup, hw.nocookie, fun b hb => ?_⟩
  have h := history_refines_ci_map c ops ({} : Resp κ) b
  rw [if_neg hb] at h
  have hg : getHeader c (run c ({} : Resp κ) ops) b = some (lookup (headersCopy (run c ({} : Resp κ) ops)) (c.norm b)) := by
    unfold getHeader headersCopy; rw [if_neg hb]
  refine ⟨?_, hg⟩
  rw [hg] at h
  exact Option.some.inj h

end Hd
