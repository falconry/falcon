import FalconModel.PipelineReg
import FalconModel.PipelineHooksProofs
/-! C03, the registration table of error handlers (`Pg`, FalconModel/PipelineReg.lean): `find t ex` is `_find_error_handler` over the
    classes of the MRO, `handleException` is `_handle_exception` with its one lookup, `resolve t ex` abstracts a raised class to the
    alphabet of `Pe` / `Ph` (what the handler found for it does), and `run` is `Ph.run` of the resolved configuration with every
    handler event annotated (`annotate`) by the registered handler that is invoked. -/
namespace Pg

/-- ONE lookup per `_handle_exception`: the handlers called are exactly the one `_find_error_handler` returns (none if it returns
    None) - whatever that handler does, and whatever else is registered -/
theorem one_lookup (t : Table) (ex : Cls) : (handleException t ex).1 = (find t ex).toList := by
  unfold handleException
  cases find t ex <;> rfl

theorem handler_called_at_most_once (t : Table) (ex : Cls) : (handleException t ex).1.length ≤ 1 := by
  rw [one_lookup]; cases find t ex <;> simp

/-- what a handler raises is COMPOSED, never dispatched: if the handler found raises HTTPStatus, the outcome is the composed status
    response and that handler is the only one called - also when the application registered its own handler for HTTPStatus
    (`t.forStatus`), for HTTPError or for Exception -/
theorem status_raised_by_handler_is_composed (t : Table) (ex : Cls) (w : Who)
    (h : find t ex = some (.user w .raisesStatus)) :
    handleException t ex = ([.user w .raisesStatus], some .handlerStatus) := by
  unfold handleException; rw [h]; cases ex <;> rfl

theorem http_raised_by_handler_is_composed (t : Table) (ex : Cls) (w : Who)
    (h : find t ex = some (.user w .raisesHttp)) :
    handleException t ex = ([.user w .raisesHttp], some .handlerHttp) := by
  unfold handleException; rw [h]; cases ex <;> rfl

/-- `raise ex` inside the handler registered for HTTPStatus: the same HTTPStatus is composed (once), not handed to that handler again -/
theorem reraised_status_is_composed (t : Table) (w : Who) (h : find t .status = some (.user w .reraises)) :
    handleException t .status = ([.user w .reraises], some .status) := by
  unfold handleException; rw [h]; rfl

theorem reraised_http_is_composed (t : Table) (c : Pe.HttpCode) (w : Who) (h : find t (.http c) = some (.user w .reraises)) :
    handleException t (.http c) = ([.user w .reraises], some (.http c)) := by
  unfold handleException; rw [h]; rfl

/-- anything else a handler raises leaves `__call__` -/
theorem other_raised_by_handler_propagates (t : Table) (ex : Cls) (w : Who)
    (h : find t ex = some (.user w .raisesPlain)) : (handleException t ex).2 = none := by
  unfold handleException; rw [h]; cases ex <;> rfl

/-! the MRO walk: the most specific registered class wins -/

theorem find_http (t : Table) (c : Pe.HttpCode) :
    find t (.http c) = some (match t.forError with | some b => .user .forError b | none => .httpError) := rfl
theorem find_status (t : Table) :
    find t .status = some (match t.forStatus with | some b => .user .forStatus b | none => .httpStatus) := rfl
theorem find_app_own (t : Table) (b : Beh) : find t (.app (some b)) = some (.user .own b) := rfl
theorem find_app_plain (t : Table) :
    find t (.app none) = some (match t.forException with | some b => .user .forException b | none => .python) := rfl
theorem find_baseOnly (t : Table) : find t .baseOnly = none := rfl

/-- a handler registered for `Exception` is never the one found for an HTTPError or an HTTPStatus (their own entries always exist) -/
theorem exception_handler_not_for_http (t : Table) (c : Pe.HttpCode) (b : Beh) :
    find t (.http c) ≠ some (.user .forException b) ∧ find t .status ≠ some (.user .forException b) := by
  rw [find_http, find_status]
  constructor
  · cases t.forError <;> simp
  · cases t.forStatus <;> simp

/-- `_handle_exception` at the level of classes + table IS `Pe.handle` / `Ph.handle` of the resolved exception -/
theorem handle_resolve (t : Table) (ex : Cls) (s : Pe.Site) :
    (handleException t ex).1.length = (Pe.handle s (resolve t ex)).1.length ∧
    (handleException t ex).2 = (Pe.handle s (resolve t ex)).2 := by
  -- both sides see the table through `find t ex` only; the class matters for `_http_error_handler` and for `raise ex`
  unfold handleException resolve
  generalize find t ex = o
  rcases o with _ | (_ | _ | _ | ⟨w, b⟩)
  · exact ⟨rfl, rfl⟩
  · cases ex <;> exact ⟨rfl, rfl⟩
  · exact ⟨rfl, rfl⟩
  · exact ⟨rfl, rfl⟩
  · cases b <;> cases ex <;> exact ⟨rfl, rfl⟩

theorem handle_ph_pe (hc : Pe.Hb → Bool) (s : Ph.Site) (s' : Pe.Site) (e : Pe.Exc) (cp : Bool) :
    (Ph.handle hc s e cp).1.length = (Pe.handle s' e).1.length ∧ (Ph.handle hc s e cp).2.1 = (Pe.handle s' e).2 := by
  rcases e with _ | _ | (_|_|_|_|_|_) <;> exact ⟨rfl, rfl⟩

theorem handle_resolve_ph (t : Table) (ex : Cls) (hc : Pe.Hb → Bool) (s : Ph.Site) (cp : Bool) :
    (handleException t ex).1.length = (Ph.handle hc s (resolve t ex) cp).1.length ∧
    (handleException t ex).2 = (Ph.handle hc s (resolve t ex) cp).2.1 := by
  obtain ⟨h1, h2⟩ := handle_ph_pe hc s .responder (resolve t ex) cp
  rw [h1, h2]
  exact handle_resolve t ex .responder

/-- with nothing registered on top of the defaults the abstraction is the alphabet `Pe` was written for -/
theorem resolve_default :
    (∀ c, resolve .default (.http c) = .http c) ∧ resolve .default .status = .status ∧
    resolve .default (.app none) = .app .default ∧ resolve .default (.app (some .sets)) = .app .sets ∧
    resolve .default (.app (some .raisesHttp)) = .app .raisesHttp ∧ resolve .default (.app (some .raisesStatus)) = .app .raisesStatus ∧
    resolve .default (.app (some .raisesPlain)) = .app .raisesPlain ∧ resolve .default (.app (some .reraises)) = .app .raisesPlain ∧
    resolve .default .baseOnly = .app .none :=
  ⟨fun _ => rfl, rfl, rfl, rfl, rfl, rfl, rfl, rfl, rfl⟩

/-- an exception leaves `__call__` exactly when no handler is found, or the one found raises something that is neither HTTPError
    nor HTTPStatus -/
theorem escapes_iff (t : Table) (ex : Cls) :
    (handleException t ex).2 = none ↔ (find t ex = none ∨ ∃ h, find t ex = some h ∧ callHandler h ex = .raisedOther) := by
  unfold handleException
  cases hf : find t ex with
  | none => simp
  | some h => cases hc : callHandler h ex <;> simp [hc]

/-! the run: every `Ph` theorem applies to the resolved configuration -/

theorem run_trace (cfg : Cfg) : (run cfg).1 = (Ph.run cfg.toPh).1.map (annotate cfg) := rfl
theorem run_outcome (cfg : Cfg) : (run cfg).2 = (Ph.run cfg.toPh).2 := rfl

/-- for every registration table: the trace of the resolved configuration is its calls with, right after each call, the ONE handler
    invocation that belongs to what that call raised (none if it did not raise / no handler exists) - no handler is invoked for what a
    handler raised; `run_trace` carries this to `run`, whose trace is that one with the events annotated -/
theorem run_handler_once_per_raise (cfg : Cfg) : Ph.WH (Ph.run cfg.toPh).1 :=
  Ph.handler_called_once_per_raise_at_its_site cfg.toPh

theorem run_escape_iff (cfg : Cfg) :
    (run cfg).2.1 = .escaped ↔
      ∃ c e, Ph.Ev.call c (.raise_ e) ∈ (Ph.run cfg.toPh).1 ∧ (e = .app .none ∨ e = .app .raisesPlain) :=
  Ph.escape_iff cfg.toPh

/-- naming the handlers does not change how many are invoked: `run` has as many handler events as `Ph.run` of the resolved
    configuration (whose handler events `run_handler_once_per_raise` ties to the calls that raised) -/
theorem run_handler_count (cfg : Cfg) :
    ((run cfg).1.filter (fun | .handler _ _ => true | _ => false)).length =
    ((Ph.run cfg.toPh).1.filter (fun | .handler _ _ => true | _ => false)).length := by
  rw [run_trace, List.filter_map, List.length_map]
  congr 1
  apply List.filter_congr
  intro ev _
  cases ev <;> rfl

example : (run { comps := [{ req := some .ret, rsrc := none, resp := some .ret }], independent := true, target := .route,
                 responder := .raise_ (.app (some .raisesStatus)), classHooks := [], methodHooks := [],
                 handlerCompletes := fun _ => false, table := ⟨some .reraises, none, none⟩ }).1
    = [.call (.req 0), .call .responder, .handler .responder (some (.user .own .raisesStatus)), .call (.resp 0 true false)] := by decide +kernel

end Pg
