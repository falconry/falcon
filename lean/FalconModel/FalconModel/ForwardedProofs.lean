import FalconModel.Forwarded
import FalconModel.HeaderParsersProofs
/-! C09 proofs for `Forwarded.lean`: a Forwarded header built from the RFC 7239 grammar is parsed into exactly its
    elements (`forwarded_valid_eq_rfc`), `unquote_string` un-escapes quoted-strings, `access_route` lists the node names
    (`accessRoute_valid`), the loop never needs more than `len(header)` iterations (`parseGo_fuel`). -/
namespace Fw
open Hp (Str)

/-! ### the RFC 7239 side: forwarded-element = forwarded-pair *( ";" forwarded-pair ), value = token / quoted-string -/
/-- one position inside a quoted-string: a qdtext character or a quoted-pair -/
inductive QItem where
  | plain (c : Char) | esc (c : Char)
  deriving Repr, DecidableEq

def QItem.valid : QItem → Bool | .plain c => isQd c | .esc c => isQp c
def QItem.render : QItem → Str | .plain c => [c] | .esc c => ['\\', c]
/-- the character the position denotes (RFC 9110 5.6.4: a quoted-pair denotes its second octet) -/
def QItem.char : QItem → Char | .plain c => c | .esc c => c

def renderItems : List QItem → Str
  | [] => []
  | i :: r => i.render ++ renderItems r

inductive Val where
  | tok (t : Str) | quoted (items : List QItem)
  deriving Repr, DecidableEq

def Val.valid : Val → Bool
  | .tok t => !t.isEmpty && t.all isTchar
  | .quoted items => items.all QItem.valid
def Val.render : Val → Str
  | .tok t => t
  | .quoted items => '"' :: (renderItems items ++ ['"'])
/-- the value the parameter carries -/
def Val.value : Val → Str
  | .tok t => t
  | .quoted items => items.map QItem.char

theorem spanTok_nil_of_head (rest : Str) (hr : ∀ c, rest.head? = some c → isTchar c = false) : spanTok rest = ([], rest) := by
  cases rest with
  | nil => rfl
  | cons c r => simp [spanTok, hr c rfl]

theorem spanTok_append (a rest : Str) (ha : ∀ c ∈ a, isTchar c = true) (hr : ∀ c, rest.head? = some c → isTchar c = false) :
    spanTok (a ++ rest) = (a, rest) := by
  induction a with
  | nil => exact spanTok_nil_of_head rest hr
  | cons x t ih =>
    have hx : isTchar x = true := ha x List.mem_cons_self
    have := ih (fun c hc => ha c (by simp [hc]))
    simp [spanTok, hx, this]

theorem isQd_ne {c : Char} (h : isQd c = true) : c ≠ '"' ∧ c ≠ '\\' := by
  constructor <;> (intro e; subst e; revert h; decide)

theorem scanQ_items (items : List QItem) (rest : Str) (hv : items.all QItem.valid = true) :
    scanQ (renderItems items ++ '"' :: rest) = some (renderItems items, rest) := by
  induction items with
  | nil => simp [renderItems, scanQ]
  | cons i t ih =>
    simp only [List.all_cons, Bool.and_eq_true] at hv
    have iht := ih hv.2
    cases i with
    | plain c =>
      have hc : isQd c = true := hv.1
      simp only [renderItems, QItem.render, List.cons_append, List.nil_append]
      rw [scanQ.eq_4 c _ (isQd_ne hc).1 (fun _ _ e _ => (isQd_ne hc).2 e), if_pos hc, iht]; rfl
    | esc c =>
      have hc : isQp c = true := hv.1
      simp only [renderItems, QItem.render, List.cons_append, List.nil_append]
      rw [scanQ.eq_3, if_pos hc, iht]; rfl

theorem matchPair_render (name : Str) (v : Val) (rest : Str) (hne : name ≠ []) (hn : ∀ c ∈ name, isTchar c = true)
    (hv : v.valid = true) (hr : ∀ c, rest.head? = some c → isTchar c = false) :
    matchPair (name ++ '=' :: (v.render ++ rest)) = some (name, v.render, rest) := by
  have h1 : spanTok (name ++ '=' :: (v.render ++ rest)) = (name, '=' :: (v.render ++ rest)) :=
    spanTok_append name _ hn (by intro c hc; simp at hc; subst hc; decide)
  unfold matchPair
  rw [h1]
  cases name with
  | nil => exact absurd rfl hne
  | cons n0 nt =>
    simp only
    cases v with
    | tok t =>
      simp only [Val.valid, Bool.and_eq_true, List.all_eq_true, Bool.not_eq_true'] at hv
      have h2 : spanTok (t ++ rest) = (t, rest) := spanTok_append t rest hv.2 hr
      simp only [Val.render, h2]
      cases t with
      | nil => simp at hv
      | cons t0 tt => rfl
    | quoted items =>
      have hv' : items.all QItem.valid = true := hv
      have h2 : spanTok ('"' :: (renderItems items ++ '"' :: rest)) = ([], '"' :: (renderItems items ++ '"' :: rest)) :=
        spanTok_nil_of_head _ (by intro c hc; simp at hc; subst hc; decide)
      simp only [Val.render, List.cons_append, List.append_assoc, List.nil_append, h2, scanQ_items items rest hv']
      rfl

/-! ### `unquote_string`: the three code paths compute the left-to-right un-escaping -/
/-- the general (third) path -/
def unqGen (tmp : Str) : Str := joinBs ((splitDbl tmp).map dropBs)

theorem splitDbl_eq_cons (s : Str) : ∃ x t, splitDbl s = x :: t := by
  fun_cases splitDbl s <;> exact ⟨_, _, rfl⟩

theorem joinBs_append_head (a b : Str) (t : List Str) : joinBs ((a ++ b) :: t) = a ++ joinBs (b :: t) := by
  cases t <;> simp [joinBs]

theorem unqGen_nil : unqGen [] = [] := by simp [unqGen, splitDbl, joinBs, dropBs]

theorem unqGen_bs_bs (r : Str) : unqGen ('\\' :: '\\' :: r) = '\\' :: unqGen r := by
  obtain ⟨x, t, hs⟩ := splitDbl_eq_cons r
  unfold unqGen
  rw [splitDbl, hs]
  simp [joinBs, dropBs]

theorem unqGen_cons (c : Char) (r : Str) (h : ∀ t, c = '\\' → r = '\\' :: t → False) :
    unqGen (c :: r) = dropBs [c] ++ unqGen r := by
  obtain ⟨x, t, hs⟩ := splitDbl_eq_cons r
  have : dropBs (c :: x) = dropBs [c] ++ dropBs x := List.filter_append [c] x
  unfold unqGen
  rw [splitDbl.eq_3 c r h, hs]
  simp only [List.map_cons, this, joinBs_append_head]

theorem splitDbl_noDbl (s : Str) (h : hasDbl s = false) : splitDbl s = [s] := by
  fun_induction hasDbl s with
  | case1 => cases h
  | case2 a r hab ih => rw [splitDbl.eq_3 a r hab, ih h]
  | case3 => rfl

theorem mem_of_hasDbl (s : Str) (h : hasDbl s = true) : '\\' ∈ s := by
  fun_induction hasDbl s with
  | case1 => exact List.mem_cons_self
  | case2 a r _ ih => exact List.mem_cons_of_mem _ (ih h)
  | case3 => cases h

theorem dropBs_noBs (s : Str) (h : '\\' ∉ s) : dropBs s = s := by
  unfold dropBs
  rw [List.filter_eq_self]
  intro c hc
  simp; intro e; exact h (e ▸ hc)

/-- the two fast paths of `unquote_string` agree with the general path -/
theorem unq3_eq_gen (tmp : Str) :
    (if !tmp.contains '\\' then tmp else if !hasDbl tmp then dropBs tmp else joinBs ((splitDbl tmp).map dropBs)) = unqGen tmp := by
  unfold unqGen
  cases h2 : hasDbl tmp with
  | true => simp [mem_of_hasDbl tmp h2]
  | false =>
    rw [splitDbl_noDbl tmp h2]
    by_cases h1 : '\\' ∈ tmp
    · simp [h1, joinBs]
    · simp [h1, joinBs, dropBs_noBs tmp h1]

/-- the general path un-escapes any sequence of positions: only a plain (unescaped) backslash is excluded -/
theorem unqGen_items_general (items : List QItem) (hv : ∀ c, QItem.plain c ∈ items → c ≠ '\\') :
    unqGen (renderItems items) = items.map QItem.char := by
  induction items with
  | nil => exact unqGen_nil
  | cons i t ih =>
    have iht := ih (fun c h => hv c (List.mem_cons_of_mem _ h))
    cases i with
    | plain c =>
      have hc : c ≠ '\\' := hv c List.mem_cons_self
      simp only [renderItems, QItem.render, List.cons_append, List.nil_append, List.map_cons, QItem.char]
      rw [unqGen_cons c _ (fun _ e _ => hc e), iht]
      simp [dropBs, hc]
    | esc c =>
      simp only [renderItems, QItem.render, List.cons_append, List.nil_append, List.map_cons, QItem.char]
      by_cases hc : c = '\\'
      · subst hc; rw [unqGen_bs_bs, iht]
      · rw [unqGen_cons '\\' _ (fun _ _ e => hc (List.cons.inj e).1), unqGen_cons c _ (fun _ e _ => hc e), iht]
        simp [dropBs, hc]

/-- between double quotes `unquote_string` computes what its general path computes -/
theorem unquoteString_bracketed (tmp : Str) : unquoteString ('"' :: (tmp ++ ['"'])) = unqGen tmp := by
  unfold unquoteString
  have hl : ¬ ('"' :: (tmp ++ ['"'])).length < 2 := by simp
  have hd : (('"' :: (tmp ++ ['"'])).drop 1).dropLast = tmp := by simp
  simp only [hl, if_false, List.head?_cons, Hp.getLast?_quote, hd]
  simp only [bne_self_eq_false, Bool.or_self, Bool.false_eq_true, if_false]
  exact unq3_eq_gen tmp

/-- `unquote_string` of a quoted-string is the sequence of characters its positions denote -/
theorem unquoteString_quoted (items : List QItem) (hv : items.all QItem.valid = true) :
    unquoteString ('"' :: (renderItems items ++ ['"'])) = items.map QItem.char := by
  rw [unquoteString_bracketed, unqGen_items_general items fun _ hc => (isQd_ne (List.all_eq_true.mp hv _ hc)).2]

theorem procValue_render (v : Val) (hv : v.valid = true) : procValue v.render = v.value := by
  cases v with
  | tok t =>
    simp only [Val.valid, Bool.and_eq_true, List.all_eq_true, Bool.not_eq_true'] at hv
    cases t with
    | nil => simp at hv
    | cons c r =>
      have hc : isTchar c = true := hv.2 c List.mem_cons_self
      have : c ≠ '"' := by intro e; subst e; revert hc; decide
      simp [procValue, Val.render, Val.value, this]
  | quoted items =>
    simp only [procValue, Val.render, List.head?_cons, beq_self_eq_true, if_true, Val.value]
    exact unquoteString_quoted items hv

/-! ### the loop always moves forward: `len(forwarded)` iterations suffice -/
theorem spanTok_snd_length (s : Str) : (spanTok s).2.length ≤ s.length := by
  fun_induction spanTok s with
  | case1 => exact Nat.le_refl _
  | case2 c r _ ih => exact Nat.le_succ_of_le ih
  | case3 c r _ => exact Nat.le_refl _

theorem scanQ_length (s : Str) (p : Str × Str) (h : scanQ s = some p) : p.2.length ≤ s.length := by
  fun_induction scanQ s generalizing p with
  | case1 => cases h
  | case2 r => cases h; exact Nat.le_succ _
  | case3 c r hq ih =>
    obtain ⟨q, hs, rfl⟩ := Option.map_eq_some_iff.mp h
    exact Nat.le_succ_of_le (Nat.le_succ_of_le (ih q hs))
  | case4 c r hq => cases h
  | case5 c r _ _ hq ih =>
    obtain ⟨q, hs, rfl⟩ := Option.map_eq_some_iff.mp h
    exact Nat.le_succ_of_le (ih q hs)
  | case6 c r _ _ hq => cases h

theorem matchPair_length (s name v rest : Str) (h : matchPair s = some (name, v, rest)) : rest.length < s.length := by
  have h1 := spanTok_snd_length s
  revert h
  fun_cases matchPair s
  all_goals intro h
  · cases h
  · rename_i q hs _
    rw [hs] at h1
    obtain ⟨p, hq, he⟩ := Option.map_eq_some_iff.mp h
    cases he
    exact Nat.lt_of_le_of_lt (scanQ_length q p hq) (Nat.lt_of_succ_lt h1)
  · cases h
  · rename_i r _ hs _ _ _ hr
    have h2 := spanTok_snd_length r
    rw [hs] at h1; rw [hr] at h2
    cases h
    exact Nat.lt_of_le_of_lt h2 h1
  · cases h

theorem skipToComma_length (s : Str) : (skipToComma s).length ≤ s.length := by
  fun_induction skipToComma s with
  | case1 => exact Nat.le_refl _
  | case2 c r _ => exact Nat.le_refl _
  | case3 c r _ ih => exact Nat.le_succ_of_le ih

theorem step_length (c : Char) (r : Str) (ns : Bool) (cur : Option Fwd) : (step c r ns cur).2.1.length ≤ r.length := by
  have hsk := skipToComma_length r
  unfold step
  cases hm : matchPair (c :: r) with
  | some t =>
    cases ns
    · exact Nat.le_of_lt_succ (matchPair_length _ _ _ _ hm)
    · exact hsk
  | none =>
    simp only
    by_cases h1 : (c == ',') = true
    · rw [if_pos h1]; exact Nat.le_refl _
    rw [if_neg h1]
    by_cases h2 : (c == ';') = true
    · rw [if_pos h2]; exact Nat.le_refl _
    rw [if_neg h2]
    by_cases h3 : (c == ' ' || c == '\t') = true
    · rw [if_pos h3]; exact Nat.le_refl _
    · rw [if_neg h3]; exact hsk

theorem parseGo_nil (f : Nat) (ns : Bool) (cur : Option Fwd) : parseGo f [] ns cur = cur.toList := by
  cases f <;> rfl

theorem parseGo_fuel : ∀ (f g : Nat) (s : Str) (ns : Bool) (cur : Option Fwd), s.length ≤ f → s.length ≤ g →
    parseGo f s ns cur = parseGo g s ns cur := by
  intro f
  induction f with
  | zero =>
    intro g s ns cur hf _
    rw [List.eq_nil_of_length_eq_zero (Nat.le_zero.mp hf), parseGo_nil, parseGo_nil]
  | succ f ih =>
    intro g s ns cur hf hg
    cases s with
    | nil => rw [parseGo_nil, parseGo_nil]
    | cons c r =>
      cases g with
      | zero => cases hg
      | succ g =>
        have := step_length c r ns cur
        rw [parseGo.eq_3, parseGo.eq_3,
          ih g _ _ _ (Nat.le_trans this (Nat.le_of_succ_le_succ hf)) (Nat.le_trans this (Nat.le_of_succ_le_succ hg))]

/-- the loop started with exactly `len(suffix)` iterations -/
def run (s : Str) (ns : Bool) (cur : Option Fwd) : List Fwd := parseGo s.length s ns cur

theorem parseForwarded_eq_run (s : Str) : parseForwarded s = run s false none := rfl

theorem run_nil (ns : Bool) (cur : Option Fwd) : run [] ns cur = cur.toList := parseGo_nil 0 ns cur

theorem run_cons (c : Char) (r : Str) (ns : Bool) (cur : Option Fwd) :
    run (c :: r) ns cur = (step c r ns cur).1.toList ++ run (step c r ns cur).2.1 (step c r ns cur).2.2.1 (step c r ns cur).2.2.2 := by
  unfold run
  simp only [List.length_cons]
  rw [parseGo.eq_3, parseGo_fuel r.length _ _ _ _ (step_length c r ns cur) (Nat.le_refl _)]

/-- at a character that starts no pair the loop looks at that character alone -/
theorem step_of_not_tchar (c : Char) (r : Str) (ns : Bool) (cur : Option Fwd) (h : isTchar c = false) :
    step c r ns cur =
      if c == ',' then (cur, r, false, none) else if c == ';' then (none, r, false, cur)
      else if c == ' ' || c == '\t' then (none, r, ns, cur) else (none, skipToComma r, ns, cur) := by
  unfold step matchPair
  rw [spanTok_nil_of_head (c :: r) (by intro x hx; cases hx; exact h)]

theorem run_ws (c : Char) (r : Str) (ns : Bool) (cur : Option Fwd) (h : c = ' ' ∨ c = '\t') : run (c :: r) ns cur = run r ns cur := by
  rcases h with rfl | rfl
  · rw [run_cons, step_of_not_tchar _ _ _ _ (by decide)]; rfl
  · rw [run_cons, step_of_not_tchar _ _ _ _ (by decide)]; rfl

theorem run_semi (r : Str) (ns : Bool) (cur : Option Fwd) : run (';' :: r) ns cur = run r false cur := by
  rw [run_cons, step_of_not_tchar _ _ _ _ (by decide)]; rfl

theorem run_comma (r : Str) (ns : Bool) (cur : Option Fwd) : run (',' :: r) ns cur = cur.toList ++ run r false none := by
  rw [run_cons, step_of_not_tchar _ _ _ _ (by decide)]; rfl

theorem run_pair (s name v rest : Str) (cur : Option Fwd) (hm : matchPair s = some (name, v, rest)) :
    run s false cur = run rest true (some (setField (cur.getD {}) (lowerS name) (procValue v))) := by
  cases s with
  | nil => simp [matchPair, spanTok] at hm
  | cons c r => rw [run_cons]; unfold step; rw [hm]; simp

/-- optional whitespace as the loop accepts it: spaces and tabs -/
def isOws (s : Str) : Bool := s.all fun c => c == ' ' || c == '\t'

theorem isOws_cons (c : Char) (t : Str) : isOws (c :: t) = true ↔ (c = ' ' ∨ c = '\t') ∧ isOws t = true := by
  simp [isOws]

theorem run_ows (w s : Str) (ns : Bool) (cur : Option Fwd) (hw : isOws w = true) : run (w ++ s) ns cur = run s ns cur := by
  induction w with
  | nil => rfl
  | cons c t ih =>
    have ⟨hc, ht⟩ := (isOws_cons c t).mp hw
    rw [List.cons_append, run_ws c _ ns cur hc]
    exact ih ht

/-- a forwarded-pair with the optional whitespace around it that the loop tolerates -/
structure Param where
  pre : Str
  name : Str
  val : Val
  post : Str
  deriving Repr, DecidableEq

def Param.valid (p : Param) : Bool := isOws p.pre && isOws p.post && !p.name.isEmpty && p.name.all isTchar && p.val.valid
def Param.render (p : Param) : Str := p.pre ++ (p.name ++ '=' :: (p.val.render ++ p.post))

/-- forwarded-element: pairs separated by `;` -/
def renderElem : List Param → Str
  | [] => []
  | [p] => p.render
  | p :: q :: ps => p.render ++ ';' :: renderElem (q :: ps)

/-- Forwarded = 1#forwarded-element: elements separated by `,` -/
def render : List (List Param) → Str
  | [] => []
  | [e] => renderElem e
  | e :: f :: es => renderElem e ++ ',' :: render (f :: es)

/-- what one pair contributes: parameter names are case-insensitive; `proto` is normalised to lower case -/
def applyParam (e : Fwd) (p : Param) : Fwd := setField e (lowerS p.name) p.val.value

/-- optional blanks and then something that does not start with a tchar: what may follow a pair -/
theorem head_post_tail (post tail : Str) (hp : isOws post = true) (ht : ∀ c, tail.head? = some c → isTchar c = false) :
    ∀ c, (post ++ tail).head? = some c → isTchar c = false := by
  cases post with
  | nil => exact ht
  | cons x t =>
    intro c hc
    cases hc
    rcases ((isOws_cons x t).mp hp).1 with rfl | rfl <;> decide

theorem run_param (p : Param) (tail : Str) (cur : Option Fwd) (hv : p.valid = true)
    (ht : ∀ c, tail.head? = some c → isTchar c = false) :
    run (p.render ++ tail) false cur = run tail true (some (applyParam (cur.getD {}) p)) := by
  simp only [Param.valid, Bool.and_eq_true, Bool.not_eq_true', List.all_eq_true] at hv
  obtain ⟨⟨⟨⟨hpre, hpost⟩, hne⟩, hname⟩, hval⟩ := hv
  have hne' : p.name ≠ [] := by intro e; rw [e] at hne; simp at hne
  have hm := matchPair_render p.name p.val (p.post ++ tail) hne' hname hval (head_post_tail _ _ hpost ht)
  simp only [Param.render, List.append_assoc, List.cons_append]
  rw [run_ows _ _ _ _ hpre, run_pair _ _ _ _ cur hm, run_ows _ _ _ _ hpost, procValue_render _ hval]
  rfl

theorem run_elem : ∀ (ps : List Param) (tail : Str) (cur : Option Fwd), ps ≠ [] → (∀ p ∈ ps, p.valid = true) →
    (∀ c, tail.head? = some c → isTchar c = false) →
    run (renderElem ps ++ tail) false cur = run tail true (some (ps.foldl applyParam (cur.getD {})))
  | [], _, _, hne, _, _ => absurd rfl hne
  | [p], tail, cur, _, hv, ht => by
    simp only [renderElem, List.foldl_cons, List.foldl_nil]
    exact run_param p tail cur (hv p List.mem_cons_self) ht
  | p :: q :: ps, tail, cur, _, hv, ht => by
    simp only [renderElem, List.append_assoc, List.cons_append]
    rw [run_param p _ cur (hv p List.mem_cons_self) (by intro c hc; cases hc; decide), run_semi,
      run_elem (q :: ps) tail _ (List.cons_ne_nil _ _) (fun x hx => hv x (List.mem_cons_of_mem _ hx)) ht]
    rfl

/-- the element the pairs of one forwarded-element build, pair by pair (a repeated parameter: the last one wins) -/
def elemOf (ps : List Param) : Fwd := ps.foldl applyParam {}

/-- every header rendered from the grammar (any token as parameter name, token or quoted-string values with arbitrary
    quoted-pairs, optional blanks around the pairs) is parsed into exactly its elements, in order -/
theorem forwarded_render_parse : ∀ (es : List (List Param)), (∀ e ∈ es, e ≠ []) → (∀ e ∈ es, ∀ p ∈ e, p.valid = true) →
    parseForwarded (render es) = es.map elemOf
  | [], _, _ => by simp [render, parseForwarded, parseGo]
  | [e], hne, hv => by
    have := run_elem e [] none (hne e List.mem_cons_self) (hv e List.mem_cons_self) (fun _ h => nomatch h)
    simp only [List.append_nil] at this
    rw [parseForwarded_eq_run]
    simp only [render, this, run_nil]
    rfl
  | e :: f :: es, hne, hv => by
    have ih := forwarded_render_parse (f :: es) (fun x hx => hne x (List.mem_cons_of_mem _ hx))
      (fun x hx => hv x (List.mem_cons_of_mem _ hx))
    rw [parseForwarded_eq_run] at ih ⊢
    simp only [render]
    rw [run_elem e _ none (hne e List.mem_cons_self) (hv e List.mem_cons_self) (by intro c hc; cases hc; decide), run_comma, ih]
    rfl

/-! ### the RFC reading with distinct parameters -/
def Param.key (p : Param) : Str := lowerS p.name

/-- the value of the parameter called `k` (case-insensitively), if the element has one -/
def getParam (ps : List Param) (k : Str) : Option Str := (ps.find? fun p => p.key == k).map (·.val.value)

/-- RFC 7239 reading of one forwarded-element -/
def rfcElem (ps : List Param) : Fwd :=
  { src := getParam ps ['f', 'o', 'r'], dest := getParam ps ['b', 'y'], host := getParam ps ['h', 'o', 's', 't'],
    scheme := (getParam ps ['p', 'r', 'o', 't', 'o']).map lowerS }

theorem getParam_cons (p : Param) (ps : List Param) (k : Str) :
    getParam (p :: ps) k = if p.key = k then some p.val.value else getParam ps k := by
  unfold getParam
  rw [List.find?_cons]
  by_cases h : p.key = k
  · rw [if_pos h, beq_iff_eq.mpr h]; rfl
  · rw [if_neg h, beq_eq_false_iff_ne.mpr h]

theorem getParam_none (ps : List Param) (k : Str) (h : k ∉ ps.map Param.key) : getParam ps k = none := by
  induction ps with
  | nil => rfl
  | cons p t ih =>
    simp only [List.map_cons, List.mem_cons, not_or] at h
    rw [getParam_cons, if_neg (fun e => h.1 e.symm), ih h.2]

/-- the `if … elif` chain field by field: the four names are distinct, so each field has one test -/
theorem setField_eq (e : Fwd) (k v : Str) : setField e k v =
    { src := if k = ['f', 'o', 'r'] then some v else e.src, dest := if k = ['b', 'y'] then some v else e.dest,
      host := if k = ['h', 'o', 's', 't'] then some v else e.host,
      scheme := if k = ['p', 'r', 'o', 't', 'o'] then some (lowerS v) else e.scheme } := by
  fun_cases setField e k v <;> simp_all

theorem foldl_applyParam (ps : List Param) : ∀ (e0 : Fwd), (ps.map Param.key).Nodup →
    ps.foldl applyParam e0 =
      { src := (getParam ps ['f', 'o', 'r']).or e0.src, dest := (getParam ps ['b', 'y']).or e0.dest,
        host := (getParam ps ['h', 'o', 's', 't']).or e0.host,
        scheme := ((getParam ps ['p', 'r', 'o', 't', 'o']).map lowerS).or e0.scheme } := by
  induction ps with
  | nil => intro e0 _; simp [getParam]
  | cons p t ih =>
    intro e0 hd
    simp only [List.map_cons, List.nodup_cons] at hd
    have hn := getParam_none t _ hd.1
    have hk : applyParam e0 p = setField e0 p.key p.val.value := rfl
    rw [List.foldl_cons, ih _ hd.2, hk, setField_eq]
    simp only [getParam_cons]
    -- field by field: where `p` sets the field, `t` has no parameter of that name (`hn`)
    congr 1
    all_goals
      split
      · rename_i h; rw [← h, hn]; rfl
      · rfl

theorem elemOf_eq_rfc (ps : List Param) (hd : (ps.map Param.key).Nodup) : elemOf ps = rfcElem ps := by
  unfold elemOf
  rw [foldl_applyParam ps {} hd]
  simp [rfcElem]

/-- **RFC 7239**: a header built from the grammar - elements of `;`-separated pairs with pairwise distinct (case-insensitive)
    parameter names, token or quoted-string values, elements separated by `,`, optional blanks around the pairs - is parsed
    into exactly those elements in order: `src`/`dest`/`host` = the `for`/`by`/`host` values with quoted-pairs un-escaped,
    `scheme` = the `proto` value in lower case, absent parameters `None`, unknown parameters ignored. -/
theorem forwarded_valid_eq_rfc (es : List (List Param)) (hne : ∀ e ∈ es, e ≠ []) (hv : ∀ e ∈ es, ∀ p ∈ e, p.valid = true)
    (hd : ∀ e ∈ es, (e.map Param.key).Nodup) : parseForwarded (render es) = es.map rfcElem := by
  rw [forwarded_render_parse es hne hv]
  apply List.map_congr_left
  intro e he
  exact elemOf_eq_rfc e (hd e he)

/-- RFC 7239 section 6 node: `nodename [ ":" node-port ]`; `v6` = the name is written in brackets.  The port text is
    arbitrary (numeric, obfuscated `_hidden`, …) as long as it contains neither `:` nor `]`. -/
structure Node where
  v6 : Bool
  host : Str
  port : Option Str
  deriving Repr, DecidableEq

def Node.render (n : Node) : Str :=
  (if n.v6 then '[' :: (n.host ++ [']']) else n.host) ++ (match n.port with | none => [] | some p => ':' :: p)

def Node.valid (n : Node) : Bool :=
  !n.host.contains '[' && !n.host.contains ']' && (n.v6 || !n.host.contains ':') &&
  (match n.port with | none => true | some p => !p.contains ':' && !p.contains ']')

theorem rpartColon_append (a s : Str) (hs : ':' ∉ s) : rpartColon (a ++ ':' :: s) = a := by
  unfold rpartColon
  have : (a ++ ':' :: s).reverse = s.reverse ++ ':' :: a.reverse := by simp
  rw [this, Hp.breakOn_append ':' s.reverse a.reverse (by simpa using hs)]
  simp

theorem isBr_false_of_mem {h : Str} (h1 : '[' ∉ h) (h2 : ']' ∉ h) {x : Char} (hx : x ∈ h) : (x == '[' || x == ']') = false := by
  simp only [Bool.or_eq_false_iff, beq_eq_false_iff_ne]
  exact ⟨fun e => h1 (e ▸ hx), fun e => h2 (e ▸ hx)⟩

theorem stripBr_plain (h : Str) (h1 : '[' ∉ h) (h2 : ']' ∉ h) : stripBr h = h := by
  unfold stripBr
  apply Hp.strip_of_ends
  · intro x hx; exact isBr_false_of_mem h1 h2 (List.mem_of_mem_head? hx)
  · intro x hx
    have : x ∈ h.reverse := List.mem_of_mem_head? hx
    exact isBr_false_of_mem h1 h2 (by simpa using this)

theorem stripBr_bracketed (a : Str) (h1 : '[' ∉ a) (h2 : ']' ∉ a) : stripBr ('[' :: (a ++ [']'])) = a := by
  unfold stripBr
  rw [Hp.stripW_bracket _ _ _ _ rfl rfl]
  exact stripBr_plain a h1 h2

/-- the access-route entry of a node is its name: the port - numeric or obfuscated - and the IPv6 brackets are dropped -/
theorem routeHost_node (n : Node) (hv : n.valid = true) : routeHost n.render = n.host := by
  obtain ⟨v6, host, port⟩ := n
  simp only [Node.valid, Bool.and_eq_true, Bool.not_eq_true', Bool.or_eq_true] at hv
  obtain ⟨⟨⟨hb1, hb2⟩, hcol⟩, hport⟩ := hv
  have hb1' : '[' ∉ host := by simpa using hb1
  have hb2' : ']' ∉ host := by simpa using hb2
  cases v6 with
  | false =>
    have hc : ':' ∉ host := by simpa using hcol
    have hh : host.head? ≠ some '[' := fun e => hb1' (List.mem_of_mem_head? e)
    cases port with
    | none =>
      simp only [Node.render, Bool.false_eq_true, if_false, List.append_nil]
      unfold routeHost; rw [Hp.parseHost_bare host none hc hh]
    | some p =>
      simp only [Bool.and_eq_true, Bool.not_eq_true'] at hport
      have hp1 : ':' ∉ p := by simpa using hport.1
      simp only [Node.render, Bool.false_eq_true, if_false]
      unfold routeHost; rw [Hp.parseHost_name_anyport host p none hc hh hp1]
      cases Hp.portOf p none with
      | some q => rfl
      | none => simp only [rpartColon_append host p hp1, stripBr_plain host hb1' hb2']
  | true =>
    cases port with
    | none =>
      simp only [Node.render, if_true, List.append_nil]
      unfold routeHost; rw [Hp.parseHost_ipv6_bare host none hb2']
    | some p =>
      simp only [Bool.and_eq_true, Bool.not_eq_true'] at hport
      have hp1 : ':' ∉ p := by simpa using hport.1
      have hp2 : ']' ∉ p := by simpa using hport.2
      simp only [Node.render, if_true, List.cons_append, List.append_assoc, List.nil_append]
      unfold routeHost; rw [Hp.parseHost_ipv6_anyport host p none hb2' hp2]
      cases Hp.portOf p none with
      | some q => rfl
      | none =>
        have : '[' :: (host ++ ']' :: ':' :: p) = ('[' :: (host ++ [']'])) ++ ':' :: p := by simp
        simp only [this, rpartColon_append _ p hp1, stripBr_bracketed host hb1' hb2']

theorem finishRoute_last (asgi : Bool) (route : List Str) (remote : Str) (h : route.getLast? = some remote) :
    finishRoute asgi route remote = route := by
  cases route with
  | nil => simp at h
  | cons a t => simp [finishRoute, h]

theorem finishRoute_append (asgi : Bool) (route : List Str) (remote : Str) (hne : route ≠ []) (h : route.getLast? ≠ some remote) :
    finishRoute asgi route remote = route ++ [remote] := by
  cases route with
  | nil => exact absurd rfl hne
  | cons a t => simp [finishRoute, h]

theorem finishRoute_nil_wsgi (remote : Str) : finishRoute false [] remote = [remote] := by simp [finishRoute]

/-- `es` and `ns` run in parallel: the `for` value of each element is the rendering of the given valid node (or absent) -/
def SrcNodes : List (List Param) → List (Option Node) → Prop
  | [], [] => True
  | e :: es, n :: ns => (rfcElem e).src = n.map Node.render ∧ (∀ m, n = some m → m.valid = true) ∧ SrcNodes es ns
  | _, _ => False

theorem route_of_nodes : ∀ (es : List (List Param)) (ns : List (Option Node)), SrcNodes es ns →
    (es.map rfcElem).filterMap (fun hop => hop.src.map routeHost) = ns.filterMap (fun n => n.map Node.host)
  | [], [], _ => rfl
  | [], _ :: _, h => by simp [SrcNodes] at h
  | _ :: _, [], h => by simp [SrcNodes] at h
  | e :: es, n :: ns, h => by
    obtain ⟨h1, h2, h3⟩ := h
    have ih := route_of_nodes es ns h3
    cases n with
    | none =>
      simp only [Option.map_none] at h1
      simp [h1, ih]
    | some m =>
      simp only [Option.map_some] at h1
      simp [h1, routeHost_node m (h2 m rfl), ih]

/-- `req.access_route` for a grammatical Forwarded header whose `for` values are nodes: the node names in order (ports -
    numeric or obfuscated - and IPv6 brackets dropped, elements without `for` skipped), then `remote_addr` unless it
    equals the last entry (`finishRoute`); X-Forwarded-For and X-Real-IP are ignored when Forwarded is present. -/
theorem accessRoute_valid (asgi : Bool) (es : List (List Param)) (ns : List (Option Node)) (xff xri : Option Str) (remote : Str)
    (hne : ∀ e ∈ es, e ≠ []) (hv : ∀ e ∈ es, ∀ p ∈ e, p.valid = true) (hd : ∀ e ∈ es, (e.map Param.key).Nodup)
    (hn : SrcNodes es ns) :
    accessRoute asgi (some (render es)) xff xri remote = finishRoute asgi (ns.filterMap fun n => n.map Node.host) remote := by
  unfold accessRoute routeBase
  simp only [forwarded_valid_eq_rfc es hne hv hd, route_of_nodes es ns hn]

/-- second access = first access = a fresh computation, and the cell is filled -/
theorem memo_idempotent (asgi : Bool) (fwd xff xri : Option Str) (remote : Str) :
    let a1 := accessRouteMemo none asgi fwd xff xri remote
    let a2 := accessRouteMemo a1.2 asgi fwd xff xri remote
    a1.1 = accessRoute asgi fwd xff xri remote ∧ a2.1 = a1.1 ∧ a2.2 = a1.2 := by
  simp [accessRouteMemo]

/-! ### non-vacuity: a concrete header on which every hypothesis holds, and what the model computes on it -/
def qs (s : String) : Val := .quoted (s.toList.map .plain)

/-- `for="[2001:db8::1]:_hid";Proto=HTTPS, For="192.0.2.43:80" ;by="a\"b";x=y,host=h` -/
def exHeader : List (List Param) :=
  [[⟨[], "for".toList, qs "[2001:db8::1]:_hid", []⟩, ⟨[], "Proto".toList, .tok "HTTPS".toList, []⟩],
   [⟨[' '], "For".toList, qs "192.0.2.43:80", [' ']⟩, ⟨[], "by".toList, .quoted [.plain 'a', .esc '"', .esc 'b', .esc '\\'], []⟩,
    ⟨[], "x".toList, .tok "y".toList, []⟩],
   [⟨[], "host".toList, .tok "h".toList, []⟩]]

example : render exHeader = "for=\"[2001:db8::1]:_hid\";Proto=HTTPS, For=\"192.0.2.43:80\" ;by=\"a\\\"\\b\\\\\";x=y,host=h".toList := by decide +kernel
example : (∀ e ∈ exHeader, e ≠ []) ∧ (∀ e ∈ exHeader, ∀ p ∈ e, p.valid = true) ∧ (∀ e ∈ exHeader, (e.map Param.key).Nodup) := by decide +kernel
example : parseForwarded (render exHeader) =
    [{ src := some "[2001:db8::1]:_hid".toList, scheme := some "https".toList },
     { src := some "192.0.2.43:80".toList, dest := some "a\"b\\".toList }, { host := some "h".toList }] := by decide +kernel
def exNodes : List (Option Node) :=
  [some ⟨true, "2001:db8::1".toList, some "_hid".toList⟩, some ⟨false, "192.0.2.43".toList, some "80".toList⟩, none]
example : SrcNodes exHeader exNodes := by
  refine ⟨by decide +kernel, by decide +kernel, by decide +kernel, by decide +kernel, by decide +kernel, by decide +kernel, trivial⟩
example : accessRoute false (some (render exHeader)) none none "10.0.0.1".toList =
    ["2001:db8::1".toList, "192.0.2.43".toList, "10.0.0.1".toList] := by decide +kernel
example : accessRoute true (some (render exHeader)) none none "192.0.2.43".toList = ["2001:db8::1".toList, "192.0.2.43".toList] := by decide +kernel
-- malformed input: the loop skips to the next comma and keeps what it had
example : parseForwarded "for=a b=c;by=x, =;for=\"q, proto=HTTP".toList =
    [{ src := some "a".toList }, { scheme := some "http".toList }] := by decide +kernel
example : unquoteString "\"a\\\\\\\"b\\c\"".toList = "a\\\"bc".toList := by decide +kernel

end Fw
