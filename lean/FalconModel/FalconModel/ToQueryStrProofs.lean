import FalconModel.Getters
import FalconModel.QueryProofs
/-! C08: `falcon.util.misc.to_query_str` (model `Gt.toQueryStr`) and the parser are inverse to each other on well-formed
    mappings: `parse_toQueryStr`.  Everything is on UTF-8 bytes, like the parser model; the parsed names and values are the
    `bytes.decode('utf-8', 'replace')` of the rendered ones (for a Python `str`, whose bytes are valid UTF-8, that is the
    string itself). -/
namespace Gt
open Qs (Bytes Str Val Params splitOn partitionEq decodeStr fieldEntry entries Entry keysOf valOf refOf parseQS parseRef)
open Uri (encodeValue)

/-! ### the rendering as a list of `name=value` fields, each followed by '&' -/

/-- the fields one item of the mapping renders to -/
def fieldsOf (cdl : Bool) (kv : Bytes × BVal) : List Bytes :=
  match kv.2 with
  | .one v => [encodeValue kv.1 ++ 61 :: encodeValue v]
  | .many vs =>
    if cdl then [encodeValue kv.1 ++ 61 :: joinComma (vs.map encodeValue)]
    else vs.map fun lv => encodeValue kv.1 ++ 61 :: encodeValue lv

def joinAmp (fs : List Bytes) : Bytes := fs.flatMap (· ++ [38])

theorem joinAmp_append (a b : List Bytes) : joinAmp (a ++ b) = joinAmp a ++ joinAmp b := List.flatMap_append

theorem joinAmp_ne_nil {fs : List Bytes} (h : fs ≠ []) : joinAmp fs ≠ [] := by
  cases fs with
  | nil => exact absurd rfl h
  | cons f r => exact fun h0 => List.cons_ne_nil _ _ (List.append_eq_nil_iff.1 (List.append_eq_nil_iff.1 h0).1).2

theorem renderItem_eq (cdl : Bool) (q : Bytes) (kv : Bytes × BVal) :
    renderItem cdl q kv = q ++ joinAmp (fieldsOf cdl kv) := by
  obtain ⟨k, v⟩ := kv
  cases v with
  | one v => simp only [renderItem, fieldsOf, joinAmp, List.flatMap_cons, List.flatMap_nil, List.append_nil, List.cons_append,
      List.append_assoc]
  | many vs =>
    cases cdl with
    | true => simp only [renderItem, fieldsOf, joinAmp, if_true, List.flatMap_cons, List.flatMap_nil, List.append_nil,
        List.cons_append, List.append_assoc]
    | false =>
      show vs.foldl _ q = q ++ joinAmp (vs.map _)
      induction vs generalizing q with
      | nil => exact (List.append_nil q).symm
      | cons x r ih =>
        rw [List.foldl_cons, ih]
        simp only [joinAmp, List.map_cons, List.flatMap_cons, List.cons_append, List.append_assoc]

theorem foldl_render (cdl : Bool) : ∀ (m : List (Bytes × BVal)) (q : Bytes),
    m.foldl (renderItem cdl) q = q ++ joinAmp (m.flatMap (fieldsOf cdl)) := by
  intro m
  induction m with
  | nil => exact fun q => (List.append_nil q).symm
  | cons kv r ih =>
    intro q
    rw [List.foldl_cons, renderItem_eq, ih, List.flatMap_cons, joinAmp_append, List.append_assoc]

/-- `to_query_str(m, comma_delimited_lists=cdl, prefix=False)` is the '&'-join of the fields -/
theorem toQueryStr_eq (m : List (Bytes × BVal)) (cdl : Bool) :
    toQueryStr m cdl false = (joinAmp (m.flatMap (fieldsOf cdl))).dropLast := by
  unfold toQueryStr
  rw [foldl_render]
  cases m <;> rfl

/-- `prefix=True` only puts a '?' in front (when anything is rendered at all) -/
theorem toQueryStr_prefix (m : List (Bytes × BVal)) (cdl : Bool) (h : m.flatMap (fieldsOf cdl) ≠ []) :
    toQueryStr m cdl true = 63 :: toQueryStr m cdl false := by
  rw [toQueryStr_eq]
  unfold toQueryStr
  rw [foldl_render]
  cases m with
  | nil => exact absurd rfl h
  | cons kv r => exact List.dropLast_append_of_ne_nil (joinAmp_ne_nil h)

/-- dropping the last '&' of `joinAmp` gives `'&'.join` -/
theorem dropLast_joinAmp_one (x : Bytes) : (joinAmp [x]).dropLast = x :=
  (congrArg List.dropLast (List.append_nil _)).trans List.dropLast_concat

theorem dropLast_joinAmp_two (x y : Bytes) (r : List Bytes) :
    (joinAmp (x :: y :: r)).dropLast = x ++ 38 :: (joinAmp (y :: r)).dropLast := by
  show ((x ++ [38]) ++ joinAmp (y :: r)).dropLast = _
  rw [List.dropLast_append_of_ne_nil (joinAmp_ne_nil (List.cons_ne_nil y r)), List.append_assoc]; rfl

theorem splitOn_joinAmp (fs : List Bytes) (hne : fs ≠ []) (h : ∀ f ∈ fs, ∀ c ∈ f, c ≠ 38) :
    splitOn 38 (joinAmp fs).dropLast = fs :=
  Qs.splitOn_join 38 (fun fs => (joinAmp fs).dropLast) dropLast_joinAmp_one dropLast_joinAmp_two fs hne h

theorem splitOn_joinComma (ps : List Bytes) (hne : ps ≠ []) (h : ∀ p ∈ ps, ∀ c ∈ p, c ≠ 44) :
    splitOn 44 (joinComma ps) = ps :=
  Qs.splitOn_join 44 joinComma (fun _ => rfl) (fun _ _ _ => rfl) ps hne h

theorem joinComma_has_comma (p q : Bytes) (r : List Bytes) : (44 : UInt8) ∈ joinComma (p :: q :: r) :=
  List.mem_append_right _ List.mem_cons_self

theorem enc_isEmpty (x : Bytes) : (encodeValue x).isEmpty = x.isEmpty := by
  cases x with
  | nil => rfl
  | cons c r => exact List.isEmpty_eq_false_iff.2 (Qs.encodeValue_ne_nil (c :: r) (List.cons_ne_nil c r))

/-- a scalar `name=value` field, unless it is blank and dropped -/
theorem fieldEntry_pair (kb csv : Bool) (k v : Bytes) (h : v ≠ [] ∨ (kb = true ∧ k ≠ [])) :
    fieldEntry kb csv (encodeValue k ++ 61 :: encodeValue v) = some ⟨U8.decodeReplace k, [U8.decodeReplace v], false⟩ := by
  rw [Qs.fieldEntry_scalar kb csv _ _ (Qs.enc_no61 k) (Or.inr (Qs.enc_no44 v)), enc_isEmpty, enc_isEmpty,
    (Qs.blank_eq_false_iff kb k v).2 h, Qs.decodeStr_encodeValue, Qs.decodeStr_encodeValue]
  rfl

/-- a comma-delimited list field, read with CSV parsing on -/
theorem fieldEntry_csv (kb : Bool) (k : Bytes) (vs : List Bytes) (hlen : 2 ≤ vs.length) (hne : kb = false → ∀ v ∈ vs, v ≠ []) :
    fieldEntry kb true (encodeValue k ++ 61 :: joinComma (vs.map encodeValue)) =
      some ⟨U8.decodeReplace k, vs.map U8.decodeReplace, true⟩ := by
  have hcomma : (44 : UInt8) ∈ joinComma (vs.map encodeValue) := by
    obtain ⟨a, b, r, rfl⟩ := Qs.exists_cons_cons hlen
    exact joinComma_has_comma _ _ _
  have hsplit : splitOn 44 (joinComma (vs.map encodeValue)) = vs.map encodeValue := by
    refine splitOn_joinComma _ (fun h0 => ?_) fun p hp => ?_
    · rw [List.map_eq_nil_iff.1 h0] at hlen; exact absurd hlen (by decide)
    · obtain ⟨x, _, rfl⟩ := List.mem_map.1 hp
      exact Qs.enc_no44 x
  have hfilter : (if (!kb) = true then (vs.map encodeValue).filter (!·.isEmpty) else vs.map encodeValue) = vs.map encodeValue := by
    cases kb with
    | true => rfl
    | false =>
      refine List.filter_eq_self.2 fun p hp => ?_
      obtain ⟨x, hx, rfl⟩ := List.mem_map.1 hp
      rw [enc_isEmpty, List.isEmpty_eq_false_iff.2 (hne rfl x hx)]; rfl
  rw [Qs.fieldEntry_list kb _ _ (Qs.enc_no61 k) hcomma, hsplit, hfilter, Qs.decodeStr_encodeValue, List.map_map,
    List.map_congr_left (f := decodeStr ∘ encodeValue) (g := U8.decodeReplace) fun x _ => Qs.decodeStr_encodeValue x]

/-! ### the mapping the round trip is about, and its side conditions -/
abbrev dec := U8.decodeReplace

def decV : BVal → Val
  | .one v => .one (dec v)
  | .many vs => .many (vs.map dec)

/-- the parsed counterpart of a mapping of byte strings -/
def decMap (m : List (Bytes × BVal)) : Params := m.map fun kv => (dec kv.1, decV kv.2)

def valuesOf : BVal → List Bytes
  | .one v => [v]
  | .many vs => vs

/-- a list has at least two elements (a list of one comes back as a scalar, an empty list vanishes) -/
def listOk : BVal → Prop
  | .one _ => True
  | .many vs => 2 ≤ vs.length
instance (v : BVal) : Decidable (listOk v) :=
  match v with
  | .one _ => inferInstanceAs (Decidable True)
  | .many vs => inferInstanceAs (Decidable (2 ≤ vs.length))

/-- one item survives the round trip: no (name, value) pair with both empty — and no empty value at all unless blank
    values are kept —, and a list has at least two elements -/
def ItemOk (kb : Bool) (kv : Bytes × BVal) : Prop :=
  (∀ x ∈ valuesOf kv.2, x ≠ [] ∨ (kb = true ∧ kv.1 ≠ [])) ∧ listOk kv.2
instance (kb : Bool) (kv : Bytes × BVal) : Decidable (ItemOk kb kv) := inferInstanceAs (Decidable (_ ∧ _))

/-- the side conditions of the round trip: names distinct (as text), every item `ItemOk`, and comma-delimited
    rendering only together with CSV parsing -/
structure WFmap (m : List (Bytes × BVal)) (kb csv cdl : Bool) : Prop where
  keys_nodup : (m.map fun kv => dec kv.1).Nodup
  items : ∀ kv ∈ m, ItemOk kb kv
  cdl_csv : cdl = true → csv = true

instance (m : List (Bytes × BVal)) (kb csv cdl : Bool) : Decidable (WFmap m kb csv cdl) :=
  decidable_of_iff ((m.map fun kv => dec kv.1).Nodup ∧ (∀ kv ∈ m, ItemOk kb kv) ∧ (cdl = true → csv = true))
    ⟨fun h => ⟨h.1, h.2.1, h.2.2⟩, fun h => ⟨h.keys_nodup, h.items, h.cdl_csv⟩⟩

/-- the reference entries one item contributes -/
def entriesOf (cdl : Bool) (kv : Bytes × BVal) : List Entry :=
  match kv.2 with
  | .one v => [⟨dec kv.1, [dec v], false⟩]
  | .many vs =>
    if cdl then [⟨dec kv.1, vs.map dec, true⟩]
    else vs.map fun lv => ⟨dec kv.1, [dec lv], false⟩

theorem filterMap_fields (kb csv cdl : Bool) (kv : Bytes × BVal) (hok : ItemOk kb kv) (hc : cdl = true → csv = true) :
    (fieldsOf cdl kv).filterMap (fieldEntry kb csv) = entriesOf cdl kv := by
  obtain ⟨k, v⟩ := kv
  cases v with
  | one v =>
    show [_].filterMap _ = _
    rw [List.filterMap_cons, fieldEntry_pair kb csv k v (hok.1 v List.mem_cons_self)]; rfl
  | many vs =>
    cases cdl with
    | true =>
      obtain rfl := hc rfl
      show [_].filterMap _ = _
      rw [List.filterMap_cons, fieldEntry_csv kb k vs hok.2 fun hkb x hx =>
        (hok.1 x hx).resolve_right fun h => Bool.noConfusion (hkb ▸ h.1)]; rfl
    | false => exact Qs.filterMap_map_some vs fun x hx => fieldEntry_pair kb csv k x (hok.1 x hx)

theorem entries_rendered (kb csv cdl : Bool) : ∀ (m : List (Bytes × BVal)), (∀ kv ∈ m, ItemOk kb kv) → (cdl = true → csv = true) →
    (m.flatMap (fieldsOf cdl)).filterMap (fieldEntry kb csv) = m.flatMap (entriesOf cdl) := by
  intro m h hc
  induction m with
  | nil => rfl
  | cons kv r ih =>
    obtain ⟨hkv, hr⟩ := List.forall_mem_cons.1 h
    rw [List.flatMap_cons, List.flatMap_cons, List.filterMap_append, filterMap_fields kb csv cdl kv hkv hc, ih hr]

theorem fieldsOf_ne_nil (kb cdl : Bool) (kv : Bytes × BVal) (hok : ItemOk kb kv) : fieldsOf cdl kv ≠ [] := by
  obtain ⟨k, v⟩ := kv
  cases v with
  | one v => exact List.cons_ne_nil _ _
  | many vs =>
    cases cdl with
    | true => exact List.cons_ne_nil _ _
    | false =>
      obtain ⟨a, b, r, rfl⟩ := Qs.exists_cons_cons hok.2
      exact List.cons_ne_nil _ _

theorem fieldsOf_no38 (cdl : Bool) (kv : Bytes × BVal) : ∀ f ∈ fieldsOf cdl kv, ∀ c ∈ f, c ≠ 38 := by
  obtain ⟨k, v⟩ := kv
  have hpair : ∀ x : Bytes, ∀ c ∈ encodeValue k ++ 61 :: encodeValue x, c ≠ 38 :=
    fun x => Qs.no38_field (Qs.enc_no38 k) (Qs.enc_no38 x)
  cases v with
  | one v => intro f hf; rw [List.mem_singleton.1 hf]; exact hpair v
  | many vs =>
    cases cdl with
    | true =>
      intro f hf
      rw [List.mem_singleton.1 hf]
      refine Qs.no38_field (Qs.enc_no38 k) fun c hc => ?_
      rcases Qs.mem_join 44 joinComma rfl (fun _ => rfl) (fun _ _ _ => rfl) _ c hc with rfl | ⟨p, hp, hcp⟩
      · decide
      · obtain ⟨x, _, rfl⟩ := List.mem_map.1 hp
        exact Qs.enc_no38 x c hcp
    | false =>
      intro f hf
      obtain ⟨x, _, rfl⟩ := List.mem_map.1 hf
      exact hpair x

theorem filter_ne_self {l : List Str} {K : Str} (h : K ∉ l) : l.filter (· != K) = l :=
  List.filter_eq_self.2 fun _ hx => bne_iff_ne.2 fun he => h (he ▸ hx)

theorem keysOf_block (e : Entry) (b rest : List Entry) (K : Str) (hk : ∀ x ∈ e :: b, x.key = K) (hf : K ∉ keysOf rest) :
    keysOf (e :: b ++ rest) = K :: keysOf rest := by
  induction b generalizing e with
  | nil => rw [List.cons_append, List.nil_append, keysOf, hk e List.mem_cons_self, filter_ne_self hf]
  | cons e' b ih =>
    obtain ⟨he, hb⟩ := List.forall_mem_cons.1 hk
    rw [List.cons_append, keysOf, ih e' hb, he, List.filter_cons, bne_self_eq_false, if_neg Bool.false_ne_true,
      filter_ne_self hf]

/-- a block of entries under one name that does not occur later is the first item of the reading -/
theorem refOf_block (block rest : List Entry) (K : Str) (hne : block ≠ []) (hk : ∀ e ∈ block, e.key = K) (hf : K ∉ keysOf rest) :
    refOf (block ++ rest) =
      (K, Qs.groupVal block) :: refOf rest := by
  obtain ⟨e, b, rfl⟩ := List.exists_cons_of_ne_nil hne
  unfold refOf
  rw [keysOf_block e b rest K hk hf, List.map_cons, Qs.valOf_eq, List.filter_append, Qs.filter_key_eq_nil hf,
    List.append_nil, List.filter_eq_self.2 fun e he => beq_iff_eq.2 (hk e he)]
  refine congrArg _ (List.map_congr_left fun k hkm => ?_)
  have hnil : (e :: b).filter (·.key == k) = [] :=
    List.filter_eq_nil_iff.2 fun e he h => hf (hk e he ▸ eq_of_beq h ▸ hkm)
  rw [Qs.valOf_eq, Qs.valOf_eq, List.filter_append, hnil, List.nil_append]

theorem entriesOf_key (cdl : Bool) (kv : Bytes × BVal) : ∀ e ∈ entriesOf cdl kv, e.key = dec kv.1 := by
  obtain ⟨k, v⟩ := kv
  cases v with
  | one v => intro e he; rw [List.mem_singleton.1 he]
  | many vs =>
    cases cdl with
    | true => intro e he; rw [List.mem_singleton.1 he]
    | false => intro e he; obtain ⟨x, _, rfl⟩ := List.mem_map.1 he; rfl

theorem flatMap_vals_map (K : Str) : ∀ (r : List Bytes),
    (r.map fun lv => (⟨K, [dec lv], false⟩ : Entry)).flatMap (·.vals) = r.map dec
  | [] => rfl
  | x :: r => congrArg (dec x :: ·) (flatMap_vals_map K r)

theorem entriesOf_ne_nil (kb cdl : Bool) (kv : Bytes × BVal) (hok : ItemOk kb kv) : entriesOf cdl kv ≠ [] := by
  obtain ⟨k, v⟩ := kv
  cases v with
  | one v => exact List.cons_ne_nil _ _
  | many vs =>
    cases cdl with
    | true => exact List.cons_ne_nil _ _
    | false =>
      obtain ⟨a, b, r, rfl⟩ := Qs.exists_cons_cons hok.2
      exact List.cons_ne_nil _ _

theorem valOf_entriesOf (kb cdl : Bool) (kv : Bytes × BVal) (hok : ItemOk kb kv) :
    Qs.groupVal (entriesOf cdl kv) = decV kv.2 := by
  obtain ⟨k, v⟩ := kv
  cases v with
  | one v => rfl
  | many vs =>
    cases cdl with
    | true => rfl
    | false =>
      obtain ⟨a, b, r, rfl⟩ := Qs.exists_cons_cons hok.2
      show Val.many (dec a :: dec b :: (r.map fun lv => (⟨dec k, [dec lv], false⟩ : Entry)).flatMap (·.vals)) = _
      rw [flatMap_vals_map (dec k) r]; rfl

theorem refOf_entries (kb cdl : Bool) : ∀ (m : List (Bytes × BVal)), (m.map fun kv => dec kv.1).Nodup → (∀ kv ∈ m, ItemOk kb kv) →
    refOf (m.flatMap (entriesOf cdl)) = decMap m := by
  intro m hnd hok
  induction m with
  | nil => rfl
  | cons kv r ih =>
    obtain ⟨hkv, hr⟩ := List.forall_mem_cons.1 hok
    obtain ⟨hnew, hnd⟩ := List.nodup_cons.1 hnd
    have hfresh : dec kv.1 ∉ keysOf (r.flatMap (entriesOf cdl)) := by
      intro hm
      obtain ⟨e, he, hk⟩ := (Qs.mem_keysOf _ _).1 hm
      obtain ⟨kv', hkv', he'⟩ := List.mem_flatMap.1 he
      exact hnew (List.mem_map.2 ⟨kv', hkv', (entriesOf_key cdl kv' e he').symm.trans hk⟩)
    rw [List.flatMap_cons, refOf_block _ _ _ (entriesOf_ne_nil kb cdl kv hkv) (entriesOf_key cdl kv) hfresh,
      valOf_entriesOf kb cdl kv hkv, ih hnd hr]
    rfl

/-- **`to_query_str` round trip.**  For every mapping `m` of names to strings or lists of strings that satisfies the
    side conditions `WFmap` (names distinct; no pair with name and value both empty, and no empty value when blank
    values are dropped; every list has at least two elements; `comma_delimited_lists` only with `auto_parse_qs_csv`),
    parsing `to_query_str(m, comma_delimited_lists=cdl, prefix=False)` with the options `kb`, `csv` gives back exactly
    `m` — same names in the same order, scalars as scalars, lists as lists with the same elements in order. -/
theorem parse_toQueryStr (m : List (Bytes × BVal)) (kb csv cdl : Bool) (h : WFmap m kb csv cdl) :
    parseQS (toQueryStr m cdl false) kb csv = decMap m := by
  have h38 : ∀ f ∈ m.flatMap (fieldsOf cdl), ∀ c ∈ f, c ≠ 38 := fun f hf =>
    have ⟨x, _, hfx⟩ := List.mem_flatMap.1 hf
    fieldsOf_no38 cdl x f hfx
  have hent : entries (toQueryStr m cdl false) kb csv = m.flatMap (entriesOf cdl) := by
    rw [toQueryStr_eq, ← entries_rendered kb csv cdl m h.items h.cdl_csv]
    exact Qs.entries_join (fun fs => (joinAmp fs).dropLast) rfl dropLast_joinAmp_one dropLast_joinAmp_two _ h38 kb csv
  rw [Qs.parseQS_eq_ref]
  show refOf (entries (toQueryStr m cdl false) kb csv) = _
  rw [hent]
  exact refOf_entries kb cdl m h.keys_nodup h.items

/-! ### the side conditions are satisfiable, and each one is needed -/
-- {'a b': 'x&y=z,+%', '': 'v', 'l': ['1', '', 'é'], 'q': ''}: well-formed with blank values kept, for both list styles
example : WFmap [([97, 32, 98], .one [120, 38, 121, 61, 122, 44, 43, 37]), ([], .one [118]), ([108], .many [[49], [], [195, 169]]), ([113], .one [])]
    true true true := by decide +kernel
example : WFmap [([97, 32, 98], .one [120, 38, 121, 61, 122, 44, 43, 37]), ([], .one [118]), ([108], .many [[49], [], [195, 169]]), ([113], .one [])]
    true false false := by decide +kernel
example : (parseQS (toQueryStr [([97, 32, 98], .one [120, 38, 121, 61, 122, 44, 43, 37]), ([], .one [118]), ([108], .many [[49], [], [195, 169]]), ([113], .one [])] true false) true true
    == [([97, 32, 98], .one [120, 38, 121, 61, 122, 44, 43, 37]), ([], .one [118]), ([108], .many [[49], [], [233]]), ([113], .one [])]) = true := by decide +kernel

/-- a pair with empty name AND empty value is lost: {'': ''} renders to "=" which parses to {} -/
theorem wf_witness_both_empty : (parseQS (toQueryStr [([], .one [])] false false) true false == decMap [([], .one [])]) = false := by decide +kernel
/-- an empty value is lost when blank values are dropped: {'a': ''} -/
theorem wf_witness_blank_dropped : (parseQS (toQueryStr [([97], .one [])] false false) false false == decMap [([97], .one [])]) = false := by decide +kernel
/-- a one-element list comes back as a scalar: {'a': ['b']} -/
theorem wf_witness_short_list : (parseQS (toQueryStr [([97], .many [[98]])] false false) true false == decMap [([97], .many [[98]])]) = false := by decide +kernel
/-- an empty list vanishes: {'a': []} -/
theorem wf_witness_empty_list : (parseQS (toQueryStr [([97], .many [])] false false) true false == decMap [([97], .many [])]) = false := by decide +kernel
/-- comma-delimited rendering read without CSV parsing comes back as one scalar "b,c": {'a': ['b', 'c']} -/
theorem wf_witness_cdl_without_csv : (parseQS (toQueryStr [([97], .many [[98], [99]])] true false) true false == decMap [([97], .many [[98], [99]])]) = false := by decide +kernel
/-- two names that are the same TEXT (both decode to U+FFFD) are merged: only for byte strings that are not valid UTF-8 -/
theorem wf_witness_same_name : (parseQS (toQueryStr [([255], .one [120]), ([254], .one [121])] false false) true false
    == decMap [([255], .one [120]), ([254], .one [121])]) = false := by decide +kernel

end Gt
