import FalconModel.LazyLock
/-! Proofs for `Ll`: an eagerly created lock gives mutual exclusion under every schedule; a lazily created one does not. -/
namespace Ll

/-- with the eager lock `l0` a thread is never in the creating branch and only ever refers to `l0` -/
def Ok (l0 : Nat) : Pc → Prop
  | .start => True
  | .ref l => l = l0
  | .crit l => l = l0
  | .done => True
  | _ => False

structure Inv (l0 : Nat) (s : St) : Prop where
  cell : s.cell = some l0
  pcs : ∀ i, Ok l0 (s.pcs i)
  mutex : (s.held = [] ∧ ∀ i, s.pcs i ≠ .crit l0) ∨
          (s.held = [l0] ∧ ∃ i, s.pcs i = .crit l0 ∧ ∀ j, s.pcs j = .crit l0 → j = i)

theorem init_inv (l0 : Nat) : Inv l0 (init l0) :=
  ⟨rfl, fun _ => trivial, Or.inl ⟨rfl, fun _ h => by cases h⟩⟩

/-- thread `i` moves to `pc`: a clause about every thread carries over when it holds of `pc` for `i` -/
theorem upd_all {P : Nat → Pc → Prop} {g : Nat → Pc} {i : Nat} {pc : Pc} (h : ∀ j, P j (g j)) (hpc : P i pc) :
    ∀ j, P j (if j = i then pc else g j) := by
  intro j
  by_cases hj : j = i
  · rw [if_pos hj, hj]; exact hpc
  · rw [if_neg hj]; exact h j

theorem run_inv (l0 : Nat) (s : St) (i : Nat) (h : Inv l0 s) : Inv l0 (run s i) := by
  have hok := h.pcs i
  unfold run
  split
  · -- start: the cell holds `l0`
    rename_i hp
    split
    · rename_i l hl
      have hl0 : l = l0 := by
        rw [h.cell] at hl; injection hl with hl; exact hl.symm
      subst hl0
      refine ⟨h.cell, upd_all (P := fun _ pc => Ok l pc) h.pcs rfl, ?_⟩
      rcases h.mutex with ⟨hh, hn⟩ | ⟨hh, i0, hi0, hu⟩
      · exact Or.inl ⟨hh, upd_all (P := fun _ pc => pc ≠ .crit l) hn (fun hc => by cases hc)⟩
      · have hne : i0 ≠ i := fun he => by rw [he, hp] at hi0; cases hi0
        exact Or.inr ⟨hh, i0, (if_neg hne).trans hi0,
          upd_all (P := fun j pc => pc = .crit l → j = i0) hu (fun hc => by cases hc)⟩
    · rename_i hl
      rw [h.cell] at hl; cases hl
  · rename_i hp; rw [hp] at hok; exact hok.elim
  · rename_i l hp; rw [hp] at hok; exact hok.elim
  · -- ref l: acquire if free
    rename_i l hp
    rw [hp] at hok
    have hl : l = l0 := hok
    subst hl
    split
    · exact h
    · rename_i hc
      rcases h.mutex with ⟨hh, hn⟩ | ⟨hh, _, _, _⟩
      · exact ⟨h.cell, upd_all (P := fun _ pc => Ok l pc) h.pcs rfl, Or.inr ⟨by simp only [hh], i, if_pos rfl,
          upd_all (P := fun j pc => pc = .crit l → j = i) (fun j hcj => (hn j hcj).elim) (fun _ => rfl)⟩⟩
      · exfalso; apply hc; rw [hh]; simp
  · -- crit l: release
    rename_i l hp
    rw [hp] at hok
    have hl : l = l0 := hok
    subst hl
    rcases h.mutex with ⟨_, hn⟩ | ⟨hh, i0, _, hu⟩
    · exact (hn i hp).elim
    · refine ⟨h.cell, upd_all (P := fun _ pc => Ok l pc) h.pcs trivial, Or.inl ⟨by rw [hh]; simp, fun j => ?_⟩⟩
      show (if j = i then Pc.done else s.pcs j) ≠ Pc.crit l
      by_cases hj : j = i
      · rw [if_pos hj]; exact fun hc => by cases hc
      · rw [if_neg hj]; exact fun hcj => hj ((hu j hcj).trans (hu i hp).symm)
  · exact h

theorem exec_inv (l0 : Nat) : ∀ (sched : List Nat) (s : St), Inv l0 s → Inv l0 (exec s sched) := by
  intro sched
  induction sched with
  | nil => intro s h; exact h
  | cons i rest ih => intro s h; exact ih _ (run_inv l0 s i h)

/-- **eager lock = mutual exclusion**: when the lock is created with the object, then under EVERY schedule of any number of
    threads at most one thread is inside the critical section, every thread that is inside holds the one lock `l0`, and no
    second lock object is ever created -/
theorem eager_lock_mutual_exclusion (l0 : Nat) (sched : List Nat) (i j l l' : Nat)
    (hi : (exec (init l0) sched).pcs i = .crit l) (hj : (exec (init l0) sched).pcs j = .crit l') :
    i = j ∧ l = l0 ∧ l' = l0 ∧ (exec (init l0) sched).cell = some l0 := by
  have h := exec_inv l0 sched _ (init_inv l0)
  have oi := h.pcs i
  have oj := h.pcs j
  rw [hi] at oi
  rw [hj] at oj
  have hl : l = l0 := oi
  have hl' : l' = l0 := oj
  subst hl
  subst hl'
  refine ⟨?_, rfl, rfl, h.cell⟩
  rcases h.mutex with ⟨_, hn⟩ | ⟨_, i0, _, hu⟩
  · exact (hn i hi).elim
  · exact (hu i hi).trans (hu j hj).symm

/-- non-vacuity: with the eager lock both threads get through, one after the other -/
example : (exec (init 1) [0, 0, 1, 1, 0, 1, 1]).pcs 0 = .done ∧ (exec (init 1) [0, 0, 1, 1, 0, 1, 1]).pcs 1 = .done ∧
    inCrit (exec (init 1) [0, 0, 1, 1]) 2 = 1 := by decide

/-- **a lazily created lock is not an idempotent cell**: thread 0 finds the cell empty and is preempted before it has stored its
    lock; thread 1 finds it empty too, creates lock 1, stores and acquires it; thread 0 resumes, creates lock 2, overwrites the
    cell and acquires lock 2 without waiting - both threads are inside the critical section, holding DIFFERENT locks
    (compare `Lz.lazy_init_idempotent`: there every racing initialiser writes the same unobservable value) -/
theorem lazy_lock_witness :
    (exec {} [0, 1, 1, 1, 1, 0, 0, 0]).pcs 0 = .crit 2 ∧ (exec {} [0, 1, 1, 1, 1, 0, 0, 0]).pcs 1 = .crit 1 ∧
    (exec {} [0, 1, 1, 1, 1, 0, 0, 0]).held = [2, 1] ∧ inCrit (exec {} [0, 1, 1, 1, 1, 0, 0, 0]) 2 = 2 := by decide

/-- against the eager lock a thread that finds the lock taken waits -/
example : (exec (init 1) [0, 1, 1, 0, 0]).pcs 0 = .ref 1 ∧ (exec (init 1) [0, 1, 1, 0, 0]).pcs 1 = .crit 1 ∧
    inCrit (exec (init 1) [0, 1, 1, 0, 0]) 2 = 1 := by decide

/-- a timed acquire that never times out is the blocking acquire: the schedules of `exec` are the schedules of `execT` without time-outs -/
theorem execT_no_timeout (s : St) (sched : List Nat) : execT s (sched.map fun i => (i, false)) = exec s sched := by
  induction sched generalizing s with
  | nil => rfl
  | cons i rest ih =>
    have h : runT s i false = run s i := by
      unfold runT
      cases s.pcs i <;> simp
    simp [List.map, execT, exec, h, ih]

/-- REGRESSION WITNESS: the EAGER lock gives no mutual exclusion when it is taken by `acquired = lock.acquire(timeout=t)` and the code
    goes on whatever the result: thread 0 reads the lock attribute and acquires lock 1; thread 1 reads it, its timed acquire finds the
    lock taken and the time-out fires - both threads are inside the critical section, ONE lock exists and only thread 0 holds it
    (compare `eager_lock_mutual_exclusion`, which is about `run`: every way the code takes the lock is part of the model) -/
theorem timed_ignored_witness :
    (execT (init 1) [(0, false), (0, false), (1, false), (1, true)]).pcs 0 = .crit 1 ∧
    (execT (init 1) [(0, false), (0, false), (1, false), (1, true)]).pcs 1 = .crit 0 ∧
    (execT (init 1) [(0, false), (0, false), (1, false), (1, true)]).held = [1] ∧
    (execT (init 1) [(0, false), (0, false), (1, false), (1, true)]).nlocks = 1 ∧
    inCrit (execT (init 1) [(0, false), (0, false), (1, false), (1, true)]) 2 = 2 := by decide

#print axioms execT_no_timeout
#print axioms timed_ignored_witness

#print axioms eager_lock_mutual_exclusion
#print axioms lazy_lock_witness
end Ll
