import FalconModel.FinalizeErr
import FalconModel.FinalizeProofs2
/-! C05: theorems about finalization when rendering the body raises (`FinalizeErr.lean`): every path of the
    `try … except … try … except` reduces to the ordinary finalization (`Fz.wsgi` / `Fz.asgi`) of an explicit response
    state, hence `render_error_body_is_sent`, `render_error_twice_empty_body`, `err_content_length_exact` and
    `err_wsgi_asgi_agree` on both stacks. -/
namespace Fe
open Fz

theorem wsgi_eq_tail (r : Resp) (c : Cfg) :
    wsgi r c = (let (b, e, l) := getBodyW (renderBody r c).1 (renderBody r c).2; tailW b e l (renderBody r c).2 c) := by
  rfl

theorem asgi_eq_tail (r : Resp) (c : Cfg) : asgi r c = tailA (renderBody r c).1 (renderBody r c).2 c := by
  rfl

theorem tailW_status (b : List Bytes) (e : Bool) (l : Option Nat) (r : Resp) (c : Cfg) :
    (tailW b e l r c).status = r.status := by
  unfold tailW
  by_cases hb : (c.head || bodiless r.status) = true
  · rw [if_pos hb]
    cases l with
    | none => rfl
    | some n =>
      dsimp only
      split <;> rfl
  · rw [if_neg hb]
    cases l <;> rfl

theorem wsgi_status (r : Resp) (c : Cfg) : (wsgi r c).status = r.status :=
  (tailW_status _ _ _ _ c).trans (renderBody_frame r c).1

/-- the part of a response the tails of `__call__` look at once the body has been chosen -/
def core (r : Resp) : Resp :=
  { r with text := none, data := none, media := none, stream := none, streamFail := none }

theorem core_status (r : Resp) : (core r).status = r.status := rfl
theorem core_headers (r : Resp) : (core r).headers = r.headers := rfl

theorem tailW_core (b : List Bytes) (e : Bool) (l : Option Nat) (r : Resp) (c : Cfg) :
    tailW b e l (core r) c = tailW b e l r c := by
  unfold tailW
  rw [core_status, core_headers]
  cases l with
  | none => rfl
  | some n =>
    dsimp only
    by_cases hb : (c.head || bodiless r.status) = true
    · rw [if_pos hb, if_pos hb]
      split <;> rfl
    · rw [if_neg hb, if_neg hb]
      rfl

theorem tailA_core (d : Bytes) (r : Resp) (c : Cfg) : tailA (some d) (core r) c = tailA (some d) r c := by
  unfold tailA
  rw [core_status, core_headers]
  simp only [Option.isSome_some, Bool.true_or, Bool.and_true]
  by_cases hb : (c.head || bodiless r.status) = true
  · rw [if_pos hb, if_pos hb]
    split <;> rfl
  · rw [if_neg hb, if_neg hb]
    rfl

/-- … in particular not at the stream -/
theorem tailW_stream (b : List Bytes) (e : Bool) (l : Option Nat) (r : Resp) (c : Cfg)
    (s : Option (StreamKind × List Bytes)) (f : Option Nat) :
    tailW b e l { r with stream := s, streamFail := f } c = tailW b e l r c :=
  (tailW_core b e l { r with stream := s, streamFail := f } c).symm.trans (tailW_core b e l r c)

theorem tailA_stream (d : Bytes) (r : Resp) (c : Cfg) (s : Option (StreamKind × List Bytes)) (f : Option Nat) :
    tailA (some d) { r with stream := s, streamFail := f } c = tailA (some d) r c :=
  (tailA_core d { r with stream := s, streamFail := f } c).symm.trans (tailA_core d r c)

/-- status and header list do not depend on the chunks handed over -/
theorem tailW_body_irrelevant (b b' : List Bytes) (e e' : Bool) (l : Option Nat) (r : Resp) (c : Cfg) :
    (tailW b e l r c).status = (tailW b' e' l r c).status ∧ (tailW b e l r c).headers = (tailW b' e' l r c).headers := by
  unfold tailW
  by_cases hb : (c.head || bodiless r.status) = true
  · rw [if_pos hb, if_pos hb]; exact ⟨rfl, rfl⟩
  · rw [if_neg hb, if_neg hb]; exact ⟨rfl, rfl⟩

/-- what is left of a response whose second rendering failed, WSGI: `body, length = [], 0` -/
def bare (r : Resp) : Resp := { r with text := none, data := none, media := none, stream := none }
/-- … ASGI: `data = b''` -/
def emptyData (r : Resp) : Resp := { r with text := none, data := some [], media := none }

/-- no render-time error: the ordinary finalization (all `Fz` theorems apply) -/
theorem wsgiE_ok (r : Resp) (mr : Bool) (h : Handler) (c : Cfg) (hr : raises r mr = false) :
    wsgiE r mr h c = some (wsgi r c) := by
  unfold wsgiE renderE
  simp only [hr, Bool.false_eq_true, if_false]
  rfl

theorem asgiE_ok (r : Resp) (mr : Bool) (h : Handler) (c : Cfg) (hr : raises r mr = false) :
    asgiE r mr h c = some (asgi r c) := by
  unfold asgiE renderE
  simp only [hr, Bool.false_eq_true, if_false]
  rfl

/-- the error handler's response renders: it is finalized like any other response -/
theorem wsgiE_handled (r : Resp) (mr : Bool) (h : Handler) (c : Cfg) (r2 : Resp) (mr2 : Bool)
    (hr : raises r mr = true) (hh : h (reset (renderBody r c).2) = some (r2, mr2)) (h2 : raises r2 mr2 = false) :
    wsgiE r mr h c = some (wsgi r2 c) := by
  unfold wsgiE renderE
  simp only [hr, if_true, hh, h2, Bool.false_eq_true, if_false]
  rfl

theorem asgiE_handled (r : Resp) (mr : Bool) (h : Handler) (c : Cfg) (r2 : Resp) (mr2 : Bool)
    (hr : raises r mr = true) (hh : h (reset (renderBody r c).2) = some (r2, mr2)) (h2 : raises r2 mr2 = false) :
    asgiE r mr h c = some (asgi r2 c) := by
  unfold asgiE renderE
  simp only [hr, if_true, hh, h2, Bool.false_eq_true, if_false]
  rfl

theorem renderBody_bare (r : Resp) (c : Cfg) : renderBody (bare r) c = (none, bare r) := rfl
theorem renderBody_emptyData (r : Resp) (c : Cfg) : renderBody (emptyData r) c = (some [], emptyData r) := rfl

theorem tailW_bare (r : Resp) (c : Cfg) : tailW [] false (some 0) r c = wsgi (bare r) c :=
  (tailW_core [] false (some 0) r c).symm.trans (tailW_core [] false (some 0) (bare r) c)

theorem tailA_emptyData (r : Resp) (c : Cfg) : tailA (some []) r c = asgi (emptyData r) c :=
  (tailA_core [] r c).symm.trans (tailA_core [] (emptyData r) c)

/-- rendering what the handler left raises too: the response goes out as if it had no body source at all -/
theorem wsgiE_twice (r : Resp) (mr : Bool) (h : Handler) (c : Cfg) (r2 : Resp) (mr2 : Bool)
    (hr : raises r mr = true) (hh : h (reset (renderBody r c).2) = some (r2, mr2)) (h2 : raises r2 mr2 = true) :
    wsgiE r mr h c = some (wsgi (bare (renderBody r2 c).2) c) := by
  unfold wsgiE renderE
  simp only [hr, if_true, hh, h2]
  rw [tailW_bare]

theorem asgiE_twice (r : Resp) (mr : Bool) (h : Handler) (c : Cfg) (r2 : Resp) (mr2 : Bool)
    (hr : raises r mr = true) (hh : h (reset (renderBody r c).2) = some (r2, mr2)) (h2 : raises r2 mr2 = true) :
    asgiE r mr h c = some (asgi (emptyData (renderBody r2 c).2) c) := by
  unfold asgiE renderE
  simp only [hr, if_true, hh, h2]
  rw [tailA_emptyData]

/-- the handler raised something unhandled: the exception leaves `__call__` on both stacks, nothing is sent -/
theorem unhandled (r : Resp) (mr : Bool) (h : Handler) (c : Cfg)
    (hr : raises r mr = true) (hh : h (reset (renderBody r c).2) = none) :
    wsgiE r mr h c = none ∧ asgiE r mr h c = none := by
  unfold wsgiE asgiE renderE
  simp only [hr, if_true, hh, and_self]

/-- the handler sees the response with text, data and media reset, the Content-Type possibly defaulted by the failed
    rendering, everything else as the responder left it -/
theorem handler_input (r : Resp) (c : Cfg) :
    (reset (renderBody r c).2).text = none ∧ (reset (renderBody r c).2).data = none ∧
    (reset (renderBody r c).2).media = none ∧ (reset (renderBody r c).2).stream = r.stream ∧
    (reset (renderBody r c).2).status = r.status ∧ (reset (renderBody r c).2).cookies = r.cookies := by
  obtain ⟨f1, f2, _, f4⟩ := renderBody_frame r c
  exact ⟨rfl, rfl, rfl, f2, f1, f4⟩

/-- **F17 repaired: after an exception in body rendering the error handler's body is what gets sent** (both stacks):
    the payload is the one the handler's response state provides by the usual precedence -/
theorem render_error_body_is_sent (r : Resp) (mr : Bool) (h : Handler) (c : Cfg) (r2 : Resp) (mr2 : Bool)
    (hr : raises r mr = true) (hh : h (reset (renderBody r c).2) = some (r2, mr2)) (h2 : raises r2 mr2 = false)
    (hhd : c.head = false) (hb : bodiless r2.status = false) :
    ∃ ow oa, wsgiE r mr h c = some ow ∧ asgiE r mr h c = some oa ∧
      ow.payload = expectedPayload r2 ∧ oa.payload = expectedPayload r2 ∧ ow.status = r2.status ∧ oa.status = r2.status := by
  refine ⟨_, _, wsgiE_handled r mr h c r2 mr2 hr hh h2, asgiE_handled r mr h c r2 mr2 hr hh h2,
    body_precedence r2 c hhd hb, asgi_body_precedence r2 c hhd hb, ?_, ?_⟩
  · exact wsgi_status r2 c
  · rw [← (wsgi_asgi_agree r2 c).1]; exact wsgi_status r2 c

/-- the two fallbacks after a second render failure (`body, length = [], 0` / `data = b''`) finalize alike: no payload,
    no stream failure, same status and header list (the responses differ in `data` only, which the tail does not look at) -/
theorem bare_emptyData (r : Resp) (c : Cfg) :
    (wsgi (bare r) c).payload = [] ∧ (asgi (emptyData r) c).payload = [] ∧
    (wsgi (bare r) c).iterErr = false ∧ (asgi (emptyData r) c).iterErr = false ∧
    (wsgi (bare r) c).status = (asgi (emptyData r) c).status ∧
    (wsgi (bare r) c).headers = (asgi (emptyData r) c).headers := by
  obtain ⟨hwp, hwe⟩ := wsgi_no_payload (bare r) c rfl rfl
  obtain ⟨hap, hae⟩ := wsgi_no_payload (emptyData r) c rfl rfl
  obtain ⟨a1, a2, a3, a4⟩ := wsgi_asgi_agree (emptyData r) c
  have hsh : (tailW [] false (some 0) (bare r) c).status = (tailW [[]] false (some 0) (emptyData r) c).status ∧
      (tailW [] false (some 0) (bare r) c).headers = (tailW [[]] false (some 0) (emptyData r) c).headers := by
    rw [← tailW_core _ _ _ (bare r), ← tailW_core _ _ _ (emptyData r)]
    exact tailW_body_irrelevant _ _ _ _ _ _ c
  exact ⟨hwp, a3 ▸ hap, hwe, a4 ▸ hae, hsh.1.trans a1, hsh.2.trans a2⟩

/-- **… and if rendering the handler's response raises too, the response has an empty body** - with a
    Content-Length of 0 when the response is one that carries a Content-Length -/
theorem render_error_twice_empty_body (r : Resp) (mr : Bool) (h : Handler) (c : Cfg) (r2 : Resp) (mr2 : Bool)
    (hr : raises r mr = true) (hh : h (reset (renderBody r c).2) = some (r2, mr2)) (h2 : raises r2 mr2 = true) :
    ∃ ow oa, wsgiE r mr h c = some ow ∧ asgiE r mr h c = some oa ∧ ow.payload = [] ∧ oa.payload = [] ∧
      ow.iterErr = false ∧ oa.iterErr = false ∧ ow.status = r2.status ∧ oa.status = r2.status ∧
      (c.head = false → bodiless r2.status = false →
        getKey ow.headers "content-length" = some "0" ∧ getKey oa.headers "content-length" = some "0") := by
  obtain ⟨f1, _, _, _⟩ := renderBody_frame r2 c
  obtain ⟨hwp, hap, hwe, hae, hst, _⟩ := bare_emptyData (renderBody r2 c).2 c
  have hws : (wsgi (bare (renderBody r2 c).2) c).status = r2.status := (wsgi_status _ c).trans f1
  refine ⟨_, _, wsgiE_twice r mr h c r2 mr2 hr hh h2, asgiE_twice r mr h c r2 mr2 hr hh h2, hwp, hap, hwe, hae, hws,
    hst.symm.trans hws, fun hhd hb => ?_⟩
  have hb' : bodiless (bare (renderBody r2 c).2).status = false := (congrArg bodiless f1).trans hb
  have e1 := content_length_exact (bare (renderBody r2 c).2) c hhd hb' (Or.inl rfl)
  have e2 := asgi_content_length_exact (emptyData (renderBody r2 c).2) c hhd hb' (Or.inr (Or.inr (Or.inl rfl)))
  rw [hwp] at e1
  rw [hap] at e2
  exact ⟨e1, e2⟩

/-- **Content-Length is exact on the render-error path as well** (both stacks): non-HEAD, body-bearing status of
    the handler's response, and the body not taken from a stream (rendering failed twice, or the handler's response
    has a rendered source or no stream) -/
theorem err_content_length_exact (r : Resp) (mr : Bool) (h : Handler) (c : Cfg) (r2 : Resp) (mr2 : Bool)
    (hr : raises r mr = true) (hh : h (reset (renderBody r c).2) = some (r2, mr2))
    (hhd : c.head = false) (hb : bodiless r2.status = false)
    (hs : raises r2 mr2 = true ∨ r2.stream = none ∨ r2.text.isSome ∨ r2.data.isSome ∨ r2.media.isSome) :
    ∃ ow oa, wsgiE r mr h c = some ow ∧ asgiE r mr h c = some oa ∧
      getKey ow.headers "content-length" = some (toString ow.payload.length) ∧
      getKey oa.headers "content-length" = some (toString oa.payload.length) := by
  cases h2 : raises r2 mr2 with
  | true =>
    obtain ⟨ow, oa, a, b, pw, pa, _, _, _, _, cl⟩ := render_error_twice_empty_body r mr h c r2 mr2 hr hh h2
    obtain ⟨c1, c2⟩ := cl hhd hb
    refine ⟨ow, oa, a, b, ?_, ?_⟩
    · rw [pw, c1]; rfl
    · rw [pa, c2]; rfl
  | false =>
    have hs' : r2.stream = none ∨ r2.text.isSome ∨ r2.data.isSome ∨ r2.media.isSome := by
      rcases hs with h | h
      · rw [h2] at h; cases h
      · exact h
    exact ⟨_, _, wsgiE_handled r mr h c r2 mr2 hr hh h2, asgiE_handled r mr h c r2 mr2 hr hh h2,
      content_length_exact r2 c hhd hb hs', asgi_content_length_exact r2 c hhd hb hs'⟩

example : raises { status := 200, text := none, data := none, media := some [1], stream := none, streamFail := none,
                   headers := [], cookies := [] } true = true := rfl

/-- **both stacks agree on the render-error path too**: an exception leaves both or neither, and status, header
    list, payload and stream-error propagation are the same -/
theorem err_wsgi_asgi_agree (r : Resp) (mr : Bool) (h : Handler) (c : Cfg) :
    (wsgiE r mr h c = none ∧ asgiE r mr h c = none) ∨
    ∃ ow oa, wsgiE r mr h c = some ow ∧ asgiE r mr h c = some oa ∧ ow.status = oa.status ∧
      ow.headers = oa.headers ∧ ow.payload = oa.payload ∧ ow.iterErr = oa.iterErr := by
  cases hr : raises r mr with
  | false =>
    exact Or.inr ⟨_, _, wsgiE_ok r mr h c hr, asgiE_ok r mr h c hr, wsgi_asgi_agree r c⟩
  | true =>
    cases hh : h (reset (renderBody r c).2) with
    | none => exact Or.inl (unhandled r mr h c hr hh)
    | some p =>
      obtain ⟨r2, mr2⟩ := p
      cases h2 : raises r2 mr2 with
      | false =>
        exact Or.inr ⟨_, _, wsgiE_handled r mr h c r2 mr2 hr hh h2, asgiE_handled r mr h c r2 mr2 hr hh h2,
          wsgi_asgi_agree r2 c⟩
      | true =>
        refine Or.inr ⟨_, _, wsgiE_twice r mr h c r2 mr2 hr hh h2, asgiE_twice r mr h c r2 mr2 hr hh h2, ?_⟩
        obtain ⟨hwp, hap, hwe, hae, hst, hhd⟩ := bare_emptyData (renderBody r2 c).2 c
        exact ⟨hst, hhd, hwp.trans hap.symm, hwe.trans hae.symm⟩

end Fe
