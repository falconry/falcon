import FalconModel.Getters
import FalconModel.QueryRef
/-! C08: theorems about the typed getters (`FalconModel/Getters.lean`), for ALL mappings and arguments, and their
    composition with `Qs.parseQS_eq_ref` into statements about the raw query string. -/
namespace Gt
open Qs (Str Val Params lookup valsOfVal)

/-! ### the specification: "the last value of that name, converted" -/

/-- the last of the values the mapping holds for `name` (none: the name is absent, or holds the empty list) -/
def lastValue (p : Params) (name : Str) : Option Str :=
  match lookup p name with
  | none => none
  | some v => (valsOfVal v).getLast?

/-- what every getter computes from what it `found` under the name (the scalar getters: the last value; the list
    getter: the whole entry), given its conversion `conv` (`none` = the value is rejected) -/
def spec (conv : τ → Option α) (inj : α → σ) (found : Option τ) (name : Str) (required : Bool) (store : Option (Store σ)) : Out α σ :=
  match found with
  | none => .ret (if required then .missing400 else .default) store
  | some s =>
    match conv s with
    | none => .ret .invalid400 store
    | some v => .ret (.value v) (doStore store name (inj v))

/-- `min_value <= v`, not checked when `min_value` is `None` -/
def geMin : Option Int → Int → Prop
  | some m, v => m ≤ v
  | none, _ => True
/-- `v <= max_value`, not checked when `max_value` is `None` -/
def leMax : Option Int → Int → Prop
  | some m, v => v ≤ m
  | none, _ => True
instance (mn : Option Int) (v : Int) : Decidable (geMin mn v) :=
  match mn with
  | some m => inferInstanceAs (Decidable (m ≤ v))
  | none => inferInstanceAs (Decidable True)
instance (mx : Option Int) (v : Int) : Decidable (leMax mx v) :=
  match mx with
  | some m => inferInstanceAs (Decidable (v ≤ m))
  | none => inferInstanceAs (Decidable True)

/-- `min_value <= v <= max_value`, a bound that is `None` not being checked -/
def inBounds (mn mx : Option Int) (v : Int) : Prop := geMin mn v ∧ leMax mx v
instance (mn mx : Option Int) (v : Int) : Decidable (inBounds mn mx v) := inferInstanceAs (Decidable (_ ∧ _))

theorem inBounds_iff (mn mx : Option Int) (v : Int) :
    inBounds mn mx v ↔ (∀ m, mn = some m → m ≤ v) ∧ (∀ m, mx = some m → v ≤ m) := by
  have hge : geMin mn v ↔ ∀ m, mn = some m → m ≤ v := by
    cases mn with
    | none => exact ⟨fun _ _ h => (nomatch h), fun _ => trivial⟩
    | some a => exact ⟨fun h _ e => Option.some.inj e ▸ h, fun h => h a rfl⟩
  have hle : leMax mx v ↔ ∀ m, mx = some m → v ≤ m := by
    cases mx with
    | none => exact ⟨fun _ _ h => (nomatch h), fun _ => trivial⟩
    | some a => exact ⟨fun h _ e => Option.some.inj e ▸ h, fun h => h a rfl⟩
  exact and_congr hge hle

def intConv (mn mx : Option Int) (s : Str) : Option Int :=
  match pyInt s with
  | none => none
  | some v => if inBounds mn mx v then some v else none

/-- the documented reading of `get_param_as_bool` -/
def boolConv (blankAsTrue : Bool) (s : Str) : Option Bool :=
  if s ∈ trueStrings then some true
  else if s ∈ falseStrings then some false
  else if s = [] then some blankAsTrue
  else none

theorem lastElem_eq (v : Val) : lastElem v = (valsOfVal v).getLast? := by
  cases v <;> rfl

theorem isEmptyList_iff (v : Val) : isEmptyList v = true ↔ valsOfVal v = [] := by
  cases v with
  | one s => exact ⟨fun h => (nomatch h), fun h => (nomatch h)⟩
  | many l =>
    cases l with
    | nil => exact ⟨fun _ => rfl, fun _ => rfl⟩
    | cons a r => exact ⟨fun h => (nomatch h), fun h => (nomatch h)⟩

theorem absent_eq (required : Bool) (store : Option (Store σ)) :
    (absent required store : Out α σ) = .ret (if required then .missing400 else .default) store := by
  cases required <;> rfl

/-- the guard-and-last-element prelude shared by `get_param`, `get_param_as_int`, `get_param_as_bool`: it hands the
    last value of the name to `body`; the `IndexError` exit is never taken.  So a getter whose `body` converts by
    `conv` is `spec conv` of the last value. -/
theorem prelude_eq_spec (conv : Str → Option α) (inj : α → σ) (p : Params) (name : Str) (required : Bool)
    (store : Option (Store σ)) (body : Str → Out α σ) (hbody : ∀ s, body s = spec conv inj (some s) name required store) :
    (match lookup p name with
      | some param =>
        if !isEmptyList param then
          match lastElem param with
          | none => Out.indexError
          | some s => body s
        else absent required store
      | none => absent required store) =
    spec conv inj (lastValue p name) name required store := by
  unfold lastValue
  cases lookup p name with
  | none => exact absent_eq required store
  | some v =>
    cases v with
    | one s => exact hbody s
    | many l =>
      cases l with
      | nil => exact absent_eq required store
      | cons a r =>
        show (match (a :: r).getLast? with | none => Out.indexError | some s => body s) =
          spec conv inj (a :: r).getLast? name required store
        rw [List.getLast?_eq_some_getLast (List.cons_ne_nil a r)]
        exact hbody _

theorem getParam_eq_spec (inj : Str → σ) (p : Params) (name : Str) (required : Bool) (store : Option (Store σ)) :
    getParam inj p name required store = spec some inj (lastValue p name) name required store :=
  prelude_eq_spec some inj p name required store _ fun _ => rfl

theorem bounds_iff (mn mx : Option Int) (v : Int) :
    (belowMin mn v = false ∧ aboveMax mx v = false) ↔ inBounds mn mx v := by
  refine and_congr ?_ ?_
  · cases mn with
    | none => exact ⟨fun _ => trivial, fun _ => rfl⟩
    | some m => exact decide_eq_false_iff_not.trans Int.not_lt
  · cases mx with
    | none => exact ⟨fun _ => trivial, fun _ => rfl⟩
    | some m => exact decide_eq_false_iff_not.trans Int.not_lt

theorem getInt_eq_spec (inj : Int → σ) (p : Params) (name : Str) (required : Bool) (mn mx : Option Int) (store : Option (Store σ)) :
    getInt inj p name required mn mx store = spec (intConv mn mx) inj (lastValue p name) name required store := by
  refine prelude_eq_spec (intConv mn mx) inj p name required store _ fun s => ?_
  unfold spec intConv
  dsimp only
  cases pyInt s with
  | none => rfl
  | some val =>
    dsimp only
    have hb := bounds_iff mn mx val
    cases h1 : belowMin mn val with
    | true => rw [h1] at hb; rw [if_neg fun h => Bool.noConfusion (hb.2 h).1]; rfl
    | false =>
      cases h2 : aboveMax mx val with
      | true => rw [h2] at hb; rw [if_neg fun h => Bool.noConfusion (hb.2 h).2]; rfl
      | false => rw [if_pos (hb.1 ⟨h1, h2⟩)]; rfl

theorem getBool_eq_spec (inj : Bool → σ) (p : Params) (name : Str) (required blank : Bool) (store : Option (Store σ)) :
    getBool inj p name required blank store = spec (boolConv blank) inj (lastValue p name) name required store := by
  refine prelude_eq_spec (boolConv blank) inj p name required store _ fun s => ?_
  unfold spec boolConv
  simp only [List.contains_iff_mem, List.isEmpty_iff]
  by_cases h1 : s ∈ trueStrings
  · rw [if_pos h1, if_pos h1]
  · rw [if_neg h1, if_neg h1]
    by_cases h2 : s ∈ falseStrings
    · rw [if_pos h2, if_pos h2]
    · rw [if_neg h2, if_neg h2]
      by_cases h3 : s = []
      · rw [if_pos h3, if_pos h3]
      · rw [if_neg h3, if_neg h3]

/-- `store.get(k)` -/
def storeGet (s : Store σ) (k : Str) : Option σ := (s.find? (·.1 == k)).map (·.2)

/-- what `storeSet` does to one entry when the key is already there -/
def upd (name : Str) (v : σ) (e : Str × σ) : Str × σ := if e.1 == name then (e.1, v) else e

theorem upd_fst (name : Str) (v : σ) (e : Str × σ) : (upd name v e).1 = e.1 := by
  unfold upd; cases e.1 == name <;> rfl

theorem upd_other (name : Str) (v : σ) (e : Str × σ) (h : e.1 ≠ name) : upd name v e = e :=
  if_neg fun he => h (eq_of_beq he)

theorem storeSet_eq_map {s : Store σ} {name : Str} (v : σ) (h : s.any (·.1 == name) = true) :
    storeSet s name v = s.map (upd name v) := if_pos h

theorem storeSet_eq_append {s : Store σ} {name : Str} (v : σ) (h : ¬ s.any (·.1 == name) = true) :
    storeSet s name v = s ++ [(name, v)] := if_neg h

theorem key_comp_upd (q : Str → Bool) (name : Str) (v : σ) : (fun e : Str × σ => q e.1) ∘ upd name v = fun e => q e.1 :=
  funext fun e => congrArg q (upd_fst name v e)

theorem storeGet_set_same (s : Store σ) (name : Str) (v : σ) : storeGet (storeSet s name v) name = some v := by
  unfold storeGet
  by_cases h : s.any (·.1 == name) = true
  · obtain ⟨e, he, hk⟩ := List.any_eq_true.1 h
    rw [storeSet_eq_map v h, List.find?_map, key_comp_upd (· == name)]
    cases hf : s.find? (·.1 == name) with
    | none => exact absurd hk (List.find?_eq_none.1 hf e he)
    | some x => exact congrArg (fun y => some (Prod.snd y)) (if_pos (List.find?_some hf))
  · rw [storeSet_eq_append v h, List.find?_append, List.find?_eq_none.2 fun x hx hxe => h (List.any_eq_true.2 ⟨x, hx, hxe⟩),
      List.find?_cons_of_pos (p := fun e : Str × σ => e.1 == name) (a := (name, v)) (l := []) (Qs.str_beq_self name)]
    rfl

theorem storeGet_set_other (s : Store σ) (name : Str) (v : σ) (k : Str) (hk : k ≠ name) :
    storeGet (storeSet s name v) k = storeGet s k := by
  unfold storeGet
  by_cases h : s.any (·.1 == name) = true
  · rw [storeSet_eq_map v h, List.find?_map, key_comp_upd (· == k)]
    cases hf : s.find? (·.1 == k) with
    | none => rfl
    | some x =>
      have hx : x.1 = k := eq_of_beq (List.find?_some (p := fun e : Str × σ => e.1 == k) hf)
      exact congrArg (fun y => some (Prod.snd y)) (upd_other name v x fun h => hk (hx.symm.trans h))
  · rw [storeSet_eq_append v h, List.find?_append, List.find?_cons_of_neg (p := fun e : Str × σ => e.1 == k) (a := (name, v))
      (l := []) (fun h => hk (eq_of_beq h).symm), List.find?_nil, Option.or_none]

/-- every entry under another key stays, in the same order -/
theorem storeSet_others (s : Store σ) (name : Str) (v : σ) :
    (storeSet s name v).filter (fun e => e.1 != name) = s.filter (fun e => e.1 != name) := by
  by_cases h : s.any (·.1 == name) = true
  · rw [storeSet_eq_map v h, List.filter_map, key_comp_upd (· != name)]
    exact (List.map_congr_left fun e he => upd_other name v e (bne_iff_ne.1 (List.mem_filter.1 he).2)).trans (List.map_id _)
  · rw [storeSet_eq_append v h, List.filter_append, List.filter_cons, bne_self_eq_false, if_neg Bool.false_ne_true]
    exact List.append_nil _

/-- the keys of the store: unchanged if `name` was a key, else `name` is appended -/
theorem storeSet_keys (s : Store σ) (name : Str) (v : σ) :
    (storeSet s name v).map (·.1) = if name ∈ s.map (·.1) then s.map (·.1) else s.map (·.1) ++ [name] := by
  have hiff : s.any (·.1 == name) = true ↔ name ∈ s.map (·.1) := by
    simp only [List.any_eq_true, List.mem_map, beq_iff_eq]
  by_cases h : s.any (·.1 == name) = true
  · rw [storeSet_eq_map v h, if_pos (hiff.1 h), List.map_map]
    exact List.map_congr_left fun e _ => upd_fst name v e
  · rw [storeSet_eq_append v h, if_neg fun hm => h (hiff.2 hm), List.map_append]; rfl

/-- the effect `if store is not None: store[name] = x` has on the `store` argument -/
structure StoreEffect (store store' : Option (Store σ)) (name : Str) (x : σ) : Prop where
  none_stays : store = none → store' = none
  set : ∀ st, store = some st → ∃ st', store' = some st' ∧ storeGet st' name = some x ∧
          (∀ k, k ≠ name → storeGet st' k = storeGet st k) ∧
          st'.filter (fun e => e.1 != name) = st.filter (fun e => e.1 != name) ∧
          st'.map (·.1) = (if name ∈ st.map (·.1) then st.map (·.1) else st.map (·.1) ++ [name])

theorem doStore_effect (store : Option (Store σ)) (name : Str) (x : σ) : StoreEffect store (doStore store name x) name x := by
  constructor
  · intro h; subst h; rfl
  · intro st h; subst h
    exact ⟨storeSet st name x, rfl, storeGet_set_same st name x, fun k hk => storeGet_set_other st name x k hk,
      storeSet_others st name x, storeSet_keys st name x⟩

theorem itemsOf_eq (v : Val) : itemsOf v = valsOfVal v := by cases v <;> rfl

theorem mapT_cons (t : Str → Option β) (x : Str) (l : List Str) :
    mapT t (x :: l) = (t x).bind fun v => (mapT t l).map (v :: ·) := by
  show (match t x with
    | none => none
    | some v => match mapT t l with
      | none => none
      | some vs => some (v :: vs)) = _
  cases t x with
  | none => rfl
  | some v => cases mapT t l <;> rfl

theorem mapT_some : ∀ (l : List Str), mapT (β := Str) some l = some l
  | [] => rfl
  | x :: r => by rw [mapT_cons, mapT_some r]; rfl

/-- without a transform the list getter is the transforming one with the identity -/
theorem getList_eq_getListT (inj : List Str → σ) (p : Params) (name : Str) (required : Bool) (store : Option (Store σ)) :
    getList inj p name required store = getListT some inj p name required store := by
  unfold getList getListT
  cases lookup p name with
  | none => rfl
  | some v => dsimp only; rw [mapT_some]

theorem getListT_eq_spec (t : Str → Option β) (inj : List β → σ) (p : Params) (name : Str) (required : Bool)
    (store : Option (Store σ)) :
    getListT t inj p name required store = spec (fun items => mapT t (itemsOf items)) inj (lookup p name) name required store := by
  unfold getListT spec
  cases lookup p name with
  | none => exact absent_eq required store
  | some items => dsimp only; cases mapT t (itemsOf items) <;> rfl

/-- `mapT t l = some r` iff every element converts, and `r` is the element-wise conversion -/
theorem mapT_eq_some (t : Str → Option β) : ∀ (l : List Str) (r : List β),
    mapT t l = some r ↔ l.map t = r.map some := by
  intro l
  induction l with
  | nil =>
    intro r
    cases r with
    | nil => exact ⟨fun _ => rfl, fun _ => rfl⟩
    | cons y r => exact ⟨fun h => (nomatch h), fun h => (nomatch h)⟩
  | cons x l ih =>
    intro r
    rw [mapT_cons, List.map_cons]
    cases t x with
    | none => cases r <;> simp
    | some v =>
      cases r with
      | nil => cases mapT t l <;> simp
      | cons y r => rw [List.map_cons, List.cons.injEq, ← ih r]; cases mapT t l <;> simp

theorem mapT_eq_none (t : Str → Option β) : ∀ (l : List Str), mapT t l = none ↔ ∃ x ∈ l, t x = none := by
  intro l
  induction l with
  | nil => exact ⟨fun h => (nomatch h), fun ⟨_, h, _⟩ => (nomatch h)⟩
  | cons x l ih =>
    simp only [mapT_cons, List.mem_cons, exists_eq_or_imp, ← ih]
    cases t x with
    | none => simp
    | some v => cases mapT t l <;> simp

/-- **last occurrence wins.**  Whatever the mapping, if the values it holds for `name` are `pre ++ [s]` (one scalar:
    `pre = []`), every scalar getter behaves exactly as on the mapping `{name: s}`: `get_param` returns `s`,
    `get_param_as_int` / `_as_bool` convert `s` and nothing else. -/
theorem getter_last_occurrence (p : Params) (name : Str) (v : Val) (pre : List Str) (s : Str)
    (hl : lookup p name = some v) (hv : valsOfVal v = pre ++ [s]) :
    (∀ (σ : Type) (inj : Str → σ) req store,
        getParam inj p name req store = .ret (.value s) (doStore store name (inj s))) ∧
    (∀ (σ : Type) (inj : Int → σ) req mn mx store,
        getInt inj p name req mn mx store = getInt inj [(name, .one s)] name req mn mx store) ∧
    (∀ (σ : Type) (inj : Bool → σ) req blank store,
        getBool inj p name req blank store = getBool inj [(name, .one s)] name req blank store) := by
  have h : lastValue p name = some s := by
    rw [lastValue, hl]; exact (congrArg List.getLast? hv).trans List.getLast?_concat
  have h' : lastValue [(name, .one s)] name = some s := by
    rw [lastValue, lookup, List.find?_cons_of_pos (p := fun e : Str × Val => e.1 == name) (Qs.str_beq_self name)]; rfl
  refine ⟨?_, ?_, ?_⟩
  · intro σ inj req store; rw [getParam_eq_spec, h]; rfl
  · intro σ inj req mn mx store; rw [getInt_eq_spec, getInt_eq_spec, h, h']
  · intro σ inj req blank store; rw [getBool_eq_spec, getBool_eq_spec, h, h']

-- a=1&b=x&a=2&a=3 parsed: the value used for `a` is 3
example : getInt (σ := Int) id [([97], .many [[49], [50], [51]]), ([98], .one [120])] [97] false none none (some []) =
    .ret (.value 3) (some [([97], 3)]) := by decide +kernel

/-- **bounds are exact.**  When the last value is the integer `v`: the getter returns `v` (and stores it) iff
    `min_value <= v <= max_value`, each bound being checked iff it is given — a bound of 0 is a bound —, and otherwise
    answers `HTTPInvalidParam` with the store untouched. -/
theorem getInt_bounds_exact (inj : Int → σ) (p : Params) (name : Str) (req : Bool) (mn mx : Option Int) (store : Option (Store σ))
    (s : Str) (v : Int) (hs : lastValue p name = some s) (hv : pyInt s = some v) :
    getInt inj p name req mn mx store =
      if inBounds mn mx v then .ret (.value v) (doStore store name (inj v)) else .ret .invalid400 store := by
  rw [getInt_eq_spec]
  unfold spec intConv
  rw [hs]
  dsimp only
  rw [hv]
  dsimp only
  by_cases hb : inBounds mn mx v
  · rw [if_pos hb, if_pos hb]
  · rw [if_neg hb, if_neg hb]

/-- the same as an equivalence: a value is returned iff it is the integer read and lies within the bounds -/
theorem getInt_value_iff (inj : Int → σ) (p : Params) (name : Str) (req : Bool) (mn mx : Option Int) (store : Option (Store σ))
    (s : Str) (v w : Int) (hs : lastValue p name = some s) (hv : pyInt s = some v) :
    (∃ st, getInt inj p name req mn mx store = .ret (.value w) st) ↔
      (w = v ∧ (∀ m, mn = some m → m ≤ v) ∧ (∀ m, mx = some m → v ≤ m)) := by
  rw [getInt_bounds_exact inj p name req mn mx store s v hs hv, ← inBounds_iff]
  by_cases hb : inBounds mn mx v
  · simp only [hb, if_true]
    constructor
    · rintro ⟨st, h⟩; injection h with h1 _; injection h1 with h1; exact ⟨h1.symm, trivial⟩
    · rintro ⟨rfl, _⟩; exact ⟨_, rfl⟩
  · simp only [hb, if_false]
    constructor
    · rintro ⟨st, h⟩; injection h with h1 _; cases h1
    · rintro ⟨_, h⟩; exact h.elim

/-- not an integer for `int()`: `HTTPInvalidParam`, whatever the bounds -/
theorem getInt_not_int (inj : Int → σ) (p : Params) (name : Str) (req : Bool) (mn mx : Option Int) (store : Option (Store σ))
    (s : Str) (hs : lastValue p name = some s) (hv : pyInt s = none) :
    getInt inj p name req mn mx store = .ret .invalid400 store := by
  rw [getInt_eq_spec]
  unfold spec intConv
  rw [hs]
  dsimp only
  rw [hv]

-- a bound equal to 0 is honoured: ?n=5 with max_value=0 is rejected, ?n=0 with min_value=0, max_value=0 is accepted,
-- ?n=-1 with min_value=0 is rejected
example : getInt (σ := Int) id [([110], .one [53])] [110] false none (some 0) (some []) = .ret .invalid400 (some []) := by decide +kernel
example : getInt (σ := Int) id [([110], .one [48])] [110] false (some 0) (some 0) (some []) = .ret (.value 0) (some [([110], 0)]) := by decide +kernel
example : getInt (σ := Int) id [([110], .one [45, 49])] [110] true (some 0) none none = .ret .invalid400 none := by decide +kernel
example : inBounds (some 0) (some 0) 0 ∧ ¬ inBounds none (some 0) 5 ∧ ¬ inBounds (some 0) none (-1) := by decide +kernel

/-- what the four getters promise about `required`, `default` and `store`, as a predicate on the outcome `out` of a
    call with arguments `required`, `store`; `found` = the parameter counts as present -/
structure Promise (found : Prop) (name : Str) (required : Bool) (store : Option (Store σ)) (inj : α → σ) (out : Out α σ) : Prop where
  /-- missing and required: `HTTPMissingParam`, the store is not touched -/
  missing_required : ¬ found → required = true → out = .ret .missing400 store
  /-- missing, not required: the `default` argument is returned, the store is not touched -/
  missing_default : ¬ found → required = false → out = .ret .default store
  /-- found: either a value `v` is returned and `store[name] = v` is the only change to the store (`StoreEffect`),
      or `HTTPInvalidParam` is raised and the store is not touched; `required` and `default` play no role -/
  found_value : found → out = .ret .invalid400 store ∨
      ∃ v st', out = .ret (.value v) st' ∧ st' = doStore store name (inj v) ∧ StoreEffect store st' name (inj v)

theorem spec_promise (conv : τ → Option α) (inj : α → σ) (found : Option τ) (name : Str) (required : Bool) (store : Option (Store σ)) :
    Promise (found ≠ none) name required store inj (spec conv inj found name required store) := by
  unfold spec
  cases found with
  | none => exact ⟨fun _ hr => by rw [hr]; rfl, fun _ hr => by rw [hr]; rfl, fun h => absurd rfl h⟩
  | some s =>
    refine ⟨fun h => absurd (fun h0 => (nomatch h0)) h, fun h => absurd (fun h0 => (nomatch h0)) h, fun _ => ?_⟩
    dsimp only
    cases conv s with
    | none => exact Or.inl rfl
    | some v => exact Or.inr ⟨v, _, rfl, rfl, doStore_effect store name (inj v)⟩

theorem lastValue_ne_none_iff (p : Params) (name : Str) :
    lastValue p name ≠ none ↔ ∃ v, lookup p name = some v ∧ valsOfVal v ≠ [] := by
  unfold lastValue
  cases lookup p name with
  | none => exact ⟨fun h => absurd rfl h, fun ⟨_, h, _⟩ => (nomatch h)⟩
  | some v =>
    exact ⟨fun h => ⟨v, rfl, fun h0 => h (List.getLast?_eq_none_iff.2 h0)⟩,
      fun ⟨_, h, hne⟩ h0 => hne (Option.some.inj h ▸ List.getLast?_eq_none_iff.1 h0)⟩

/-- **required / default / store**, for every mapping and all arguments.  For `get_param`, `get_param_as_int`,
    `get_param_as_bool` "found" means: the name is in the mapping with at least one value; for `get_param_as_list`:
    the name is in the mapping. -/
theorem getter_required_default_store (p : Params) (name : Str) (required : Bool) :
    (∀ (σ : Type) (inj : Str → σ) store,
      Promise (lastValue p name ≠ none) name required store inj (getParam inj p name required store)) ∧
    (∀ (σ : Type) (inj : Int → σ) mn mx store,
      Promise (lastValue p name ≠ none) name required store inj (getInt inj p name required mn mx store)) ∧
    (∀ (σ : Type) (inj : Bool → σ) blank store,
      Promise (lastValue p name ≠ none) name required store inj (getBool inj p name required blank store)) ∧
    (∀ (σ β : Type) (t : Str → Option β) (inj : List β → σ) store,
      Promise (lookup p name ≠ none) name required store inj (getListT t inj p name required store)) ∧
    (∀ (σ : Type) (inj : List Str → σ) store,
      Promise (lookup p name ≠ none) name required store inj (getList inj p name required store)) := by
  refine ⟨?_, ?_, ?_, ?_, ?_⟩
  · intro σ inj store; rw [getParam_eq_spec]; exact spec_promise _ _ _ _ _ _
  · intro σ inj mn mx store; rw [getInt_eq_spec]; exact spec_promise _ _ _ _ _ _
  · intro σ inj blank store; rw [getBool_eq_spec]; exact spec_promise _ _ _ _ _ _
  · intro σ β t inj store; rw [getListT_eq_spec]; exact spec_promise _ _ _ _ _ _
  · intro σ inj store; rw [getList_eq_getListT, getListT_eq_spec]; exact spec_promise _ _ _ _ _ _

theorem spec_outcomes (conv : τ → Option α) (inj : α → σ) (found : Option τ) (name : Str) (required : Bool) (store : Option (Store σ)) :
    ∃ r st, spec conv inj found name required store = .ret r st ∧ (st = store ∨ ∃ v, r = .value v ∧ st = doStore store name (inj v)) := by
  unfold spec
  cases found with
  | none => exact ⟨_, _, rfl, Or.inl rfl⟩
  | some s =>
    dsimp only
    cases conv s with
    | none => exact ⟨_, _, rfl, Or.inl rfl⟩
    | some v => exact ⟨_, _, rfl, Or.inr ⟨v, rfl, rfl⟩⟩

/-- `get_param` never answers `HTTPInvalidParam`; a present `get_param_as_list` without transform always returns -/
theorem getParam_found (inj : Str → σ) (p : Params) (name : Str) (req : Bool) (store : Option (Store σ)) (s : Str)
    (hs : lastValue p name = some s) : getParam inj p name req store = .ret (.value s) (doStore store name (inj s)) := by
  rw [getParam_eq_spec, hs]; rfl

/-- **only the documented outcomes.**  No call of a getter, on any mapping with any arguments, escapes with an
    `IndexError`: it returns a value, returns the default, or raises one of the two 400 errors; the store is either
    untouched or received exactly the returned value.  In particular (F06) a name whose value is the EMPTY LIST — which
    `parse_query_string` produces for `?a=,` with CSV parsing on and blank values dropped — is "missing" for the scalar
    getters and the empty list for `get_param_as_list`. -/
theorem getter_only_documented_outcomes (p : Params) (name : Str) (required : Bool) :
    (∀ (σ : Type) (inj : Str → σ) store, ∃ r st, getParam inj p name required store = .ret r st ∧
        (st = store ∨ ∃ v, r = .value v ∧ st = doStore store name (inj v))) ∧
    (∀ (σ : Type) (inj : Int → σ) mn mx store, ∃ r st, getInt inj p name required mn mx store = .ret r st ∧
        (st = store ∨ ∃ v, r = .value v ∧ st = doStore store name (inj v))) ∧
    (∀ (σ : Type) (inj : Bool → σ) blank store, ∃ r st, getBool inj p name required blank store = .ret r st ∧
        (st = store ∨ ∃ v, r = .value v ∧ st = doStore store name (inj v))) ∧
    (∀ (σ β : Type) (t : Str → Option β) (inj : List β → σ) store, ∃ r st, getListT t inj p name required store = .ret r st ∧
        (st = store ∨ ∃ v, r = .value v ∧ st = doStore store name (inj v))) ∧
    (lookup p name = some (.many []) →
      (∀ (σ : Type) (inj : Str → σ) store,
          getParam inj p name required store = .ret (if required then .missing400 else .default) store) ∧
      (∀ (σ : Type) (inj : Int → σ) mn mx store,
          getInt inj p name required mn mx store = .ret (if required then .missing400 else .default) store) ∧
      (∀ (σ : Type) (inj : Bool → σ) blank store,
          getBool inj p name required blank store = .ret (if required then .missing400 else .default) store) ∧
      (∀ (σ : Type) (inj : List Str → σ) store,
          getList inj p name required store = .ret (.value []) (doStore store name (inj [])))) := by
  have hl : lookup p name = some (.many []) → lastValue p name = none := fun he => by rw [lastValue, he]; rfl
  refine ⟨?_, ?_, ?_, ?_, fun he => ⟨?_, ?_, ?_, ?_⟩⟩
  · intro σ inj store; rw [getParam_eq_spec]; exact spec_outcomes _ _ _ _ _ _
  · intro σ inj mn mx store; rw [getInt_eq_spec]; exact spec_outcomes _ _ _ _ _ _
  · intro σ inj blank store; rw [getBool_eq_spec]; exact spec_outcomes _ _ _ _ _ _
  · intro σ β t inj store; rw [getListT_eq_spec]; exact spec_outcomes _ _ _ _ _ _
  · intro σ inj store; rw [getParam_eq_spec, hl he]; rfl
  · intro σ inj mn mx store; rw [getInt_eq_spec, hl he]; rfl
  · intro σ inj blank store; rw [getBool_eq_spec, hl he]; rfl
  · intro σ inj store; rw [getList, he]; rfl

/-- regression witness for F06: without the guard `params[name] != []` (the code before fix 208c75d) the mapping
    `{'a': []}` makes `get_param('a')` escape with `IndexError` -/
theorem f06_witness : getParamPinned (σ := Str) id [([97], .many [])] [97] false none = .indexError := by decide +kernel

theorem tables_disjoint : (∀ s ∈ trueStrings, s ∉ falseStrings ∧ s ≠ []) ∧ (∀ s ∈ falseStrings, s ∉ trueStrings ∧ s ≠ []) := by decide +kernel

/-- **the boolean reading is exactly the documented table**: `True` for `true True t yes y 1 on` (and for the empty
    string iff `blank_as_true`), `False` for `false False f no n 0 off` (and for the empty string iff not
    `blank_as_true`), rejected otherwise — comparison is by equality, so `TRUE`, ` true`, `2` … are rejected -/
theorem getBool_table_exact (blank : Bool) (s : Str) :
    (boolConv blank s = some true ↔ (s ∈ trueStrings ∨ (s = [] ∧ blank = true))) ∧
    (boolConv blank s = some false ↔ (s ∈ falseStrings ∨ (s = [] ∧ blank = false))) ∧
    (boolConv blank s = none ↔ (s ∉ trueStrings ∧ s ∉ falseStrings ∧ s ≠ [])) := by
  unfold boolConv
  by_cases h1 : s ∈ trueStrings
  · have := tables_disjoint.1 s h1
    simp [h1, this.1, this.2]
  · by_cases h2 : s ∈ falseStrings
    · have := tables_disjoint.2 s h2
      simp [h1, h2, this.2]
    · by_cases h3 : s = []
      · subst h3; cases blank <;> simp [h1, h2]
      · simp [h1, h2, h3]

/-- the getter itself: for a found parameter whose last value is `s` -/
theorem getBool_found (inj : Bool → σ) (p : Params) (name : Str) (req blank : Bool) (store : Option (Store σ)) (s : Str)
    (hs : lastValue p name = some s) :
    getBool inj p name req blank store =
      match boolConv blank s with
      | some b => .ret (.value b) (doStore store name (inj b))
      | none => .ret .invalid400 store := by
  rw [getBool_eq_spec, hs]; unfold spec; dsimp only; cases boolConv blank s <;> rfl

example : boolConv true [84, 114, 117, 101] = some true ∧ boolConv true [84, 82, 85, 69] = none ∧
    boolConv false [] = some false ∧ boolConv true [] = some true ∧ boolConv true [111, 102, 102] = some false := by decide +kernel

/-! ### end to end: from the raw query string (composition with `Qs.parseQS_eq_ref`) -/
open Qs (parseQS parseRef entries keysOf valOf Entry)

/-- every value the query string gives for `name`, in order: the fields are split on '&', each at its first '=',
    blank fields dropped per `keep_blank_qs_values`, names and values percent-decoded, a value with a literal comma
    split when `auto_parse_qs_csv` is on (`Qs.fieldEntry`) -/
def allVals (bs : Qs.Bytes) (kb csv : Bool) (name : Str) : List Str :=
  ((entries bs kb csv).filter (·.key == name)).flatMap (·.vals)

/-- some field of the query string carries this name (possibly with no value left: `?a=,`) -/
def named (bs : Qs.Bytes) (kb csv : Bool) (name : Str) : Prop := ∃ e ∈ entries bs kb csv, e.key = name

theorem lookup_parseQS (bs : Qs.Bytes) (kb csv : Bool) (name : Str) :
    lookup (parseQS bs kb csv) name =
      if name ∈ keysOf (entries bs kb csv) then some (valOf (entries bs kb csv) name) else none := by
  rw [Qs.parseQS_eq_ref]; unfold parseRef; exact Qs.lookup_map _ _ _

theorem lookup_parseQS_isSome (bs : Qs.Bytes) (kb csv : Bool) (name : Str) :
    lookup (parseQS bs kb csv) name ≠ none ↔ named bs kb csv name := by
  unfold named
  rw [lookup_parseQS, ← Qs.mem_keysOf]
  by_cases hm : name ∈ keysOf (entries bs kb csv)
  · rw [if_pos hm]; exact ⟨fun _ => hm, fun _ h => (nomatch h)⟩
  · rw [if_neg hm]; exact ⟨fun h => absurd rfl h, fun h => absurd h hm⟩

/-- the value the scalar getters use is the LAST value the query string gives for the name -/
theorem lastValue_parseQS (bs : Qs.Bytes) (kb csv : Bool) (name : Str) :
    lastValue (parseQS bs kb csv) name = (allVals bs kb csv name).getLast? := by
  unfold lastValue allVals
  rw [lookup_parseQS]
  by_cases hm : name ∈ keysOf (entries bs kb csv)
  · rw [if_pos hm]; exact congrArg List.getLast? (Qs.valsOfVal_valOf _ _)
  · rw [if_neg hm, Qs.filter_key_eq_nil hm]; rfl

/-- **end to end, `get_param`**: on the mapping parsed from ANY query string the getter returns the last value the query
    string gives for the name; with no value: the default, or `HTTPMissingParam` if required -/
theorem getParam_of_query (inj : Str → σ) (bs : Qs.Bytes) (kb csv : Bool) (name : Str) (req : Bool) (store : Option (Store σ)) :
    getParam inj (parseQS bs kb csv) name req store =
      match (allVals bs kb csv name).getLast? with
      | some s => .ret (.value s) (doStore store name (inj s))
      | none => .ret (if req then .missing400 else .default) store := by
  rw [getParam_eq_spec, lastValue_parseQS]; unfold spec
  cases (allVals bs kb csv name).getLast? <;> rfl

/-- **end to end, `get_param_as_int`**: the last value is read by `int()`; within the given bounds it is returned and
    stored, otherwise (not an integer / out of bounds) `HTTPInvalidParam`; with no value: default / `HTTPMissingParam` -/
theorem getInt_of_query (inj : Int → σ) (bs : Qs.Bytes) (kb csv : Bool) (name : Str) (req : Bool) (mn mx : Option Int)
    (store : Option (Store σ)) :
    getInt inj (parseQS bs kb csv) name req mn mx store =
      match (allVals bs kb csv name).getLast? with
      | some s =>
        (match pyInt s with
         | some v => if inBounds mn mx v then .ret (.value v) (doStore store name (inj v)) else .ret .invalid400 store
         | none => .ret .invalid400 store)
      | none => .ret (if req then .missing400 else .default) store := by
  rw [← lastValue_parseQS]
  cases hs : lastValue (parseQS bs kb csv) name with
  | none => rw [getInt_eq_spec, hs]; rfl
  | some s =>
    dsimp only
    cases hv : pyInt s with
    | none => exact getInt_not_int inj _ name req mn mx store s hs hv
    | some v => exact getInt_bounds_exact inj _ name req mn mx store s v hs hv

/-- **end to end, `get_param_as_bool`** -/
theorem getBool_of_query (inj : Bool → σ) (bs : Qs.Bytes) (kb csv : Bool) (name : Str) (req blank : Bool)
    (store : Option (Store σ)) :
    getBool inj (parseQS bs kb csv) name req blank store =
      match (allVals bs kb csv name).getLast? with
      | some s =>
        (match boolConv blank s with
         | some b => .ret (.value b) (doStore store name (inj b))
         | none => .ret .invalid400 store)
      | none => .ret (if req then .missing400 else .default) store := by
  rw [← lastValue_parseQS]
  cases hs : lastValue (parseQS bs kb csv) name with
  | none => rw [getBool_eq_spec, hs]; rfl
  | some s => exact getBool_found inj _ name req blank store s hs

/-- **end to end, `get_param_as_list`**: if some field carries the name, ALL its values in query-string order
    (converted element-wise when a transform is given; one failure rejects the whole parameter) -/
theorem getListT_of_query (t : Str → Option β) (inj : List β → σ) (bs : Qs.Bytes) (kb csv : Bool) (name : Str) (req : Bool)
    (store : Option (Store σ)) :
    getListT t inj (parseQS bs kb csv) name req store =
      if name ∈ keysOf (entries bs kb csv) then
        (match mapT t (allVals bs kb csv name) with
         | some r => .ret (.value r) (doStore store name (inj r))
         | none => .ret .invalid400 store)
      else .ret (if req then .missing400 else .default) store := by
  rw [getListT_eq_spec, lookup_parseQS]
  unfold spec allVals
  by_cases hm : name ∈ keysOf (entries bs kb csv)
  · rw [if_pos hm, if_pos hm]
    dsimp only
    rw [itemsOf_eq, Qs.valsOfVal_valOf]
    cases mapT t _ <;> rfl
  · rw [if_neg hm, if_neg hm]

theorem getList_of_query (inj : List Str → σ) (bs : Qs.Bytes) (kb csv : Bool) (name : Str) (req : Bool) (store : Option (Store σ)) :
    getList inj (parseQS bs kb csv) name req store =
      if name ∈ keysOf (entries bs kb csv) then .ret (.value (allVals bs kb csv name)) (doStore store name (inj (allVals bs kb csv name)))
      else .ret (if req then .missing400 else .default) store := by
  rw [getList_eq_getListT, getListT_of_query, mapT_some]

-- "a=1&b=x&a=%32&a=3,4" with CSV on: the values of `a` are 1, 2, 3, 4; the scalar getters use 4
example : allVals [97,61,49,38,98,61,120,38,97,61,37,51,50,38,97,61,51,44,52] false true [97] = [[49], [50], [51], [52]] := by decide +kernel
example : getInt (σ := Int) id (parseQS [97,61,49,38,98,61,120,38,97,61,37,51,50,38,97,61,51,44,52] false true) [97] false (some 4) (some 4) (some []) =
    .ret (.value 4) (some [([97], 4)]) := by decide +kernel
-- F06: "a=," with CSV on and blanks dropped parses to {'a': []}: the scalar getters see a missing parameter, the list getter []
example : (parseQS [97, 61, 44] false true == [([97], .many [])]) = true := by decide +kernel
example : getInt (σ := Int) id (parseQS [97, 61, 44] false true) [97] true none none none = .ret .missing400 none := by decide +kernel
example : getList (σ := List Str) id (parseQS [97, 61, 44] false true) [97] true none = .ret (.value []) none := by decide +kernel

/-! ### `int()` on examples: whitespace, signs, underscores, non-ASCII decimal digits, and what is rejected -/
-- "12", " -1_0 ", "+7", "١٢" (Arabic-Indic), "1١" (mixed scripts), "０" (fullwidth zero)
example : pyInt [49, 50] = some 12 ∧ pyInt [32, 45, 49, 95, 48, 160] = some (-10) ∧ pyInt [43, 55] = some 7 ∧
    pyInt [1633, 1634] = some 12 ∧ pyInt [49, 1633] = some 11 ∧ pyInt [65296] = some 0 := by decide +kernel
-- "", "-", "1__0", "_1", "1_", "+ 1", "1 2", "\x1c5" (a separator `str.strip` removes but `int` does not), "0x10", "1.0", "−1" (U+2212)
example : pyInt [] = none ∧ pyInt [45] = none ∧ pyInt [49, 95, 95, 48] = none ∧ pyInt [95, 49] = none ∧ pyInt [49, 95] = none ∧
    pyInt [43, 32, 49] = none ∧ pyInt [49, 32, 50] = none ∧ pyInt [28, 53] = none ∧ pyInt [48, 120, 49, 48] = none ∧
    pyInt [49, 46, 48] = none ∧ pyInt [8722, 49] = none := by decide +kernel

/-- the number a list of decimal digits (most significant first) denotes -/
def ofDigits (ds : List Nat) : Nat := ds.foldl (fun acc d => 10 * acc + d) 0

theorem decimalOf_ascii : ∀ d, d < 10 → decimalOf (48 + d) = some d := by decide +kernel
theorem isIntWs_ascii_digit : ∀ d, d < 10 → isIntWs (48 + d) = false := by decide +kernel

theorem digitsGo_ascii : ∀ (ds : List Nat) (acc : Nat) (last : Bool), (∀ d ∈ ds, d < 10) → (ds ≠ [] ∨ last = true) →
    digitsGo (ds.map (48 + ·)) acc last = some (ds.foldl (fun acc d => 10 * acc + d) acc) := by
  intro ds
  induction ds with
  | nil =>
    intro acc last _ h
    rcases h with h | h
    · exact absurd rfl h
    · subst h; rfl
  | cons d r ih =>
    intro acc last hd _
    obtain ⟨hlt, hr⟩ := List.forall_mem_cons.1 hd
    rw [List.map_cons, digitsGo, decimalOf_ascii d hlt]
    exact ih _ true hr (Or.inr rfl)

theorem dropWhile_noop (p : Nat → Bool) : ∀ (l : List Nat), (∀ c ∈ l, p c = false) → l.dropWhile p = l
  | [], _ => rfl
  | c :: _, h => List.dropWhile_cons_of_neg (Bool.eq_false_iff.1 (h c List.mem_cons_self))

/-- nothing is stripped from a text without whitespace -/
theorem stripWs_noop (s : Str) (h : ∀ c ∈ s, isIntWs c = false) : stripWs s = s := by
  unfold stripWs
  rw [dropWhile_noop isIntWs s h, dropWhile_noop isIntWs s.reverse fun c hc => h c (List.mem_reverse.1 hc),
    List.reverse_reverse]

theorem ascii_no_ws (ds : List Nat) (hd : ∀ d ∈ ds, d < 10) : ∀ c ∈ ds.map (48 + ·), isIntWs c = false := by
  intro c hc
  obtain ⟨x, hx, rfl⟩ := List.mem_map.1 hc
  exact isIntWs_ascii_digit x (hd x hx)

theorem digitCount_ascii (ds : List Nat) (hd : ∀ d ∈ ds, d < 10) : digitCount (ds.map (48 + ·)) = ds.length := by
  unfold digitCount
  rw [List.filter_eq_self.2, List.length_map]
  intro c hc
  obtain ⟨x, hx, rfl⟩ := List.mem_map.1 hc
  rw [decimalOf_ascii x (hd x hx)]; rfl

/-- at most 4300 ASCII digits pass the digit limit and are read as the number they denote -/
theorem digits_read (ds : List Nat) (hne : ds ≠ []) (hd : ∀ d ∈ ds, d < 10) (hl : ds.length ≤ 4300) :
    ¬ digitCount (ds.map (48 + ·)) > maxStrDigits ∧ digitsGo (ds.map (48 + ·)) 0 false = some (ofDigits ds) :=
  ⟨digitCount_ascii ds hd ▸ Nat.not_lt.2 hl, digitsGo_ascii ds 0 false hd (Or.inl hne)⟩

theorem pyInt_unsigned (c : Nat) (r : Str) (h45 : c ≠ 45) (h43 : c ≠ 43) (hs : stripWs (c :: r) = c :: r) :
    pyInt (c :: r) =
      if digitCount (c :: r) > maxStrDigits then none else (digitsGo (c :: r) 0 false).map fun n => (n : Int) := by
  unfold pyInt
  rw [hs]
  split
  · next heq => exact absurd (List.cons.inj heq).1 h45
  · next heq => exact absurd (List.cons.inj heq).1 h43
  · rfl

/-- **`int()` reads plain decimal numerals**: for every non-empty list of at most 4300 ASCII digits, `int` of the text
    is the number the digits denote -/
theorem pyInt_ascii (ds : List Nat) (hne : ds ≠ []) (hd : ∀ d ∈ ds, d < 10) (hl : ds.length ≤ 4300) :
    pyInt (ds.map (48 + ·)) = some (ofDigits ds : Int) := by
  obtain ⟨hcount, hgo⟩ := digits_read ds hne hd hl
  have hstrip := stripWs_noop _ (ascii_no_ws ds hd)
  cases ds with
  | nil => exact absurd rfl hne
  | cons d r =>
    have h48 : 48 ≤ 48 + d := Nat.le_add_right 48 d
    rw [List.map_cons] at hgo hcount hstrip ⊢
    rw [pyInt_unsigned (48 + d) _ (Nat.ne_of_gt (Nat.lt_of_lt_of_le (by decide) h48))
      (Nat.ne_of_gt (Nat.lt_of_lt_of_le (by decide) h48)) hstrip, if_neg hcount, hgo]
    rfl

/-- the same with a minus sign in front -/
theorem pyInt_ascii_neg (ds : List Nat) (hne : ds ≠ []) (hd : ∀ d ∈ ds, d < 10) (hl : ds.length ≤ 4300) :
    pyInt (45 :: ds.map (48 + ·)) = some (-(ofDigits ds : Int)) := by
  obtain ⟨hcount, hgo⟩ := digits_read ds hne hd hl
  have hs : stripWs (45 :: ds.map (48 + ·)) = 45 :: ds.map (48 + ·) :=
    stripWs_noop _ fun c hc => (List.mem_cons.1 hc).elim (fun h => h ▸ rfl) (ascii_no_ws ds hd c)
  unfold pyInt
  rw [hs]
  show (if digitCount (ds.map (48 + ·)) > maxStrDigits then none
    else (digitsGo (ds.map (48 + ·)) 0 false).map fun n => -(n : Int)) = _
  rw [if_neg hcount, hgo]
  rfl

/-- consequence for the getter: `?n=<decimal numeral of v>` (as the last value of `n`) is returned iff `v` is within the bounds -/
theorem getInt_decimal (inj : Int → σ) (p : Qs.Params) (name : Str) (req : Bool) (mn mx : Option Int) (store : Option (Store σ))
    (ds : List Nat) (hne : ds ≠ []) (hd : ∀ d ∈ ds, d < 10) (hl : ds.length ≤ 4300)
    (hs : lastValue p name = some (ds.map (48 + ·))) :
    getInt inj p name req mn mx store =
      if inBounds mn mx (ofDigits ds) then .ret (.value (ofDigits ds)) (doStore store name (inj (ofDigits ds)))
      else .ret .invalid400 store :=
  getInt_bounds_exact inj p name req mn mx store _ _ hs (pyInt_ascii ds hne hd hl)

example : pyInt [49, 50, 48] = some 120 := pyInt_ascii [1, 2, 0] (by decide) (by decide) (by decide)

end Gt
