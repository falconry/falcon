import FalconModel.RespProps
import FalconModel.UriStrProofs
import FalconModel.RespHeadersProofs
/-! C15, last clause - proofs about the typed header properties and `append_link` (`Rp`, RespProps.lean).

    The URI-bearing helpers (Location, Content-Location, the Link target / anchor / extension relation types / title*, the
    `filename*` of downloadable_as / viewable_as) emit visible ASCII that percent-decodes to the original (or is the original,
    when that already looked escaped to the check-escaped encoders), by composing the
    proved str-level encoder theorems of C10 (`Us.decode_encodeStr`, `Us.encodeStr_charset`, `Us.ascii_of_looksEscapedS`, …):
    `location_ascii_and_decodes_back`, `link_target_reads_back`, `link_anchor_reads_back`, `rel_ext_single`, `rel_ext_members`,
    `title_star_decodes_back`, `filename_star_decodes_back`, `link_value_ascii`.  The quoted-string escaping of an ASCII
    filename (fix 38a4696) is inverted by an RFC 9110 quoted-string reader for EVERY str (`unquoteQS_escapeQS`,
    `ascii_filename_quoted_string_reads_back`).  The remaining transforms: `etag_quoting_idempotent`, `header_value_list_join`,
    `content_range_format_exact`, `content_range_reads_back`; the descriptors on the `Hd` store:
    `property_set_get_roundtrip`, `property_none_deletes`, `property_del`, `propAssign_eq_applyOp`, `appendLink_eq_appendHeader`. -/
namespace Rp
open Us

/-- visible ASCII: neither a control character nor a space nor DEL nor beyond -/
def Visible (c : Nat) : Prop := 0x21 ≤ c ∧ c ≤ 0x7E
instance (c : Nat) : Decidable (Visible c) := by unfold Visible; exact inferInstance

theorem allowedUri_visible (b : UInt8) (hb : Uri.allowedUri b = true) : Visible b.toNat :=
  ⟨(Uri.allowedUri_range b hb).1, (Uri.allowedUri_range b hb).2.1⟩

/-- a string without '%' is one token -/
theorem splitPctS_no37 (s : Str) (h : ∀ c ∈ s, c ≠ 37) : splitPctS s = [s] := by
  induction s with
  | nil => rfl
  | cons c cs ih =>
    rw [splitPctS, if_neg (fun e => h c List.mem_cons_self (eq_of_beq e)), ih (fun x hx => h x (List.mem_cons_of_mem _ hx))]

/-- **the two cases of a check-escaped encoder** -/
theorem encodeCheckStr_escaped (allowed : UInt8 → Bool) (s : Str) (h : looksEscapedS allowed s = true) : encodeCheckStr allowed s = s := by
  unfold encodeCheckStr
  rw [if_pos h]; split <;> rfl
theorem encodeCheckStr_not_escaped (allowed : UInt8 → Bool) (s : Str) (h : looksEscapedS allowed s = false) :
    encodeCheckStr allowed s = encodeStr allowed s := by
  unfold encodeCheckStr encodeStr
  rw [h, if_neg Bool.false_ne_true]

/-- what a character of an encoder's output can be -/
def OutChar (allowed : UInt8 → Bool) (c : Nat) : Prop :=
  c < 0x80 ∧ (allowed c.toUInt8 = true ∨ c = 37 ∨ Uri.upperHex c.toUInt8 = true)

theorem OutChar.visible {allowed : UInt8 → Bool} (hvis : ∀ b, allowed b = true → Visible b.toNat) {c : Nat} (h : OutChar allowed c) :
    Visible c := by
  obtain ⟨hlt, h | h | h⟩ := h
  · have := hvis _ h; rwa [U8.toNat_toUInt8 c (by omega)] at this
  · subst h; decide
  · rw [Uri.upperHex_iff, U8.toNat_toUInt8 c (by omega)] at h
    unfold Visible; omega

/-- printable ASCII text: visible characters and blanks -/
def Txt (s : Str) : Prop := ∀ c ∈ s, c = 32 ∨ Visible c
def txtB (s : Str) : Bool := s.all (fun c => c == 32 || (decide (0x21 ≤ c) && decide (c ≤ 0x7E)))

theorem txtB_iff (s : Str) : txtB s = true ↔ Txt s := by
  unfold txtB Txt Visible
  simp only [List.all_eq_true, Bool.or_eq_true, beq_iff_eq, Bool.and_eq_true, decide_eq_true_eq]

theorem Txt.of_txtB {s : Str} (h : txtB s = true) : Txt s := (txtB_iff s).mp h

theorem Txt.append {x y : Str} (hx : Txt x) (hy : Txt y) : Txt (x ++ y) := by
  intro c hc
  rcases List.mem_append.mp hc with h | h
  · exact hx c h
  · exact hy c h
theorem Txt.of_visible {x : Str} (h : ∀ c ∈ x, Visible c) : Txt x := fun c hc => Or.inr (h c hc)

/-- every character a check-escaped encoder returns is an allowed character, '%' or an upper-case hex digit -/
theorem encodeCheckStr_charset (allowed : UInt8 → Bool) (hascii : ∀ b, allowed b = true → b.toNat < 0x80)
    (s : Str) (hv : ValidStr s) : ∀ c ∈ encodeCheckStr allowed s, OutChar allowed c := by
  rw [encodeCheckStr_eq_bytes allowed hascii s hv]
  exact charset_map_toNat hascii (Uri.encodeCheck_charset allowed _)

theorem decode_no_pct (s : Str) (h : ∀ c ∈ s, c ≠ 37) : decode false s = s := by
  have : s.contains 37 = false := Bool.eq_false_iff.mpr (fun hc => h 37 (List.contains_iff_mem.mp hc) rfl)
  rw [decode, Bool.and_false, if_neg Bool.false_ne_true]
  exact if_pos (by rw [this]; rfl)

/-- **round trip of a check-escaped encoder** (`plus = false`, or a table without '+'):
    a string that does not look escaped decodes back; one that does is returned as it is -/
theorem decode_encodeCheckStr (allowed : UInt8 → Bool) (h37 : allowed 37 = false) (hascii : ∀ b, allowed b = true → b.toNat < 0x80)
    (plus : Bool) (hplus : plus = false ∨ allowed 43 = false) (s : Str) (hv : ValidStr s) (hl : looksEscapedS allowed s = false) :
    decode plus (encodeCheckStr allowed s) = s := by
  rw [encodeCheckStr_not_escaped allowed s hl]
  exact decode_encodeStr allowed h37 hascii plus hplus s hv

def esc1 (c : Nat) : Str := if c == 92 then [92, 92] else if c == 34 then [92, 34] else [c]

/-- the two `replace` passes, character by character -/
theorem escapeQS_eq_flatMap (v : Str) : escapeQS v = v.flatMap esc1 := by
  unfold escapeQS replace1
  rw [List.flatMap_assoc]
  refine congrArg (v.flatMap ·) (funext fun c => ?_)
  unfold esc1
  split
  · rfl
  · exact List.flatMap_singleton _ c

theorem unquoteBody_cons (c : Nat) (r : Str) (h34 : c ≠ 34) (h92 : c ≠ 92) : unquoteBody (c :: r) = (unquoteBody r).map (c :: ·) := by
  conv => lhs; unfold unquoteBody
  rw [if_neg (fun e => h34 (eq_of_beq e)), if_neg (fun e => h92 (eq_of_beq e))]

theorem unquoteBody_esc1 (c : Nat) (rest : Str) : unquoteBody (esc1 c ++ rest) = (unquoteBody rest).map (c :: ·) := by
  unfold esc1
  split
  · rename_i h; rw [eq_of_beq h]; rfl
  · split
    · rename_i h; rw [eq_of_beq h]; rfl
    · rename_i h92 h34
      exact unquoteBody_cons c rest (fun e => h34 (beq_of_eq e)) (fun e => h92 (beq_of_eq e))

/-- **an RFC 9110 quoted-string reader returns the text that was escaped** - for every str -/
theorem unquoteQS_escapeQS (v : Str) : unquoteQS ([34] ++ escapeQS v ++ [34]) = some v := by
  show unquoteBody (escapeQS v ++ [34]) = some v
  rw [escapeQS_eq_flatMap]
  induction v with
  | nil => rfl
  | cons c v ih => rw [List.flatMap_cons, List.append_assoc, unquoteBody_esc1, ih]; rfl

theorem takeUntil_append (d : Nat) (p r : Str) (h : d ∉ p) : takeUntil d (p ++ d :: r) = some (p, r) := by
  induction p with
  | nil => rw [List.nil_append, takeUntil, if_pos (beq_self_eq_true d)]
  | cons c p ih =>
    have hc : (c == d) = false := beq_false_of_ne (fun e => h (e ▸ List.mem_cons_self))
    rw [List.cons_append, takeUntil, hc, ih (fun hm => h (List.mem_cons_of_mem _ hm))]
    rfl

theorem mem_of_contains2 {a b : Nat} {p : Str} (h : contains2 a b p = true) : a ∈ p ∧ b ∈ p := by
  fun_induction contains2 a b p with
  | case1 x y r ih =>
    rcases Bool.or_eq_true_iff.mp h with h | h
    · have hxy := Bool.and_eq_true_iff.mp h
      rw [← eq_of_beq hxy.1, ← eq_of_beq hxy.2]
      exact ⟨List.mem_cons_self, List.mem_cons_of_mem _ List.mem_cons_self⟩
    · exact (ih h).imp (List.mem_cons_of_mem _) (List.mem_cons_of_mem _)
  | case2 => cases h

theorem contains2_of_not_mem_left (a b : Nat) (p : Str) (h : a ∉ p) : contains2 a b p = false :=
  Bool.eq_false_iff.mpr fun hc => h (mem_of_contains2 hc).1

theorem contains2_of_not_mem_right (a b : Nat) (p : Str) (h : b ∉ p) : contains2 a b p = false :=
  Bool.eq_false_iff.mpr fun hc => h (mem_of_contains2 hc).2

theorem split2_none (a b : Nat) (p : Str) (h : contains2 a b p = false) : split2 a b p = [p] := by
  induction p with
  | nil => rfl
  | cons x p ih =>
    cases p with
    | nil => rfl
    | cons y p =>
      rw [contains2, Bool.or_eq_false_iff] at h
      rw [split2, h.1, ih h.2]; rfl

theorem split2_append (a b : Nat) (hab : a ≠ b) (p rest : Str) (h : contains2 a b p = false) :
    split2 a b (p ++ a :: b :: rest) = p :: split2 a b rest := by
  induction p with
  | nil => rw [List.nil_append, split2, beq_self_eq_true, beq_self_eq_true, Bool.and_self, if_pos rfl]
  | cons x p ih =>
    cases p with
    | nil =>
      have h0 := ih rfl
      rw [List.nil_append] at h0
      rw [List.cons_append, List.nil_append, split2, beq_false_of_ne hab, Bool.and_false, h0]
      rfl
    | cons y p =>
      rw [contains2, Bool.or_eq_false_iff] at h
      have h0 := ih h.2
      rw [List.cons_append] at h0
      rw [List.cons_append, List.cons_append, split2, h.1, h0]
      rfl

theorem split2_join (a b : Nat) (hab : a ≠ b) : ∀ (ps : List Str), ps ≠ [] → (∀ p ∈ ps, contains2 a b p = false) →
    split2 a b (join [a, b] ps) = ps
  | [], h, _ => absurd rfl h
  | [p], _, hv => split2_none a b p (hv p (List.mem_singleton_self p))
  | p :: q :: ps, _, hv => by
    rw [join, List.append_assoc]
    exact (split2_append a b hab p _ (hv p List.mem_cons_self)).trans
      (congrArg (p :: ·) (split2_join a b hab (q :: ps) (List.cons_ne_nil _ _) (fun x hx => hv x (List.mem_cons_of_mem _ hx))))

theorem location_reads_back (s : Str) (hv : ValidStr s) :
    (∀ c ∈ location s, Visible c) ∧
    (looksEscapedS Uri.allowedUri s = false → decode false (location s) = s) ∧
    (looksEscapedS Uri.allowedUri s = true → location s = s) :=
  ⟨fun c hc => (encodeCheckStr_charset _ allowedUri_ascii s hv c hc).visible allowedUri_visible,
    decode_encodeCheckStr _ Uri.allowedUri_pct allowedUri_ascii false (Or.inl rfl) s hv,
    encodeCheckStr_escaped _ s⟩

theorem location_ascii_and_decodes_back (s : Str) (hv : ValidStr s) :
    (∀ c ∈ location s, Visible c) ∧
    (looksEscapedS Uri.allowedUri s = false → decode false (location s) = s) ∧
    (looksEscapedS Uri.allowedUri s = true → location s = s) ∧
    ((∀ c ∈ s, c ≠ 37) → decode false (location s) = s) := by
  obtain ⟨h1, h2, h3⟩ := location_reads_back s hv
  refine ⟨h1, h2, h3, fun hno => ?_⟩
  cases hl : looksEscapedS Uri.allowedUri s with
  | false => exact h2 hl
  | true => rw [h3 hl]; exact decode_no_pct s hno

example : ValidStr [47, 233, 32, 37, 0x65E5, 0x1F600, 1] ∧ looksEscapedS Uri.allowedUri [47, 233, 32, 37, 0x65E5, 0x1F600, 1] = false := by decide +kernel
example : location [47, 233, 32, 37, 1] = [47, 37, 67, 51, 37, 65, 57, 37, 50, 48, 37, 50, 53, 37, 48, 49] := by decide +kernel
example : looksEscapedS Uri.allowedUri [47, 37, 52, 49] = true ∧ location [47, 37, 52, 49] = [47, 37, 52, 49] := by decide +kernel

def TokenChar (c : Nat) : Prop := safeChar c = true ∨ c = 95

theorem TokenChar.facts {c : Nat} (h : TokenChar c) : Visible c ∧ c ≠ 59 ∧ c ≠ 34 ∧ c ≠ 92 ∧ c ≠ 39 := by
  unfold TokenChar safeChar at h
  simp only [Bool.or_eq_true, Bool.and_eq_true, decide_eq_true_eq, beq_iff_eq] at h
  unfold Visible; omega

theorem secureCore_chars (n : Str) : ∀ c ∈ secureCore n, TokenChar c := by
  intro c hc
  obtain ⟨x, _, rfl⟩ := List.mem_map.mp hc
  unfold TokenChar
  split
  · exact Or.inl ‹_›
  · exact Or.inr rfl

theorem dotFix_length (n : Str) : (dotFix n).length = n.length := by
  cases n with
  | nil => rfl
  | cons c r => simp only [dotFix]; split <;> rfl

theorem secureCore_length (n : Str) : (secureCore n).length = n.length := by
  unfold secureCore
  rw [List.length_map, dotFix_length]

theorem dotFix_head (n : Str) : (dotFix n).head? ≠ some 46 := by
  cases n with
  | nil => simp [dotFix]
  | cons c r =>
    unfold dotFix
    by_cases h : c = 46
    · subst h; simp
    · simp [h]

theorem secureCore_head (n : Str) : (secureCore n).head? ≠ some 46 := by
  rw [secureCore, List.head?_map]
  intro h
  obtain ⟨x, hx, hf⟩ := Option.map_eq_some_iff.mp h
  -- a character is mapped to '.' only if it is '.'
  refine dotFix_head n (hx.trans (congrArg some ?_))
  split at hf
  · exact hf
  · exact absurd hf (by decide)

/-- a name of letters, digits, '.', '-', '_' that does not start with a dot is kept -/
theorem secureCore_keeps (n : Str) (hs : ∀ c ∈ n, TokenChar c) (hd : n.head? ≠ some 46) : secureCore n = n := by
  have : dotFix n = n := by
    cases n with
    | nil => rfl
    | cons c r => exact if_neg (fun e => hd (congrArg some (eq_of_beq e)))
  rw [secureCore, this]
  refine (List.map_congr_left fun c hc => ?_).trans (List.map_id n)
  rcases hs c hc with h | h
  · exact if_pos h
  · subst h; rfl

/-- sanitising twice changes nothing (on the already normalised text) -/
theorem secureCore_idem (n : Str) : secureCore (secureCore n) = secureCore n := by
  exact secureCore_keeps _ (secureCore_chars n) (secureCore_head n)

theorem secureFilename_spec (nfkd : Str → Str) (fn : Str) :
    (fn = [] → secureFilename nfkd fn = none) ∧
    (fn ≠ [] → ∃ t, secureFilename nfkd fn = some t ∧ (∀ c ∈ t, TokenChar c) ∧ t.head? ≠ some 46 ∧ t.length = (nfkd fn).length) := by
  unfold secureFilename
  constructor
  · intro h; subst h; rfl
  · intro h
    have : fn.isEmpty = false := by cases fn with | nil => exact absurd rfl h | cons _ _ => rfl
    rw [this]
    exact ⟨_, rfl, secureCore_chars _, secureCore_head _, secureCore_length _⟩

def pFilename : Str := [102, 105, 108, 101, 110, 97, 109, 101, 61]                    -- 'filename='
def pFilenameStar : Str := [102, 105, 108, 101, 110, 97, 109, 101, 42, 61]            -- 'filename*='
def sUtf8 : Str := [85, 84, 70, 45, 56]                                               -- 'UTF-8'
theorem sFilenameQ_eq : sFilenameQ = sSep ++ pFilename ++ [34] := rfl
theorem sFilename_eq : sFilename = sSep ++ pFilename := rfl
theorem sFilenameStar_eq : sFilenameStar = sSep ++ pFilenameStar ++ sUtf8 ++ [39, 39] := rfl

theorem isAscii_nil : isAscii [] = true := rfl
/-- the ValueError of `secure_filename` cannot surface through the property -/
theorem formatContentDisposition_isSome (nfkd : Str → Str) (dtype v : Str) : (formatContentDisposition nfkd dtype v).isSome = true := by
  unfold formatContentDisposition
  by_cases ha : isAscii v = true
  · rw [if_pos ha]; rfl
  · rw [if_neg ha, secureFilename]
    cases v with
    | nil => exact absurd rfl ha
    | cons _ _ => rfl

/-- **`ascii_filename_quoted_string_reads_back`** (the F27 repair, fix 38a4696): for every ASCII filename the value is
    `<type>; filename=<q>` where an RFC 9110 quoted-string reader turns `q` back into the filename -/
theorem ascii_filename_quoted_string_reads_back (nfkd : Str → Str) (dtype fn : Str) (ha : isAscii fn = true) :
    ∃ q, formatContentDisposition nfkd dtype fn = some (dtype ++ sSep ++ pFilename ++ q) ∧ unquoteQS q = some fn ∧
      (∀ c ∈ q, c ∈ fn ∨ c = 34 ∨ c = 92) := by
  refine ⟨[34] ++ escapeQS fn ++ [34], ?_, unquoteQS_escapeQS fn, ?_⟩
  · unfold formatContentDisposition
    rw [if_pos ha, sFilenameQ_eq]
    simp only [List.append_assoc]
  · intro c hc
    rw [escapeQS_eq_flatMap] at hc
    simp only [List.mem_append, List.mem_singleton, List.mem_flatMap] at hc
    rcases hc with (h | ⟨x, hx, hcx⟩) | h
    · exact Or.inr (Or.inl h)
    · unfold esc1 at hcx
      split at hcx
      · simp at hcx; exact Or.inr (Or.inr hcx)
      · split at hcx
        · simp at hcx; rcases hcx with h | h
          · exact Or.inr (Or.inr h)
          · exact Or.inr (Or.inl h)
        · simp at hcx; subst hcx; exact Or.inl hx
    · exact Or.inr (Or.inl h)

example : formatContentDisposition id sAttachment [97, 34, 92, 46] =
    some (sAttachment ++ sSep ++ pFilename ++ [34, 97, 92, 34, 92, 92, 46, 34]) := by decide +kernel

/-- the hex digits are in both tables, so an output character is '%' or the code of an allowed byte -/
theorem OutChar.cases {allowed : UInt8 → Bool} (hhex : ∀ b, Uri.isHex b = true → allowed b = true) {c : Nat}
    (h : OutChar allowed c) : c = 37 ∨ ∃ b : UInt8, allowed b = true ∧ b.toNat = c := by
  obtain ⟨hlt, h | h | h⟩ := h
  · exact Or.inr ⟨_, h, U8.toNat_toUInt8 c (by omega)⟩
  · exact Or.inl h
  · exact Or.inr ⟨_, hhex _ (Uri.upperHex_isHex _ h), U8.toNat_toUInt8 c (by omega)⟩

theorem OutChar.facts {c : Nat} (h : OutChar Uri.allowedValue c) : Visible c ∧ c ≠ 59 ∧ c ≠ 34 ∧ c ≠ 92 ∧ c ≠ 39 ∧ c ≠ 62 ∧ c ≠ 44 := by
  rcases h.cases Uri.hex_allowedValue with rfl | ⟨b, hb, rfl⟩
  · decide
  · have : ∀ x ∈ Uri.unreservedTab, Visible x.toNat ∧ x.toNat ≠ 59 ∧ x.toNat ≠ 34 ∧ x.toNat ≠ 92 ∧ x.toNat ≠ 39 ∧
        x.toNat ≠ 62 ∧ x.toNat ≠ 44 := by decide +kernel
    exact this b (List.contains_iff_mem.mp hb)

theorem OutChar.uri_facts {c : Nat} (h : OutChar Uri.allowedUri c) : Visible c ∧ c ≠ 34 ∧ c ≠ 92 ∧ c ≠ 62 ∧ c ≠ 60 := by
  rcases h.cases Uri.hex_allowedUri with rfl | ⟨b, hb, rfl⟩
  · decide
  · have r := Uri.allowedUri_range b hb
    exact ⟨⟨r.1, r.2.1⟩, r.2.2.1, r.2.2.2.2.2.2, r.2.2.2.2.2.1, r.2.2.2.2.1⟩

/-- **`filename_star_decodes_back`**: for every non-ASCII filename (a str of scalar values) and ANY normalisation function the
    value is `<type>; filename=<token>; filename*=UTF-8''<E>`: the fallback is a non-empty-safe token that does not start with a
    dot, `E` consists of unreserved characters and `%XX` and percent-decodes (either `unquote_plus` setting) to the filename,
    and an RFC 8187 ext-value reader splits `UTF-8''E` into charset UTF-8, no language and `E` -/
theorem filename_star_decodes_back (nfkd : Str → Str) (dtype fn : Str) (hv : ValidStr fn) (hna : isAscii fn = false) :
    ∃ sec E, formatContentDisposition nfkd dtype fn = some (dtype ++ sSep ++ pFilename ++ sec ++ sSep ++ pFilenameStar ++ (sUtf8 ++ [39, 39] ++ E)) ∧
      sec = secureCore (nfkd fn) ∧ (∀ c ∈ sec, TokenChar c) ∧ sec.head? ≠ some 46 ∧
      E = encodeValue fn ∧ (∀ c ∈ E, OutChar Uri.allowedValue c) ∧ (∀ plus, decode plus E = fn) ∧
      parseExt (sUtf8 ++ [39, 39] ++ E) = some (sUtf8, [], E) := by
  refine ⟨secureCore (nfkd fn), encodeValue fn, ?_, rfl, secureCore_chars _, secureCore_head _, rfl, encodeValue_charset fn hv,
    fun plus => decode_encode_value_str plus fn hv, ?_⟩
  · have hne : fn.isEmpty = false := by
      cases fn with
      | nil => cases hna
      | cons _ _ => rfl
    rw [formatContentDisposition, secureFilename, if_neg (Bool.eq_false_iff.mp hna), hne, if_neg Bool.false_ne_true,
      sFilename_eq, sFilenameStar_eq]
    simp only [List.append_assoc]
  · show parseExt (sUtf8 ++ 39 :: 39 :: encodeValue fn) = _
    rw [parseExt, takeUntil_append 39 sUtf8 _ (by decide)]
    rfl

example : ValidStr [0x65E5, 46, 112] ∧ isAscii [0x65E5, 46, 112] = false := by decide +kernel
example : formatContentDisposition (fun _ => [0x65E5, 46, 112]) sInline [0x65E5, 46, 112] =
    some (sInline ++ sSep ++ pFilename ++ [95, 46, 112] ++ sSep ++ pFilenameStar ++ sUtf8 ++ [39, 39] ++ [37, 69, 54, 37, 57, 55, 37, 65, 53, 46, 112]) := by decide +kernel

/-- the three parts of such a value are found by splitting at "; " (the type contains no "; ") -/
theorem content_disposition_params (nfkd : Str → Str) (dtype fn : Str) (hv : ValidStr fn) (hna : isAscii fn = false)
    (hd : contains2 59 32 dtype = false) :
    ∃ v, formatContentDisposition nfkd dtype fn = some v ∧
      split2 59 32 v = [dtype, pFilename ++ secureCore (nfkd fn), pFilenameStar ++ (sUtf8 ++ [39, 39] ++ encodeValue fn)] := by
  obtain ⟨sec, E, hf, hsec, hchars, _, hE, hout, _, _⟩ := filename_star_decodes_back nfkd dtype fn hv hna
  subst hsec hE
  refine ⟨_, hf, ?_⟩
  -- the value is the three parts joined by "; ", and none of the parts contains a ';'
  have hj := split2_join 59 32 (by decide)
    [dtype, pFilename ++ secureCore (nfkd fn), pFilenameStar ++ (sUtf8 ++ [39, 39] ++ encodeValue fn)] (List.cons_ne_nil _ _)
  simp only [join, List.forall_mem_cons, List.not_mem_nil, false_imp_iff, implies_true, and_true] at hj
  simp only [sSep, List.append_assoc] at hj ⊢
  refine hj ⟨hd, contains2_of_not_mem_left _ _ _ ?_, contains2_of_not_mem_left _ _ _ ?_⟩
  · simp only [List.mem_append, not_or]
    exact ⟨by decide, fun h => (hchars 59 h).facts.2.1 rfl⟩
  · simp only [List.mem_append, not_or]
    exact ⟨by decide, by decide, by decide, fun h => (hout 59 h).facts.2.1 rfl⟩

/-- for the two properties that use it the whole value is visible ASCII plus the separating blanks -/
theorem content_disposition_ascii (nfkd : Str → Str) (dtype fn : Str) (hv : ValidStr fn) (hna : isAscii fn = false)
    (hd : ∀ c ∈ dtype, Visible c) :
    ∃ v, formatContentDisposition nfkd dtype fn = some v ∧ ∀ c ∈ v, c = 32 ∨ Visible c := by
  obtain ⟨sec, E, hf, _, hchars, _, _, hout, _, _⟩ := filename_star_decodes_back nfkd dtype fn hv hna
  refine ⟨_, hf, ?_⟩
  have hl : Txt sSep ∧ Txt pFilename ∧ Txt pFilenameStar ∧ Txt (sUtf8 ++ [39, 39]) := by unfold Txt; decide +kernel
  exact ((((((Txt.of_visible hd).append hl.1).append hl.2.1).append (Txt.of_visible fun c h => (hchars c h).facts.1)).append
    hl.1).append hl.2.2.1).append (hl.2.2.2.append (Txt.of_visible fun c h => (hout c h).facts.1))

theorem dtype_ok : (∀ c ∈ sAttachment, Visible c) ∧ (∀ c ∈ sInline, Visible c) ∧
    contains2 59 32 sAttachment = false ∧ contains2 59 32 sInline = false := by decide +kernel

/-! ### the Link value as `<target>` followed by "; "-separated parameters -/
def pRel : Str := [114, 101, 108, 61]   -- 'rel='
theorem sRel_eq : sRel = [62] ++ sSep ++ pRel := rfl

/-- `'; ' + '; '.join(l)`: an empty list leaves a single empty piece behind -/
def joinPieces (l : List Str) : List Str := if l.isEmpty then [[]] else l
def glue (ps : List Str) : Str := ps.flatMap (sSep ++ ·)

theorem glue_append (x y : List Str) : glue (x ++ y) = glue x ++ glue y := List.flatMap_append ..
theorem glue_nil : glue [] = [] := rfl
theorem glue_cons (p : Str) (ps : List Str) : glue (p :: ps) = sSep ++ p ++ glue ps := List.flatMap_cons
theorem glue_one (p : Str) : glue [p] = sSep ++ p := (glue_cons p []).trans (List.append_nil _)

theorem glue_cons_eq (p : Str) (ps : List Str) : glue (p :: ps) = sSep ++ join sSep (p :: ps) := by
  induction ps generalizing p with
  | nil => exact glue_one p
  | cons q r ih =>
    rw [glue_cons, ih q, join]
    simp only [List.append_assoc]

theorem sep_join (l : List Str) : sSep ++ join sSep l = glue (joinPieces l) := by
  cases l with
  | nil => simp [joinPieces, glue, join]
  | cons p r => exact (glue_cons_eq p r).symm

def titleP : Option Str → List Str
  | none => []
  | some t => [pTitle ++ t ++ [34]]
def titleStarP : Option (Str × Str) → List Str
  | none => []
  | some (lang, text) => [pTitleStar ++ lang ++ [39] ++ encodeValueCheckEscaped text]
def typeP : Option Str → List Str
  | none => []
  | some t => [pType ++ t ++ [34]]
def hreflangP : Option Hreflang → List Str
  | none => []
  | some (.one l) => [pHreflang ++ l]
  | some (.many ls) => joinPieces (ls.map (pHreflang ++ ·))
def anchorP : Option Str → List Str
  | none => []
  | some x => [pAnchor ++ encodeCheckEscaped x ++ [34]]
/-- `none` = ValueError -/
def crossP : Option Str → Option (List Str)
  | none => some []
  | some c => if asciiLower c == sAnonymous then some [pCross] else if asciiLower c == sUseCred then some [pCrossUC] else none
def extP : Option (List (Str × Str)) → List Str
  | none => []
  | some ext => joinPieces (ext.map (fun pv => pv.1 ++ [61] ++ pv.2))

/-- the parameters of one link, in the order `append_link` writes them -/
def linkParams (a : LinkArgs) (cross : List Str) : List Str :=
  [pRel ++ relText a.rel] ++ titleP a.title ++ titleStarP a.titleStar ++ typeP a.typeHint ++ hreflangP a.hreflang ++
    anchorP a.anchor ++ cross ++ extP a.linkExtension

/-- appending one parameter: `v + '; ' + p` -/
theorem append_glue_one (v p : Str) : v ++ glue [p] = v ++ sSep ++ p := by
  rw [glue_one, List.append_assoc]

theorem addTitle_eq (v : Str) (t : Option Str) : addTitle v t = v ++ glue (titleP t) := by
  cases t with
  | none => exact (List.append_nil v).symm
  | some t => rw [titleP, append_glue_one, addTitle]; simp only [List.append_assoc]
theorem addTitleStar_eq (v : Str) (t : Option (Str × Str)) : addTitleStar v t = v ++ glue (titleStarP t) := by
  cases t with
  | none => exact (List.append_nil v).symm
  | some t => rw [titleStarP, append_glue_one, addTitleStar]; simp only [List.append_assoc]
theorem addType_eq (v : Str) (t : Option Str) : addType v t = v ++ glue (typeP t) := by
  cases t with
  | none => exact (List.append_nil v).symm
  | some t => rw [typeP, append_glue_one, addType]; simp only [List.append_assoc]
theorem addHreflang_eq (v : Str) (t : Option Hreflang) : addHreflang v t = v ++ glue (hreflangP t) := by
  cases t with
  | none => exact (List.append_nil v).symm
  | some t =>
    cases t with
    | one l => rw [hreflangP, append_glue_one, addHreflang]; simp only [List.append_assoc]
    | many ls => rw [addHreflang, hreflangP, List.append_assoc, sep_join]
theorem addAnchor_eq (v : Str) (t : Option Str) : addAnchor v t = v ++ glue (anchorP t) := by
  cases t with
  | none => exact (List.append_nil v).symm
  | some t => rw [anchorP, append_glue_one, addAnchor]; simp only [List.append_assoc]
theorem addCross_eq (v : Str) (t : Option Str) : addCross v t = (crossP t).map (fun cp => v ++ glue cp) := by
  cases t with
  | none => exact congrArg some (List.append_nil v).symm
  | some c =>
    simp only [addCross, crossP]
    split
    · exact congrArg some (append_glue_one v _).symm
    · split
      · exact congrArg some (append_glue_one v _).symm
      · rfl
theorem addExt_eq (v : Str) (t : Option (List (Str × Str))) : addExt v t = v ++ glue (extP t) := by
  cases t with
  | none => exact (List.append_nil v).symm
  | some t => rw [addExt, extP, List.append_assoc, sep_join]

/-- **the shape of a link**: `<` encoded target `>` and then "; " + parameter for each parameter -/
theorem linkValue_eq (a : LinkArgs) :
    linkValue a = (crossP a.crossorigin).map (fun cp => [60] ++ encodeCheckEscaped a.target ++ [62] ++ glue (linkParams a cp)) := by
  unfold linkValue
  simp only [addTitle_eq, addTitleStar_eq, addType_eq, addHreflang_eq, addAnchor_eq, addCross_eq, addExt_eq]
  cases crossP a.crossorigin with
  | none => rfl
  | some cp =>
    simp only [Option.map_some, linkParams, glue_append, glue_one, sRel_eq, List.append_assoc]

/-- a link that was built: its crossorigin parameter(s) and its text -/
theorem linkValue_some (a : LinkArgs) (v : Str) (h : linkValue a = some v) :
    ∃ cp, crossP a.crossorigin = some cp ∧ v = [60] ++ encodeCheckEscaped a.target ++ [62] ++ glue (linkParams a cp) := by
  rw [linkValue_eq] at h
  obtain ⟨cp, hc, rfl⟩ := Option.map_eq_some_iff.mp h
  exact ⟨cp, hc, rfl⟩

/-! ### reading a link back -/
theorem location_out (s : Str) (hv : ValidStr s) : ∀ c ∈ location s, OutChar Uri.allowedUri c :=
  encodeCheckStr_charset _ allowedUri_ascii s hv

theorem unquoteQS_plain (e : Str) (h : ∀ c ∈ e, c ≠ 34 ∧ c ≠ 92) : unquoteQS ([34] ++ e ++ [34]) = some e := by
  show unquoteBody (e ++ [34]) = some e
  induction e with
  | nil => rfl
  | cons c e ih =>
    have hc := h c List.mem_cons_self
    rw [List.cons_append, unquoteBody_cons c _ hc.1 hc.2, ih (fun x hx => h x (List.mem_cons_of_mem _ hx))]
    rfl

/-- a URI emitted inside double quotes is read back as it is by a quoted-string reader -/
theorem unquoteQS_location (s : Str) (hv : ValidStr s) : unquoteQS ([34] ++ location s ++ [34]) = some (location s) :=
  unquoteQS_plain _ (fun c hc => ⟨(location_out s hv c hc).uri_facts.2.1, (location_out s hv c hc).uri_facts.2.2.1⟩)

theorem angleTarget_link (t : Str) (hv : ValidStr t) (rest : Str) :
    angleTarget ([60] ++ location t ++ [62] ++ rest) = some (location t, rest) := by
  rw [List.append_assoc, List.append_assoc, List.singleton_append, List.singleton_append, angleTarget]
  exact takeUntil_append 62 _ _ (fun hm => (location_out t hv 62 hm).uri_facts.2.2.2.1 rfl)

/-- **the target of every link reads back**: what stands between '<' and the first '>' is the check-escaped encoding of the
    target - visible ASCII that percent-decodes to the target (or the target itself when it already looked escaped) -/
theorem link_target_reads_back (a : LinkArgs) (v : Str) (h : linkValue a = some v) (hv : ValidStr a.target) :
    ∃ rest, angleTarget v = some (location a.target, rest) ∧
      (∀ c ∈ location a.target, Visible c) ∧
      (looksEscapedS Uri.allowedUri a.target = false → decode false (location a.target) = a.target) ∧
      (looksEscapedS Uri.allowedUri a.target = true → location a.target = a.target) := by
  obtain ⟨cp, _, rfl⟩ := linkValue_some a v h
  exact ⟨glue (linkParams a cp), angleTarget_link a.target hv _, location_reads_back a.target hv⟩

/-- **the parameters of a link read back**: when no rendered parameter contains "; ", splitting what follows `<target>` at
    "; " returns exactly the parameters `append_link` wrote, in order (after the empty piece before the first "; ") -/
theorem link_params_read_back (a : LinkArgs) (v : Str) (h : linkValue a = some v) (hv : ValidStr a.target) :
    ∃ cp rest, crossP a.crossorigin = some cp ∧ angleTarget v = some (location a.target, rest) ∧
      ((∀ p ∈ linkParams a cp, contains2 59 32 p = false) → split2 59 32 rest = [] :: linkParams a cp) := by
  obtain ⟨cp, hc, rfl⟩ := linkValue_some a v h
  refine ⟨cp, glue (linkParams a cp), hc, angleTarget_link a.target hv _, fun hp => ?_⟩
  -- the parameter list starts with `rel=…`, so it is not empty
  rw [linkParams, List.append_assoc, List.append_assoc, List.append_assoc, List.append_assoc, List.append_assoc,
    List.append_assoc, List.singleton_append] at hp ⊢
  rw [glue_cons_eq]
  show split2 59 32 (59 :: 32 :: join [59, 32] _) = _
  rw [split2, if_pos (by rfl), split2_join 59 32 (by decide) _ (List.cons_ne_nil _ _) hp]

def pAnchorEq : Str := [97, 110, 99, 104, 111, 114, 61]     -- 'anchor='
theorem pAnchor_eq : pAnchor = pAnchorEq ++ [34] := rfl

/-- the anchor parameter: no "; " inside, and its quoted value is the check-escaped encoding of the anchor -/
theorem link_anchor_reads_back (x : Str) (hv : ValidStr x) :
    anchorP (some x) = [pAnchorEq ++ ([34] ++ location x ++ [34])] ∧
    contains2 59 32 (pAnchorEq ++ ([34] ++ location x ++ [34])) = false ∧
    unquoteQS ([34] ++ location x ++ [34]) = some (location x) ∧
    (∀ c ∈ location x, Visible c) ∧
    (looksEscapedS Uri.allowedUri x = false → decode false (location x) = x) ∧
    (looksEscapedS Uri.allowedUri x = true → location x = x) := by
  have hloc := location_reads_back x hv
  refine ⟨by simp [anchorP, location, pAnchor_eq, List.append_assoc], ?_, unquoteQS_location x hv, hloc⟩
  apply contains2_of_not_mem_right
  simp only [List.mem_append, not_or]
  exact ⟨by decide, ⟨by decide, fun h => absurd (hloc.1 32 h) (by decide)⟩, by decide⟩

def pTitleStarEq : Str := [116, 105, 116, 108, 101, 42, 61]     -- 'title*='
theorem pTitleStar_eq : pTitleStar = pTitleStarEq ++ sUtf8 ++ [39] := rfl

theorem encodeValueCheck_out (s : Str) (hv : ValidStr s) : ∀ c ∈ encodeValueCheckEscaped s, OutChar Uri.allowedValue c :=
  encodeCheckStr_charset _ allowedValue_ascii s hv

/-- **`title_star_decodes_back`**: the parameter is `title*=` followed by the RFC 8187 ext-value `UTF-8'<lang>'<E>`; an
    ext-value reader returns the charset, the language tag and `E`; `E` consists of unreserved characters and `%XX` and
    percent-decodes (either `unquote_plus` setting) to the text - or is the text itself when that already looked escaped -/
theorem title_star_decodes_back (lang text : Str) (hv : ValidStr text) :
    let E := encodeValueCheckEscaped text
    titleStarP (some (lang, text)) = [pTitleStarEq ++ (sUtf8 ++ [39] ++ lang ++ [39] ++ E)] ∧
    (39 ∉ lang → parseExt (sUtf8 ++ [39] ++ lang ++ [39] ++ E) = some (sUtf8, lang, E)) ∧
    (∀ c ∈ E, OutChar Uri.allowedValue c) ∧
    (looksEscapedS Uri.allowedValue text = false → ∀ plus, decode plus E = text) ∧
    (looksEscapedS Uri.allowedValue text = true → E = text) ∧
    (32 ∉ lang → contains2 59 32 (pTitleStarEq ++ (sUtf8 ++ [39] ++ lang ++ [39] ++ E)) = false) := by
  intro E
  have hout := encodeValueCheck_out text hv
  have e : sUtf8 ++ [39] ++ lang ++ [39] ++ E = sUtf8 ++ 39 :: (lang ++ 39 :: E) := by
    simp only [List.append_assoc, List.cons_append, List.nil_append]
  refine ⟨?_, ?_, hout, ?_, ?_, ?_⟩
  · show [pTitleStar ++ lang ++ [39] ++ E] = _
    rw [pTitleStar_eq]
    simp only [List.append_assoc]
  · intro hl
    rw [e, parseExt, takeUntil_append 39 sUtf8 _ (by decide)]
    dsimp only
    rw [takeUntil_append 39 lang E hl]
  · intro hl plus
    exact decode_encodeCheckStr _ Uri.allowedValue_pct allowedValue_ascii plus (Or.inr Uri.allowedValue_plus) text hv hl
  · exact encodeCheckStr_escaped _ text
  · intro hl
    apply contains2_of_not_mem_right
    simp only [List.mem_append, not_or]
    exact ⟨by decide, ⟨⟨⟨by decide, by decide⟩, hl⟩, by decide⟩, fun h => absurd (hout 32 h).facts.1 (by decide)⟩

example : ValidStr [233, 32, 37] ∧ looksEscapedS Uri.allowedValue [233, 32, 37] = false ∧
    encodeValueCheckEscaped [233, 32, 37] = [37, 67, 51, 37, 65, 57, 37, 50, 48, 37, 50, 53] := by decide +kernel

/-! ### the `rel` parameter -/
theorem split1_none (d : Nat) (p : Str) (h : d ∉ p) : split1 d p = [p] := by
  induction p with
  | nil => rfl
  | cons c p ih =>
    have hc : (c == d) = false := beq_false_of_ne (fun e => h (e ▸ List.mem_cons_self))
    rw [split1, hc, ih (fun hm => h (List.mem_cons_of_mem _ hm))]; rfl

theorem split1_append (d : Nat) (p rest : Str) (h : d ∉ p) : split1 d (p ++ d :: rest) = p :: split1 d rest := by
  induction p with
  | nil => simp [split1]
  | cons c p ih =>
    have hc : (c == d) = false := beq_false_of_ne (fun e => h (e ▸ List.mem_cons_self))
    rw [List.cons_append, split1, hc, ih (fun hm => h (List.mem_cons_of_mem _ hm))]; rfl

theorem split1_join (d : Nat) : ∀ (ps : List Str), ps ≠ [] → (∀ p ∈ ps, d ∉ p) → split1 d (join [d] ps) = ps
  | [], h, _ => absurd rfl h
  | [p], _, hv => split1_none d p (hv p (List.mem_singleton_self p))
  | p :: q :: ps, _, hv => by
    rw [join, List.append_assoc]
    exact (split1_append d p _ (hv p List.mem_cons_self)).trans
      (congrArg (p :: ·) (split1_join d (q :: ps) (List.cons_ne_nil _ _) (fun x hx => hv x (List.mem_cons_of_mem _ hx))))

theorem splitWsAux_mem (s cur : Str) : ∀ m ∈ splitWsAux s cur, ∀ c ∈ m, c ∈ s ∨ c ∈ cur := by
  intro m hm c hc
  fun_induction splitWsAux s cur with
  | case1 cur _ => cases hm
  | case2 cur _ => rw [List.mem_singleton.mp hm] at hc; exact Or.inr hc
  | case3 x r cur _ _ ih => exact (ih hm).elim (fun h => Or.inl (List.mem_cons_of_mem _ h)) nofun
  | case4 x r cur _ _ ih =>
    rcases List.mem_cons.mp hm with rfl | hm
    · exact Or.inr hc
    · exact (ih hm).elim (fun h => Or.inl (List.mem_cons_of_mem _ h)) nofun
  | case5 x r cur _ ih =>
    rcases ih hm with h | h
    · exact Or.inl (List.mem_cons_of_mem _ h)
    · rcases List.mem_append.mp h with h | h
      · exact Or.inr h
      · exact Or.inl (List.mem_singleton.mp h ▸ List.mem_cons_self)

theorem splitWsAux_ne_nil (s cur : Str) (h : cur ≠ [] ∨ ∃ c ∈ s, isSpace c = false) : splitWsAux s cur ≠ [] := by
  fun_induction splitWsAux s cur with
  | case1 cur he => exact absurd (List.isEmpty_iff.mp he) (h.resolve_right (fun ⟨_, hc, _⟩ => nomatch hc))
  | case2 cur _ => exact List.cons_ne_nil _ _
  | case3 x r cur hx he ih =>
    refine ih (Or.inr ?_)
    obtain ⟨c, hc, hsp⟩ := h.resolve_left (fun hne => hne (List.isEmpty_iff.mp he))
    rcases List.mem_cons.mp hc with rfl | hc
    · rw [hx] at hsp; cases hsp
    · exact ⟨c, hc, hsp⟩
  | case4 x r cur _ _ ih => exact List.cons_ne_nil _ _
  | case5 x r cur _ ih => exact ih (Or.inl (fun e => by cases cur <;> cases e))

theorem rel_plain (rel : Str) (h : contains2 47 47 rel = false) : relText rel = rel := by
  unfold relText; simp [h]

/-- a character of `sep.join(ps)` comes from the separator or from one of the pieces -/
theorem mem_join {sep : Str} {c : Nat} {ps : List Str} (h : c ∈ join sep ps) : c ∈ sep ∨ ∃ p ∈ ps, c ∈ p := by
  fun_induction join sep ps with
  | case1 => cases h
  | case2 p => exact Or.inr ⟨p, List.mem_singleton_self p, h⟩
  | case3 p q r ih =>
    rcases List.mem_append.mp h with h | h
    · rcases List.mem_append.mp h with h | h
      · exact Or.inr ⟨p, List.mem_cons_self, h⟩
      · exact Or.inl h
    · exact (ih h).imp_right (fun ⟨x, hx, hc⟩ => ⟨x, List.mem_cons_of_mem _ hx, hc⟩)

/-- an extension relation type without a blank: one quoted, check-escaped URI -/
theorem rel_ext_single (rel : Str) (hv : ValidStr rel) (h47 : contains2 47 47 rel = true) (h32 : rel.contains 32 = false) :
    relText rel = [34] ++ location rel ++ [34] ∧ unquoteQS (relText rel) = some (location rel) ∧
    (∀ c ∈ location rel, Visible c) ∧
    (looksEscapedS Uri.allowedUri rel = false → decode false (location rel) = rel) ∧
    (looksEscapedS Uri.allowedUri rel = true → location rel = rel) := by
  have e : relText rel = [34] ++ location rel ++ [34] := by
    unfold relText location; simp only [h47, h32, if_true, Bool.false_eq_true, if_false]
  exact ⟨e, by rw [e]; exact unquoteQS_location rel hv, location_reads_back rel hv⟩

/-- **several relation types**: the quoted text, unquoted and split at ' ', gives one check-escaped URI per whitespace-separated
    member of `rel`, each visible ASCII that decodes back to that member -/
theorem rel_ext_members (rel : Str) (hv : ValidStr rel) (h47 : contains2 47 47 rel = true) (h32 : rel.contains 32 = true) :
    let ms := splitWs rel
    relText rel = [34] ++ join [32] (ms.map location) ++ [34] ∧
    unquoteQS (relText rel) = some (join [32] (ms.map location)) ∧
    split1 32 (join [32] (ms.map location)) = ms.map location ∧
    ∀ m ∈ ms, ValidStr m ∧ (∀ c ∈ location m, Visible c) ∧
      (looksEscapedS Uri.allowedUri m = false → decode false (location m) = m) ∧
      (looksEscapedS Uri.allowedUri m = true → location m = m) := by
  intro ms
  have hval : ∀ m ∈ ms, ValidStr m := fun m hm c hc =>
    (splitWsAux_mem rel [] m hm c hc).elim (hv c) nofun
  have hne : ms ≠ [] := splitWsAux_ne_nil _ _ (Or.inr ⟨47, (mem_of_contains2 h47).1, by decide⟩)
  have hout : ∀ p ∈ ms.map location, ∀ c ∈ p, OutChar Uri.allowedUri c := by
    intro p hp
    obtain ⟨m, hm, rfl⟩ := List.mem_map.mp hp
    exact location_out m (hval m hm)
  have e : relText rel = [34] ++ join [32] (ms.map location) ++ [34] := by
    rw [relText, if_pos h47, if_pos h32]; rfl
  have hjoin : ∀ c ∈ join [32] (ms.map location), c ≠ 34 ∧ c ≠ 92 := by
    intro c hc
    rcases mem_join hc with h | ⟨p, hp, h⟩
    · rw [List.mem_singleton.mp h]; decide
    · exact ⟨(hout p hp c h).uri_facts.2.1, (hout p hp c h).uri_facts.2.2.1⟩
  refine ⟨e, ?_, ?_, ?_⟩
  · rw [e]
    exact unquoteQS_plain _ hjoin
  · refine split1_join 32 _ (fun h => hne (List.map_eq_nil_iff.mp h)) (fun p hp hm => ?_)
    exact absurd (hout p hp 32 hm).uri_facts.1 (by decide)
  · exact fun m hm => ⟨hval m hm, location_reads_back m (hval m hm)⟩

example : relText [97, 32, 104, 58, 47, 47, 120, 47, 233] = [34, 97, 32, 104, 58, 47, 47, 120, 47, 37, 67, 51, 37, 65, 57, 34] := by decide +kernel

theorem crossP_spec (c : Str) :
    (asciiLower c = sAnonymous → crossP (some c) = some [pCross]) ∧
    (asciiLower c = sUseCred → crossP (some c) = some [pCrossUC]) ∧
    (asciiLower c ≠ sAnonymous → asciiLower c ≠ sUseCred → crossP (some c) = none) := by
  refine ⟨?_, ?_, ?_⟩
  · intro h; simp [crossP, h]
  · intro h
    have : (sUseCred == sAnonymous) = false := by decide
    simp [crossP, h, this]
  · intro h1 h2; simp [crossP, h1, h2]

/-- `append_link` raises ValueError exactly for a crossorigin that is neither word (compared ASCII-case-insensitively) -/
theorem linkValue_none_iff (a : LinkArgs) :
    linkValue a = none ↔ ∃ c, a.crossorigin = some c ∧ asciiLower c ≠ sAnonymous ∧ asciiLower c ≠ sUseCred := by
  rw [linkValue_eq]
  cases hc : a.crossorigin with
  | none => simp [crossP]
  | some c =>
    simp only [Option.some.injEq, exists_eq_left', Option.map_eq_none_iff]
    by_cases h1 : asciiLower c = sAnonymous
    · simp [(crossP_spec c).1 h1, h1]
    · by_cases h2 : asciiLower c = sUseCred
      · simp [(crossP_spec c).2.1 h2, h2]
      · simp [(crossP_spec c).2.2 h1 h2, h1, h2]

/-! ### `append_link` on the header store -/
section store
variable {Name κ : Type} [DecidableEq κ]

theorem propGet_setKey (k : κ) (r : Hd.Resp κ) (s : String) :
    let r' : Hd.Resp κ := { r with headers := Hd.setKey r.headers k s }
    propGet k r' = some s ∧ (∀ k', k' ≠ k → propGet k' r' = propGet k' r) ∧ r'.extra = r.extra ∧ r'.cookies = r.cookies :=
  ⟨Hd.lookup_setKey_self _ _ _, fun _ hk => Hd.lookup_setKey_ne _ _ _ _ hk, rfl, rfl⟩

theorem propGet_propDel (k : κ) (r : Hd.Resp κ) :
    propGet k (Hd.propDel r k) = none ∧ (∀ k', k' ≠ k → propGet k' (Hd.propDel r k) = propGet k' r) :=
  ⟨Hd.lookup_delKey_self _ _, fun _ hk => Hd.lookup_delKey_ne _ _ _ hk⟩

/-- `append_link` is `append_header('Link', value)` of the header-store model (so the `Hd` history theorems cover it) -/
theorem appendLink_eq_appendHeader (c : Hd.Cfg Name κ) (n : Name) (hn : c.norm n ≠ c.cookie) (r : Hd.Resp κ) (a : LinkArgs) :
    appendLink (c.norm n) r a = (linkValue a).map (fun v => Hd.appendHeader c r n (toS v)) := by
  unfold appendLink
  congr 1
  funext v
  unfold Hd.appendHeader
  rw [if_neg hn]
  cases Hd.lookup r.headers (c.norm n) <;> rfl

/-- the Link header after `append_link`: the new link alone, or the old value + ", " + the new link; nothing else changes;
    a rejected call (`none`) leaves the store as it was because nothing is written before the ValueError -/
theorem link_header_after_append (klink : κ) (r r' : Hd.Resp κ) (a : LinkArgs) (h : appendLink klink r a = some r') :
    ∃ v, linkValue a = some v ∧
      propGet klink r' = some (match propGet klink r with | some old => old ++ ", " ++ toS v | none => toS v) ∧
      (∀ k', k' ≠ klink → propGet k' r' = propGet k' r) ∧ r'.extra = r.extra ∧ r'.cookies = r.cookies := by
  obtain ⟨v, hv, rfl⟩ := Option.map_eq_some_iff.mp h
  refine ⟨v, hv, ?_⟩
  unfold propGet
  cases Hd.lookup r.headers klink <;> exact propGet_setKey klink r _
end store

/-! ### list-valued properties and Content-Range read back -/
/-- **`header_value_list_join`**: the members joined by ", "; splitting at ", " returns them (no member contains ", ") -/
theorem header_value_list_join (items : List Str) :
    formatList items = join [44, 32] items ∧
    (items ≠ [] → (∀ p ∈ items, contains2 44 32 p = false) → split2 44 32 (formatList items) = items) :=
  ⟨rfl, fun hne hp => split2_join 44 32 (by decide) items hne hp⟩

example : formatList [[97], [], [98, 44, 99]] = [97, 44, 32, 44, 32, 98, 44, 99] ∧
    split2 44 32 (formatList [[97], [], [98, 44, 99]]) = [[97], [], [98, 44, 99]] := by decide +kernel
/-- a `str` handed to such a property is an iterable of its characters -/
example : formatList ([97, 98, 99].map (fun c => [c])) = [97, 44, 32, 98, 44, 32, 99] := by decide

theorem strMembers_map_str (l : List Str) : strMembers (l.map Item.str) = some l := by
  induction l with
  | nil => rfl
  | cons a t ih => simp [strMembers, ih]

theorem strMembers_some (t : List Item) (l : List Str) (h : strMembers t = some l) : t = l.map Item.str := by
  induction t generalizing l with
  | nil => simp [strMembers] at h; subst h; rfl
  | cons a t ih =>
    cases a with
    | int i => simp [strMembers] at h
    | str s =>
      simp only [strMembers, Option.map_eq_some_iff] at h
      obtain ⟨l', hl', rfl⟩ := h
      simp [ih l' hl']

/-- **`header_value_items_join`**: an iterable handed to cache_control / vary stores exactly what the LIST of the items it yields
    gives: the members joined by ", " when all of them are str, and otherwise the join raises (TypeError) and nothing is stored -/
theorem header_value_items_join (t : List Item) :
    (∀ l : List Str, t = l.map Item.str → formatItems t = some (formatList l)) ∧
    (∀ s, formatItems t = some s → ∃ l : List Str, t = l.map Item.str ∧ s = formatList l) ∧
    (formatItems t = none ↔ ∃ i, Item.int i ∈ t) := by
  refine ⟨?_, ?_, ?_⟩
  · intro l hl; subst hl; simp [formatItems, strMembers_map_str]
  · intro s hs
    simp only [formatItems, Option.map_eq_some_iff] at hs
    obtain ⟨l, hl, rfl⟩ := hs
    exact ⟨l, strMembers_some t l hl, rfl⟩
  · induction t with
    | nil => simp [formatItems, strMembers]
    | cons a t ih =>
      cases a with
      | int i => simp [formatItems, strMembers]
      | str s =>
        simp only [formatItems, strMembers, Option.map_map, Option.map_eq_none_iff] at ih ⊢
        simp [ih]

example : formatItems [.str [97], .str [98, 99]] = some [97, 44, 32, 98, 99] := by decide
example : formatItems [.str [97], .int 5] = none := by decide
example : formatItems [] = some [] := by decide

/-- on the store: `resp.vary = <iterable>` / `resp.cache_control = <iterable>` either stores the join of the str members or raises
    and stores nothing -/
theorem assign_items (nfkd : Str → Str) (r : Hd.Resp String) (t : List Item) :
    assign nfkd .vary r (some (.tuple t)) = (formatItems t).map (fun s => Hd.propSet r "vary" (toS s)) ∧
    assign nfkd .cacheControl r (some (.tuple t)) = (formatItems t).map (fun s => Hd.propSet r "cache-control" (toS s)) := ⟨rfl, rfl⟩

theorem natDec_digits (n : Nat) : ∀ c ∈ natDec n, 48 ≤ c ∧ c ≤ 57 := by
  intro c hc
  unfold natDec at hc
  obtain ⟨ch, hch, rfl⟩ := List.mem_map.mp hc
  have := Nat.isDigit_of_mem_toDigits (by decide) (by decide) hch
  unfold Char.isDigit at this
  simp only [Bool.and_eq_true, decide_eq_true_eq] at this
  exact ⟨UInt32.le_iff_toNat_le.mp this.1, UInt32.le_iff_toNat_le.mp this.2⟩

/-- `int(str(n)) == n` -/
theorem digitsVal_natDec (n : Nat) : digitsVal (natDec n) = n := by
  unfold digitsVal natDec
  rw [List.foldl_map]
  have := Nat.ofDigitChars_toDigits (b := 10) (n := n) (by decide) (by decide)
  rw [Nat.ofDigitChars_eq_foldl] at this
  exact this

/-- **a Content-Range reader gets the numbers back**: for non-negative `first`, `last`, any length text and a unit without a
    blank, `unit SP first "-" last "/" length` parses into exactly these -/
theorem content_range_reads_back (first last : Nat) (len : Item) (unit : Str) (hu : 32 ∉ unit) :
    ∃ v, formatRange [.int first, .int last, len, .str unit] = some v ∧ parseRange v = some (unit, first, last, len.render) := by
  have hr : ∀ n : Nat, (Item.int (n : Int)).render = natDec n := fun n => by
    rw [Item.render, if_neg (Int.not_lt.mpr (Int.natCast_nonneg n))]; rfl
  refine ⟨_, rfl, ?_⟩
  rw [hr, hr, Item.render, parseRange]
  simp only [List.append_assoc, List.cons_append, List.nil_append]
  rw [takeUntil_append 32 unit _ hu]
  dsimp only
  rw [takeUntil_append 45 (natDec first) _ (fun hm => absurd (natDec_digits first 45 hm).1 (by decide))]
  dsimp only
  rw [takeUntil_append 47 (natDec last) _ (fun hm => absurd (natDec_digits last 47 hm).1 (by decide))]
  dsimp only
  rw [digitsVal_natDec, digitsVal_natDec]

theorem content_range_bytes_reads_back (first last : Nat) (len : Item) :
    ∃ v, formatRange [.int first, .int last, len] = some v ∧ parseRange v = some (sBytes, first, last, len.render) := by
  obtain ⟨v, h1, h2⟩ := content_range_reads_back first last len sBytes (by decide)
  exact ⟨v, h1, h2⟩

example : formatRange [.int 0, .int 499, .int 1234] = some [98, 121, 116, 101, 115, 32, 48, 45, 52, 57, 57, 47, 49, 50, 51, 52] := by decide +kernel
example : formatRange [.int 5, .int 5, .str [42], .str [105, 116, 101, 109, 115]] = some [105, 116, 101, 109, 115, 32, 53, 45, 53, 47, 42] := by decide +kernel

/-! ### the whole Link value is ASCII text when the free-text arguments are -/
theorem txt_lits : Txt [34] ∧ Txt [32] ∧ Txt sSep ∧ Txt pCross ∧ Txt pCrossUC ∧ Txt pRel ∧ Txt pTitle ∧ Txt pTitleStar ∧ Txt pType ∧ Txt pHreflang ∧
    Txt pAnchor ∧ Txt [39] ∧ Txt [61] ∧ Txt [60] ∧ Txt [62] := by
  unfold Txt; decide +kernel

theorem Txt.join {sep : Str} (hs : Txt sep) (ps : List Str) (h : ∀ p ∈ ps, Txt p) : Txt (join sep ps) := by
  intro c hc
  rcases mem_join hc with hc | ⟨p, hp, hc⟩
  · exact hs c hc
  · exact h p hp c hc

theorem Txt.glue (ps : List Str) (h : ∀ p ∈ ps, Txt p) : Txt (glue ps) := by
  intro c hc
  unfold Rp.glue at hc
  obtain ⟨p, hp, hcp⟩ := List.mem_flatMap.mp hc
  exact (txt_lits.2.2.1.append (h p hp)) c hcp

theorem Txt.joinPieces (l : List Str) (h : ∀ p ∈ l, Txt p) : ∀ p ∈ joinPieces l, Txt p := by
  unfold Rp.joinPieces
  split
  · intro p hp; rw [List.mem_singleton.mp hp]; exact nofun
  · exact h

theorem Txt.location (s : Str) (hv : ValidStr s) : Txt (location s) :=
  Txt.of_visible (location_ascii_and_decodes_back s hv).1

/-- the arguments that are written as they are -/
def freeTextAscii (a : LinkArgs) : Bool :=
  (contains2 47 47 a.rel || txtB a.rel) &&
  (match a.title with | none => true | some t => txtB t) &&
  (match a.titleStar with | none => true | some p => txtB p.1) &&
  (match a.typeHint with | none => true | some t => txtB t) &&
  (match a.hreflang with | none => true | some (.one l) => txtB l | some (.many ls) => ls.all txtB) &&
  (match a.linkExtension with | none => true | some e => e.all (fun pv => txtB pv.1 && txtB pv.2))

/-- the arguments that go through a URI encoder are strs of scalar values -/
def UriArgsValid (a : LinkArgs) : Prop :=
  ValidStr a.target ∧ (contains2 47 47 a.rel = true → ValidStr a.rel) ∧
  (∀ x, a.anchor = some x → ValidStr x) ∧ (∀ l x, a.titleStar = some (l, x) → ValidStr x)

theorem Txt.relText (rel : Str) (h : contains2 47 47 rel = true → ValidStr rel) (ht : contains2 47 47 rel = false → Txt rel) :
    Txt (relText rel) := by
  have hq := txt_lits.1
  cases h47 : contains2 47 47 rel with
  | false => rw [rel_plain rel h47]; exact ht h47
  | true =>
    have hv := h h47
    cases h32 : rel.contains 32 with
    | false =>
      rw [(rel_ext_single rel hv h47 h32).1]
      exact (hq.append (Txt.location rel hv)).append hq
    | true =>
      have hm := rel_ext_members rel hv h47 h32
      simp only at hm
      rw [hm.1]
      refine (hq.append (Txt.join txt_lits.2.1 _ ?_)).append hq
      intro p hp
      obtain ⟨m, hmm, rfl⟩ := List.mem_map.mp hp
      exact Txt.of_visible (hm.2.2.2 m hmm).2.1

theorem Txt.crossP (c : Option Str) (cp : List Str) (h : crossP c = some cp) : ∀ p ∈ cp, Txt p := by
  have hl := txt_lits.2.2.2
  cases c with
  | none => cases h; exact nofun
  | some c =>
    rw [Rp.crossP] at h
    split at h
    · cases h; exact List.forall_mem_singleton.mpr hl.1
    · split at h
      · cases h; exact List.forall_mem_singleton.mpr hl.2.1
      · cases h

/-- **every character of a Link value is printable ASCII** - whatever the target, anchor, title* text and extension relation
    types are (unicode, control characters, …) - provided the arguments falcon writes verbatim (plain rel, title, language tags,
    type hint, extension pairs) are printable ASCII themselves -/
theorem link_value_ascii (a : LinkArgs) (v : Str) (h : linkValue a = some v) (hf : freeTextAscii a = true) (hu : UriArgsValid a) :
    Txt v := by
  obtain ⟨cp, hc, rfl⟩ := linkValue_some a v h
  obtain ⟨target, rel, title, titleStar, anchor, hreflang, typeHint, crossorigin, ext⟩ := a
  unfold freeTextAscii at hf
  simp only [Bool.and_eq_true, Bool.or_eq_true] at hf
  obtain ⟨⟨⟨⟨⟨hrel, htitle⟩, hstar⟩, htype⟩, hhl⟩, hext⟩ := hf
  obtain ⟨hvt, hvr, hva, hvs⟩ := hu
  obtain ⟨hq, -, -, -, -, lRel, lTitle, lTitleStar, lType, lHreflang, lAnchor, l39, l61, l60, l62⟩ := txt_lits
  refine ((l60.append (Txt.location _ hvt)).append l62).append (Txt.glue _ ?_)
  simp only [linkParams, List.forall_mem_append]
  refine ⟨⟨⟨⟨⟨⟨⟨?_, ?_⟩, ?_⟩, ?_⟩, ?_⟩, ?_⟩, Txt.crossP _ cp hc⟩, ?_⟩
  · refine List.forall_mem_singleton.mpr (lRel.append (Txt.relText _ hvr (fun h47 => ?_)))
    exact Txt.of_txtB (hrel.resolve_left (fun h => Bool.false_ne_true (h47.symm.trans h)))
  · cases title with
    | none => exact nofun
    | some t => exact List.forall_mem_singleton.mpr ((lTitle.append (Txt.of_txtB htitle)).append hq)
  · cases titleStar with
    | none => exact nofun
    | some t =>
      exact List.forall_mem_singleton.mpr (((lTitleStar.append (Txt.of_txtB hstar)).append l39).append
        (Txt.of_visible (fun c hc => (encodeValueCheck_out t.2 (hvs t.1 t.2 rfl) c hc).facts.1)))
  · cases typeHint with
    | none => exact nofun
    | some t => exact List.forall_mem_singleton.mpr ((lType.append (Txt.of_txtB htype)).append hq)
  · cases hreflang with
    | none => exact nofun
    | some t =>
      cases t with
      | one l => exact List.forall_mem_singleton.mpr (lHreflang.append (Txt.of_txtB hhl))
      | many ls =>
        refine Txt.joinPieces _ (List.forall_mem_map.mpr (fun l hl => ?_))
        exact lHreflang.append (Txt.of_txtB (List.all_eq_true.mp hhl l hl))
  · cases anchor with
    | none => exact nofun
    | some x => exact List.forall_mem_singleton.mpr ((lAnchor.append (Txt.location x (hva x rfl))).append hq)
  · cases ext with
    | none => exact nofun
    | some e =>
      refine Txt.joinPieces _ (List.forall_mem_map.mpr (fun pv hpv => ?_))
      have := Bool.and_eq_true_iff.mp (List.all_eq_true.mp hext pv hpv)
      exact ((Txt.of_txtB this.1).append l61).append (Txt.of_txtB this.2)

def exampleLink : LinkArgs :=
  { target := [47, 233, 1], rel := [110, 101, 120, 116], title := some [65, 32, 116], titleStar := some ([101, 110], [0x65E5]),
    anchor := some [35, 32], hreflang := some (Hreflang.many [[101, 110], [100, 101]]) }
example : freeTextAscii exampleLink = true := by decide +kernel
theorem formatEtag_none_iff (v : Str) : formatEtag v = none ↔ v = [] := by
  unfold formatEtag
  cases h : v.getLast? with
  | none => simp [List.getLast?_eq_none_iff.mp h]
  | some c =>
    have : v ≠ [] := by intro e; subst e; simp at h
    simp only [this, iff_false]
    split <;> simp

/-- what the transform does: wraps unless the last character is '"' -/
theorem formatEtag_spec (v : Str) (c : Nat) (h : v.getLast? = some c) :
    formatEtag v = some (if c = 34 then v else [34] ++ v ++ [34]) := by
  unfold formatEtag; rw [h]
  by_cases hc : c = 34
  · subst hc; simp
  · simp [hc]

/-- **`etag_quoting_idempotent`**: a result of the transform ends with '"' and is left alone by the transform -/
theorem etag_quoting_idempotent (v e : Str) (h : formatEtag v = some e) : formatEtag e = some e ∧ e.getLast? = some 34 := by
  cases hl : v.getLast? with
  | none => rw [formatEtag, hl] at h; cases h
  | some c =>
    rw [formatEtag_spec v c hl] at h
    have hlast : e.getLast? = some 34 := by
      rw [← Option.some.inj h]
      split
      · rename_i hc; rw [hl, hc]
      · rw [List.getLast?_append]; rfl
    exact ⟨formatEtag_spec e 34 hlast, hlast⟩

example : formatEtag [97, 98] = some [34, 97, 98, 34] ∧ formatEtag [87, 47, 34, 97, 34] = some [87, 47, 34, 97, 34] := by decide +kernel

theorem content_range_format_exact :
    (∀ a b c : Item, formatRange [a, b, c] = some (sBytes ++ [32] ++ a.render ++ [45] ++ b.render ++ [47] ++ c.render)) ∧
    (∀ a b c u : Item, formatRange [a, b, c, u] = some (u.render ++ [32] ++ a.render ++ [45] ++ b.render ++ [47] ++ c.render)) ∧
    (∀ (a b c u w : Item) (r : List Item), formatRange (a :: b :: c :: u :: w :: r) =
        some (sBytes ++ [32] ++ a.render ++ [45] ++ b.render ++ [47] ++ c.render)) ∧
    (∀ l : List Item, l.length < 3 → formatRange l = none) := by
  refine ⟨fun _ _ _ => rfl, fun _ _ _ _ => rfl, fun _ _ _ _ _ _ => rfl, ?_⟩
  intro l hl
  match l with
  | [] | [_] | [_, _] => rfl
  | _ :: _ :: _ :: r => exact absurd hl (Nat.not_lt.mpr (Nat.le_add_left 3 r.length))
/-! ### the descriptors on the header store -/
section store
variable {Name κ : Type} [DecidableEq κ]

theorem property_set_get_roundtrip {α : Type} (k : κ) (t : α → Option Str) (r : Hd.Resp κ) (v : α) (s : Str) (ht : t v = some s) :
    ∃ r', propAssign k t r (some v) = some r' ∧ propGet k r' = some (toS s) ∧
      (∀ k', k' ≠ k → propGet k' r' = propGet k' r) ∧ r'.extra = r.extra ∧ r'.cookies = r.cookies :=
  ⟨Hd.propSet r k (toS s), by simp [propAssign, ht], propGet_setKey k r _⟩

/-- a transform that raises leaves no new store behind (the assignment statement is never reached) -/
theorem property_transform_raises {α : Type} (k : κ) (t : α → Option Str) (r : Hd.Resp κ) (v : α) (ht : t v = none) :
    propAssign k t r (some v) = none := by
  simp [propAssign, ht]

/-- **`property_none_deletes`**: assigning None never raises, removes the header and nothing else -/
theorem property_none_deletes {α : Type} (k : κ) (t : α → Option Str) (r : Hd.Resp κ) :
    ∃ r', propAssign k t r none = some r' ∧ propGet k r' = none ∧
      (∀ k', k' ≠ k → propGet k' r' = propGet k' r) ∧ r'.extra = r.extra ∧ r'.cookies = r.cookies :=
  ⟨Hd.propDel r k, rfl, (propGet_propDel k r).1, (propGet_propDel k r).2, rfl, rfl⟩

/-- `del resp.<prop>` raises KeyError exactly when the header is absent, and otherwise removes it -/
theorem property_del (k : κ) (r : Hd.Resp κ) :
    (propGet k r = none → propDelete k r = none) ∧
    (propGet k r ≠ none → ∃ r', propDelete k r = some r' ∧ propGet k r' = none ∧ (∀ k', k' ≠ k → propGet k' r' = propGet k' r)) := by
  unfold propDelete propGet
  constructor
  · intro h; rw [h]; rfl
  · intro h
    cases hl : Hd.lookup r.headers k with
    | none => exact absurd hl h
    | some x => exact ⟨Hd.propDel r k, by simp, propGet_propDel k r⟩

/-- the descriptors are the `propSet` / `propDel` operations of the history theorems of `Hd` -/
theorem propAssign_eq_applyOp {α : Type} (c : Hd.Cfg Name κ) (k : κ) (hk : k ≠ c.cookie) (t : α → Option Str) (r : Hd.Resp κ) :
    (∀ v s, t v = some s → propAssign k t r (some v) = some (Hd.applyOp c r (.propSet k (toS s)))) ∧
    propAssign k t r none = some (Hd.applyOp c r (.propDel k)) := by
  constructor
  · intro v s ht
    simp [propAssign, ht, Hd.applyOp, hk]
  · rfl

/-- … so a property that was set is read back by `get_header` in every spelling of its name -/
theorem property_get_header {α : Type} (c : Hd.Cfg Name κ) (k : κ) (hk : k ≠ c.cookie) (t : α → Option Str) (r r' : Hd.Resp κ)
    (v : α) (s : Str) (ht : t v = some s) (h : propAssign k t r (some v) = some r') (b : Name) (hb : c.norm b = k) :
    Hd.getHeader c r' b = some (some (toS s)) := by
  simp only [propAssign, ht, Option.map_some, Option.some.injEq] at h
  subst h
  unfold Hd.getHeader
  rw [hb, if_neg hk]
  exact congrArg some (propGet_setKey k r _).1
end store

theorem key_ne_cookie (p : HProp) : p.key ≠ "set-cookie" := by
  cases p <;> simp only [HProp.key, ne_eq, String.reduceEq, not_false_eq_true]

/-- the concrete properties: what `resp.<prop> = value` stores is what `resp.<prop>` returns; `= None` deletes -/
theorem assign_get (nfkd : Str → Str) (p : HProp) (r : Hd.Resp String) (v : Val) (s : Str) (ht : p.transform nfkd v = some s) :
    ∃ r', assign nfkd p r (some v) = some r' ∧ propGet p.key r' = some (toS s) ∧
      (∀ k', k' ≠ p.key → propGet k' r' = propGet k' r) ∧ r'.extra = r.extra ∧ r'.cookies = r.cookies :=
  property_set_get_roundtrip p.key (p.transform nfkd) r v s ht
theorem assign_none (nfkd : Str → Str) (p : HProp) (r : Hd.Resp String) :
    ∃ r', assign nfkd p r none = some r' ∧ propGet p.key r' = none ∧ (∀ k', k' ≠ p.key → propGet k' r' = propGet k' r) :=
  let ⟨r', h1, h2, h3, _⟩ := property_none_deletes p.key (p.transform nfkd) r
  ⟨r', h1, h2, h3⟩

example : linkValue exampleLink = some [60, 47, 37, 67, 51, 37, 65, 57, 37, 48, 49, 62, 59, 32, 114, 101, 108, 61, 110, 101, 120, 116, 59, 32, 116, 105,
    116, 108, 101, 61, 34, 65, 32, 116, 34, 59, 32, 116, 105, 116, 108, 101, 42, 61, 85, 84, 70, 45, 56, 39, 101, 110, 39,
    37, 69, 54, 37, 57, 55, 37, 65, 53, 59, 32, 104, 114, 101, 102, 108, 97, 110, 103, 61, 101, 110, 59, 32, 104, 114, 101,
    102, 108, 97, 110, 103, 61, 100, 101, 59, 32, 97, 110, 99, 104, 111, 114, 61, 34, 35, 37, 50, 48, 34] := by decide +kernel
end Rp
