import FalconModel.FinalizeHist
import FalconModel.FinalizeErrProofs
/-! C05: theorems about histories on one response (`FinalizeHist.lean`), for **every** sequence of assignments of
    text / data / media (values and None), header assignments and `render_body()` calls (returning or raising):
    * `inv_run`                  the `_media_rendered` cache is `_UNSET` or the serialised form of the media currently
                                 assigned (and then the response is typed) - an invariant of every operation;
    * `renderC_eq`, `renderC_fst`   with such a cache `render_body()` is the cache-free `Fz.renderBody`: every call that
                                 returns, returns text, else data, else the serialised media *as assigned at that moment*;
    * `history_wsgi`, `history_asgi`   what the two `__call__`s hand to the server after the history is `Fz.wsgi` /
                                 `Fz.asgi` of the state it left: all `Fz` theorems apply to it;
    * `run_attrs`                last assignment wins; `render_body()` and header assignments do not touch the attributes;
    * `history_body_precedence`  the payload is text > data > media > stream of the values assigned last. -/
namespace Fh
open Fz

theorem hasKey_setKey_self (m : List (String × String)) (k v : String) : hasKey (setKey m k v) k = true := by
  unfold setKey hasKey
  split
  · rename_i h; rw [any_replace]; exact h
  · rw [List.any_append, List.any_cons, beq_self_eq_true]; exact Bool.or_true _

theorem hasKey_setKey_mono (m : List (String × String)) (k v k' : String) (h : hasKey m k' = true) :
    hasKey (setKey m k v) k' = true := by
  unfold setKey hasKey at *
  split
  · rw [any_replace]; exact h
  · rw [List.any_append, h]; rfl

/-- the cache is `_UNSET` or holds the serialised form of the media currently assigned, and in the latter case the
    response is typed (or there is no default type to store) -/
def Inv (c : Cfg) (s : St) : Prop :=
  ∀ x, s.cache = some x → s.r.media = some x ∧ (hasKey s.r.headers "content-type" = true ∨ c.respDefaultType = none)

theorem inv_init (c : Cfg) (r : Resp) : Inv c { r := r, cache := none } := by
  intro x hx; cases hx

theorem inv_step (c : Cfg) (s : St) (op : Op) (h : Inv c s) : Inv c (step c s op) := by
  cases op with
  | setText v => intro x hx; exact h x hx
  | setData v => intro x hx; exact h x hx
  | setMedia v => intro x hx; cases hx
  | setHeader k v =>
    intro x hx
    obtain ⟨h1, h2⟩ := h x hx
    refine ⟨h1, ?_⟩
    rcases h2 with h2 | h2
    · left; exact hasKey_setKey_mono _ _ _ _ h2
    · right; exact h2
  | render mr =>
    unfold step renderC
    cases ht : s.r.text with
    | some t => exact h
    | none =>
      cases hd : s.r.data with
      | some d => exact h
      | none =>
        cases hm : s.r.media with
        | none => exact h
        | some m =>
          cases hc : s.cache with
          | some x => exact h
          | none =>
            simp only
            cases mr with
            | true =>
              simp only [if_true]
              intro x hx
              cases hx
            | false =>
              simp only [Bool.false_eq_true, if_false]
              intro x hx
              simp only [Option.some.injEq] at hx
              subst hx
              by_cases hk : hasKey s.r.headers "content-type" = true
              · rw [if_pos hk]
                exact ⟨hm, Or.inl hk⟩
              · rw [if_neg hk]
                cases hdt : c.respDefaultType with
                | none => exact ⟨hm, Or.inr rfl⟩
                | some t => exact ⟨hm, Or.inl (hasKey_setKey_self _ _ _)⟩

theorem inv_run (c : Cfg) (ops : List Op) : ∀ s, Inv c s → Inv c (run c s ops) := by
  induction ops with
  | nil => intro s h; exact h
  | cons op rest ih => intro s h; exact ih _ (inv_step c s op h)

/-- **with a sound cache `render_body()` is the cache-free function of the attributes**: it returns what
    `Fz.renderBody` returns for the response as it stands and leaves the response `Fz.renderBody` leaves
    (`false`: serialising the media currently assigned does not raise) -/
theorem renderC_eq (c : Cfg) (s : St) (h : Inv c s) :
    (renderC s false c).1 = some (renderBody s.r c).1 ∧ (renderC s false c).2.r = (renderBody s.r c).2 := by
  obtain ⟨⟨status, text, data, media, stream, sf, headers, cookies⟩, cache⟩ := s
  unfold renderC renderBody
  cases text with
  | some t => exact ⟨rfl, rfl⟩
  | none =>
    cases data with
    | some d => exact ⟨rfl, rfl⟩
    | none =>
      cases media with
      | none => exact ⟨rfl, rfl⟩
      | some m =>
        cases cache with
        | none => exact ⟨rfl, rfl⟩
        | some x =>
          obtain ⟨h1, h2⟩ := h x rfl
          simp only [Option.some.injEq] at h1
          subst h1
          refine ⟨rfl, ?_⟩
          simp only at h2 ⊢
          rcases h2 with h2 | h2
          · rw [if_pos h2]
          · rw [h2]; split <;> rfl

/-- whatever the flag: a `render_body()` call that returns, returns the attributes' value by precedence
    text > data > media (the cache never shadows an attribute assigned later) -/
theorem renderC_fst (c : Cfg) (s : St) (mr : Bool) (h : Inv c s) :
    (renderC s mr c).1 = none ∨ (renderC s mr c).1 = some (rendered s.r) := by
  unfold renderC rendered
  cases ht : s.r.text with
  | some t => exact Or.inr rfl
  | none =>
    cases hd : s.r.data with
    | some d => exact Or.inr rfl
    | none =>
      cases hm : s.r.media with
      | none => exact Or.inr rfl
      | some m =>
        cases hc : s.cache with
        | none =>
          cases mr with
          | true => exact Or.inl rfl
          | false => exact Or.inr rfl
        | some x =>
          obtain ⟨h1, _⟩ := h x hc
          rw [hm] at h1
          simp only [Option.some.injEq] at h1
          subst h1
          exact Or.inr rfl

theorem wsgiH_eq (c : Cfg) (s : St) (h : Inv c s) : wsgiH c s false = some (wsgi s.r c) := by
  obtain ⟨h1, h2⟩ := renderC_eq c s h
  unfold wsgiH
  rcases hr : renderC s false c with ⟨d, s1⟩
  rw [hr] at h1 h2
  simp only at h1 h2
  subst h1
  simp only
  rw [h2, Fe.wsgi_eq_tail]

theorem asgiH_eq (c : Cfg) (s : St) (h : Inv c s) : asgiH c s false = some (asgi s.r c) := by
  obtain ⟨h1, h2⟩ := renderC_eq c s h
  unfold asgiH
  rcases hr : renderC s false c with ⟨d, s1⟩
  rw [hr] at h1 h2
  simp only at h1 h2
  subst h1
  simp only
  rw [h2, Fe.asgi_eq_tail]

/-- **after any history the framework finalizes the attributes' final values**: for every sequence of assignments of
    text / data / media (values and None, in any order, repeated), header assignments and `render_body()` calls
    (returning or raising) on a fresh response, what `falcon.App.__call__` hands to the server is `Fz.wsgi` of the
    response state the history left - so every `Fz` theorem (precedence, Content-Length, bodiless, Content-Type) holds
    for it, judged on the values assigned last -/
theorem history_wsgi (c : Cfg) (r0 : Resp) (ops : List Op) :
    wsgiH c (run c { r := r0, cache := none } ops) false = some (wsgi (run c { r := r0, cache := none } ops).r c) :=
  wsgiH_eq c _ (inv_run c ops _ (inv_init c r0))

theorem history_asgi (c : Cfg) (r0 : Resp) (ops : List Op) :
    asgiH c (run c { r := r0, cache := none } ops) false = some (asgi (run c { r := r0, cache := none } ops).r c) :=
  asgiH_eq c _ (inv_run c ops _ (inv_init c r0))

/-- `render_body()` changes nothing on the response but, possibly, its header dict -/
theorem renderC_frame (c : Cfg) (s : St) (mr : Bool) : ∃ hd, (renderC s mr c).2.r = { s.r with headers := hd } := by
  unfold renderC
  cases s.r.text with
  | some t => exact ⟨_, rfl⟩
  | none =>
    cases s.r.data with
    | some d => exact ⟨_, rfl⟩
    | none =>
      cases s.r.media with
      | none => exact ⟨_, rfl⟩
      | some m =>
        cases s.cache with
        | some x => exact ⟨_, rfl⟩
        | none =>
          cases hasKey s.r.headers "content-type" <;> cases c.respDefaultType <;> cases mr <;> exact ⟨_, rfl⟩

/-- last assignment wins: the attributes the history leaves are the values assigned last (`render_body()` and header
    assignments never touch them), and status, stream and cookies are untouched -/
theorem run_attrs (c : Cfg) (ops : List Op) : ∀ s : St,
    (run c s ops).r.text = lastText ops s.r.text ∧ (run c s ops).r.data = lastData ops s.r.data ∧
    (run c s ops).r.media = lastMedia ops s.r.media ∧ (run c s ops).r.status = s.r.status ∧
    (run c s ops).r.stream = s.r.stream ∧ (run c s ops).r.streamFail = s.r.streamFail ∧
    (run c s ops).r.cookies = s.r.cookies := by
  induction ops with
  | nil => intro s; exact ⟨rfl, rfl, rfl, rfl, rfl, rfl, rfl⟩
  | cons op rest ih =>
    intro s
    cases op with
    | setText v => exact ih (step c s (.setText v))
    | setData v => exact ih (step c s (.setData v))
    | setMedia v => exact ih (step c s (.setMedia v))
    | setHeader k v => exact ih (step c s (.setHeader k v))
    | render mr =>
      obtain ⟨hd, e⟩ := renderC_frame c s mr
      have h := ih (renderC s mr c).2
      rw [e] at h
      exact h

/-- **body precedence over histories**: non-HEAD, body-bearing status: after any history the payload the server receives
    is the text assigned last if that is not None, else the data assigned last, else the serialised media assigned last,
    else what the stream delivers - whatever `render_body()` calls happened in between -/
theorem history_body_precedence (c : Cfg) (r0 : Resp) (ops : List Op) (hh : c.head = false)
    (hb : bodiless r0.status = false) :
    ∃ o, wsgiH c (run c { r := r0, cache := none } ops) false = some o ∧
      o.payload = expectedPayload { r0 with text := lastText ops r0.text, data := lastData ops r0.data,
                                            media := lastMedia ops r0.media } := by
  refine ⟨_, history_wsgi c r0 ops, ?_⟩
  obtain ⟨f1, f2, f3, f4, f5, f6, _⟩ := run_attrs c ops { r := r0, cache := none }
  rw [body_precedence _ c hh (by rw [f4]; exact hb)]
  unfold expectedPayload rendered
  simp only [f1, f2, f3, f5, f6]

/-- the seeded defect as a history: media, render_body(), then data - data is the payload -/
example : (wsgiH { head := false, appDefaultType := none, respDefaultType := none, fileWrapper := false }
    (run { head := false, appDefaultType := none, respDefaultType := none, fileWrapper := false }
      { r := { status := 200, text := none, data := none, media := none, stream := none, streamFail := none,
               headers := [], cookies := [] }, cache := none }
      [.setMedia (some [109]), .render false, .setData (some [100])]) false).map (·.body) = some [[100]] := by decide

end Fh
