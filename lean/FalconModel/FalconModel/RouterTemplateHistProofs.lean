import FalconModel.RouterTemplateProofs
import FalconModel.RouterHistProofs
/-! C01: `add_route` over RAW template strings = native validation (`Rv.validate`) ; `Ri.insert`.  A call rejected by the
    validation never reaches `insert`; rejected calls can be removed from a history; the segment table that
    `Rh.history_compile_correct` took as a hypothesis (`hinj`, `hcons`) is computed from the text, so the end-to-end
    statement holds for every history of raw templates without side conditions on the table. -/
namespace Rv
open Ri Rh

theorem char_toNat_lt (c : Char) : c.toNat < 1114112 := by
  rcases c.valid with h | h
  · exact Nat.lt_trans h (by decide)
  · exact h.2

theorem enc_ge_length : ∀ s : Str, s.length ≤ enc s := by
  intro s
  induction s with
  | nil => simp [enc]
  | cons c cs ih => simp only [enc, List.length_cons]; omega

/-- the lowest digit `d + 1` of a base-`b` numeral and the rest -/
theorem digit_div_mod (b d n : Nat) (hd : d + 1 < b) : (d + 1 + b * n) % b = d + 1 ∧ (d + 1 + b * n) / b = n := by
  rw [Nat.add_mul_mod_self_left, Nat.mod_eq_of_lt hd, Nat.add_mul_div_left _ _ (Nat.zero_lt_of_lt hd),
    Nat.div_eq_of_lt hd, Nat.zero_add]
  exact ⟨rfl, rfl⟩

theorem decF_enc : ∀ (s : Str) (f : Nat), s.length ≤ f → decF f (enc s) = s
  | [], f, _ => by cases f <;> rfl
  | c :: cs, 0, hf => absurd hf (Nat.not_succ_le_zero _)
  | c :: cs, f + 1, hf => by
    have hd := digit_div_mod 1114113 c.toNat (enc cs) (Nat.succ_lt_succ (char_toNat_lt c))
    have h0 : enc (c :: cs) ≠ 0 := Nat.ne_of_gt (Nat.lt_of_lt_of_le (Nat.succ_pos _) (Nat.le_add_right _ _))
    rw [decF, if_neg h0, enc, hd.1, hd.2, Nat.add_sub_cancel, Char.ofNat_toNat, decF_enc cs f (Nat.le_of_succ_le_succ hf)]
theorem dec_enc (s : Str) : dec (enc s) = s := decF_enc s _ (enc_ge_length s)

theorem enc_inj {a b : Str} (h : enc a = enc b) : a = b := by
  rw [← dec_enc a, ← dec_enc b, h]

/-! ### `add_route` = validation ; insert -/

/-- **`rejected_before_insert_unchanged`**: a template rejected by the validation does not reach `insert`: the composed
    `addRoute` returns the tree it was given -/
theorem rejected_before_insert_unchanged (cenv : Cenv) (route : Nat) (t : Str) (tree : List Tree) (k : Rej)
    (h : validate cenv t = .error k) : addRoute cenv route t tree = (tree, .rej k) := by
  simp only [addRoute, h]

/-- a call that raises — in the validation or inside `insert` — leaves the tree as it was -/
theorem addRoute_rejected_unchanged (cenv : Cenv) (route : Nat) (t : Str) (tree : List Tree)
    (h : (addRoute cenv route t tree).2 ≠ .ok) : (addRoute cenv route t tree).1 = tree := by
  unfold addRoute at h ⊢
  split
  · rfl
  · rename_i recs hv
    simp only [hv] at h
    cases hi : (insert true route (recs.map toSeg) tree).2 with
    | true => simp [hi] at h
    | false => exact rejected_insert_unchanged route _ tree hi

theorem addRoute_history_rejected_removed (cenv : Cenv) : ∀ (h : List Call) (t : List Tree),
    runT cenv t h = runT cenv t (acceptedT cenv t h) := by
  intro h
  induction h with
  | nil => intro t; rfl
  | cons a h ih =>
    intro t
    by_cases hacc : (addRoute cenv a.1 a.2 t).2 = .ok
    · simp only [acceptedT, hacc, if_true, runT]
      exact ih _
    · have hu := addRoute_rejected_unchanged cenv a.1 a.2 t hacc
      simp only [acceptedT, hacc, if_false, runT]
      rw [hu]
      exact ih t

/-- the calls that get past the validation, as `insert` sees them -/
def lower (cenv : Cenv) : List Call → List Add
  | [] => []
  | a :: h =>
    match validate cenv a.2 with
    | .error _ => lower cenv h
    | .ok recs => (a.1, recs.map toSeg) :: lower cenv h

theorem runT_eq_runH (cenv : Cenv) : ∀ (h : List Call) (t : List Tree), runT cenv t h = runH true t (lower cenv h) := by
  intro h
  induction h with
  | nil => intro t; rfl
  | cons a h ih =>
    intro t
    cases hv : validate cenv a.2 with
    | error k =>
      simp only [runT, lower, addRoute, hv]
      exact ih t
    | ok recs =>
      simp only [runT, lower, addRoute, hv, runH]
      exact ih _

/-! ### the segment table is computed from the text: the hypotheses of `Rh.history_compile_correct` become theorems -/

/-- the segment record was derived from a raw text -/
def FromText (cenv : Cenv) (s : Seg) : Prop := ∃ raw, s = toSeg (segRec cenv raw)

theorem kOf_enc (cenv : Cenv) (raw : Str) : kOf cenv (enc raw) = (String.ofList raw, kindOf cenv (segRec cenv raw)) := by
  simp only [kOf, dec_enc]

theorem kindOf_multi (cenv : Cenv) (r : SegRec) (hm : Rt.kindMulti (kindOf cenv r) = true) :
    r.convs.any (fun c => cenv.multi c.2.1) = true := by
  unfold kindOf at hm
  split at hm
  · simp [Rt.kindMulti] at hm
  · split at hm
    · cases hc : r.convs with
      | nil => simp [hc, Rt.kindMulti] at hm
      | cons c cs =>
        simp only [hc, Rt.kindMulti] at hm
        simp [hm]
    · simp [Rt.kindMulti] at hm

theorem cons_of_fromText (cenv : Cenv) (s : Seg) (h : FromText cenv s) : Cons (kOf cenv) s := by
  obtain ⟨raw, rfl⟩ := h
  unfold Cons
  simp only [toSeg, kOf_enc]
  intro hm
  exact kindOf_multi cenv _ hm

/-- the segment records an accepted template hands to `insert` come from its raw segments -/
theorem validate_fromText (cenv : Cenv) (t : Str) (recs : List SegRec) (hv : validate cenv t = .ok recs) :
    ∀ s ∈ recs.map toSeg, FromText cenv s := by
  intro s hs
  obtain ⟨_, hr, _⟩ := validate_ok cenv _ _ hv
  rw [hr, List.map_map] at hs
  obtain ⟨raw, _, rfl⟩ := List.mem_map.mp hs
  exact ⟨raw, rfl⟩

theorem lower_fromText (cenv : Cenv) : ∀ (h : List Call), ∀ a ∈ lower cenv h, ∀ s ∈ a.2, FromText cenv s := by
  intro h
  induction h with
  | nil => intro a ha; cases ha
  | cons c h ih =>
    intro a ha
    unfold lower at ha
    split at ha
    · exact ih a ha
    · rename_i recs hv
      rcases List.mem_cons.mp ha with rfl | ha
      · exact validate_fromText cenv _ recs hv
      · exact ih a ha

theorem kOf_inj_on (cenv : Cenv) (a b : Seg) (ha : FromText cenv a) (hb : FromText cenv b)
    (h : (kOf cenv a.raw).1 = (kOf cenv b.raw).1) : a.raw = b.raw := by
  obtain ⟨ra, rfl⟩ := ha
  obtain ⟨rb, rfl⟩ := hb
  simp only [toSeg, kOf_enc] at h ⊢
  have : ra = rb := String.ofList_inj.mp h
  have e1 : (segRec cenv ra).raw = ra := rfl
  have e2 : (segRec cenv rb).raw = rb := rfl
  rw [e1, e2, this]

/-- every tree built by any history of `add_route` calls over raw templates is one `compile_correct` applies to -/
theorem runT_wfL (cenv : Cenv) (h : List Call) : Rt.wfL (toNodes (kOf cenv) (runT cenv [] h)) := by
  rw [runT_eq_runH]
  exact wfL_toNodes_on (kOf cenv) (FromText cenv) (kOf_inj_on cenv) (cons_of_fromText cenv) _
    (runH_wf (FromText cenv) true _ [] (lower_fromText cenv h) (by simp [WfL]))

/-- **END-TO-END over raw template strings**: for every converter environment, every history of `add_route(template)`
    calls on the empty router (accepted, rejected by the validation, rejected inside `insert`), every table of `re` /
    converter behaviour and every path, the generated finder returns exactly the depth-first walk of the resulting tree.
    The segment table is `kOf` — computed from the raw texts by the native parser — so no hypothesis about it is left. -/
theorem addRoute_history_compile_correct (cenv : Cenv) (h : List Call) (t : Rt.Tables) (path : List String)
    (hok : Rt.okSpec (Rt.dL (toNodes (kOf cenv) (runT cenv [] h)) + 1) t (toNodes (kOf cenv) (runT cenv [] h)) {}) :
    Rt.runFinder t (toNodes (kOf cenv) (runT cenv [] h)) path
      = .ret (Rt.runSpec t (toNodes (kOf cenv) (runT cenv [] h)) path) :=
  Rt.compile_correct t _ path (runT_wfL cenv h) hok

/-- **`addRoute_history_lookup_eq`**: lookups after a history of raw templates = lookups after the history with every
    rejected call (validation or `insert`) removed -/
theorem addRoute_history_lookup_eq (cenv : Cenv) (h : List Call) (t : Rt.Tables) (path : List String) :
    Rt.runFinder t (toNodes (kOf cenv) (runT cenv [] h)) path
      = Rt.runFinder t (toNodes (kOf cenv) (runT cenv [] (acceptedT cenv [] h))) path := by
  rw [← addRoute_history_rejected_removed]

example : (addRoute cenv0 7 "/a/{x}/{x}".toList []).2 = .rej .duplicate := by decide +kernel
example : (addRoute cenv0 7 "/{p:path}/b".toList []).2 = .rejInsert := by decide +kernel
example : (acceptedT cenv0 [] [(0, "/a/{x}".toList), (1, "/a/{y}".toList), (2, "/a/{x:}".toList), (3, "/a/b c".toList),
    (4, "/a/{x}/b".toList)]).map (·.1) = [0, 4] := by decide +kernel
end Rv
