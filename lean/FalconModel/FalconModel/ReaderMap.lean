import FalconModel.ReaderPublic
/-! Every operation of the reader model is natural in its source: if `f : σ → τ` commutes with `Source.read` (for the
    positive sizes the reader asks for) and preserves `Source.bound`, then running an operation on `mapR f r` is running it
    on `r` and mapping the resulting reader. Used by C13 to move between `R (Delim σ)` and a lawful presentation of it.

    Shape of the proofs: unfold the operation, rewrite the calls it makes by their own naturality lemmas, push
    "map the resulting reader" through the `if`s of the right-hand side (`pair_ite`), and close by `rfl`. The final `rfl` is
    needed because `simp` rewrites `(mapR f r).len` to `r.len` by `dsimp`, which leaves the `Decidable` instances of the
    conditions on the left mentioning `mapR f r`. -/
namespace Mf
open Rd
variable {σ τ : Type} [Source σ] [Source τ]

/-- change the source of a reader, keeping buffer and counters -/
def mapR (f : σ → τ) (r : R σ) : R τ :=
  { buf := r.buf, len := r.len, pos := r.pos, rem := r.rem, chunk := r.chunk, src := f r.src }

/-- `f` is a simulation of sources -/
structure Sim (f : σ → τ) : Prop where
  read : ∀ (s : σ) (n : Int), 0 < n → Source.read (f s) n = ((Source.read s n).1, f (Source.read s n).2)
  bound : ∀ s : σ, Source.bound (f s) = Source.bound s

section
omit [Source σ] [Source τ]
@[simp] theorem mapR_buf (f : σ → τ) (r : R σ) : (mapR f r).buf = r.buf := rfl
@[simp] theorem mapR_len (f : σ → τ) (r : R σ) : (mapR f r).len = r.len := rfl
@[simp] theorem mapR_pos (f : σ → τ) (r : R σ) : (mapR f r).pos = r.pos := rfl
@[simp] theorem mapR_rem (f : σ → τ) (r : R σ) : (mapR f r).rem = r.rem := rfl
@[simp] theorem mapR_chunk (f : σ → τ) (r : R σ) : (mapR f r).chunk = r.chunk := rfl
@[simp] theorem mapR_src (f : σ → τ) (r : R σ) : (mapR f r).src = f r.src := rfl

/-- fold a literal reader over `f s` into `mapR f` -/
theorem mk_map (f : σ → τ) (b : Bytes) (l p rm c : Int) (s : σ) :
    (⟨b, l, p, rm, c, f s⟩ : R τ) = mapR f ⟨b, l, p, rm, c, s⟩ := rfl

/-- push the "map the resulting reader" shape through an `if` -/
theorem pair_ite (f : σ → τ) {α : Type} (c : Prop) [Decidable c] (a b : α × R σ) :
    ((if c then a else b).1, mapR f (if c then a else b).2) = if c then (a.1, mapR f a.2) else (b.1, mapR f b.2) := by
  split <;> rfl
end


theorem performReadLoop_map (f : σ → τ) (hf : Sim f) : ∀ (fuel : Nat) (size : Int) (result : Bytes) (cl : Int) (r : R σ),
    performReadLoop fuel size result cl (mapR f r)
      = ((performReadLoop fuel size result cl r).1, mapR f (performReadLoop fuel size result cl r).2) := by
  intro fuel
  induction fuel with
  | zero => intro size result cl r; rfl
  | succ n ih =>
    intro size result cl r
    by_cases h : size - cl ≤ 0
    · simp only [performReadLoop, h, if_true]
    · simp only [performReadLoop, h, if_false, mapR_src, hf.read r.src _ (Int.lt_of_not_ge h), mapR_buf, mapR_len, mapR_pos,
        mapR_rem, mapR_chunk, mk_map f, ih, pair_ite f]


theorem performRead_map (f : σ → τ) (hf : Sim f) (r : R σ) (size : Int) :
    performRead (mapR f r) size = ((performRead r size).1, mapR f (performRead r size).2) := by
  by_cases h : min size r.rem ≤ 0
  · simp only [performRead, mapR_rem, h, if_true]
  · simp only [performRead, mapR_rem, h, if_false, mapR_src, hf.read r.src _ (Int.lt_of_not_ge h), mapR_buf, mapR_len, mapR_pos,
      mapR_chunk, mk_map f, performReadLoop_map f hf, pair_ite f]

omit [Source σ] [Source τ] in
theorem ite_map (f : σ → τ) (c : Prop) [Decidable c] (a b : R σ) :
    (if c then mapR f a else mapR f b) = mapR f (if c then a else b) := by
  split <;> rfl

theorem fillBuffer_map (f : σ → τ) (hf : Sim f) (r : R σ) :
    fillBuffer (mapR f r) = mapR f (fillBuffer r) := by
  rcases h : performRead r (r.chunk - (r.len - r.pos)) with ⟨d, r1⟩
  simp only [fillBuffer, mapR_buf, mapR_len, mapR_pos, mapR_rem, mapR_chunk, mapR_src, performRead_map f hf, h, mk_map f, ite_map f]

theorem peek_map (f : σ → τ) (hf : Sim f) (r : R σ) (size : Int) :
    peek (mapR f r) size = ((peek r size).1, mapR f (peek r size).2) := by
  simp only [peek, mapR_buf, mapR_len, mapR_pos, mapR_chunk, fillBuffer_map f hf, ite_map f]
  rfl

omit [Source σ] [Source τ] in
theorem normalizeSize_map (f : σ → τ) (r : R σ) (s : Option Int) :
    normalizeSize (mapR f r) s = normalizeSize r s := rfl

theorem readCore_map (f : σ → τ) (hf : Sim f) (r : R σ) (size : Int) :
    read' (mapR f r) size = ((read' r size).1, mapR f (read' r size).2) := by
  rcases h1 : performRead ({ r with len := 0, pos := 0, buf := [] } : R σ) (size - (r.len - r.pos)) with ⟨d1, r1⟩
  rcases h2 : performRead r r.chunk with ⟨d2, r2⟩
  simp only [read', mapR_buf, mapR_len, mapR_pos, mapR_rem, mapR_chunk, mapR_src, mk_map f, performRead_map f hf, h1, h2,
    pair_ite f]
  rfl

theorem read_map (f : σ → τ) (hf : Sim f) (r : R σ) (size : Option Int) :
    read (mapR f r) size = ((read r size).1, mapR f (read r size).2) :=
  readCore_map f hf r _

omit [Source σ] [Source τ] in
theorem normalizeSize_mk (f : σ → τ) (b : Bytes) (l p rm c : Int) (s : σ) (size : Option Int) :
    normalizeSize (⟨b, l, p, rm, c, f s⟩ : R τ) size = normalizeSize (⟨b, l, p, rm, c, s⟩ : R σ) size := rfl

theorem readCore_mk (f : σ → τ) (hf : Sim f) (b : Bytes) (l p rm c : Int) (s : σ) (size : Int) :
    read' (⟨b, l, p, rm, c, f s⟩ : R τ) size
      = ((read' (⟨b, l, p, rm, c, s⟩ : R σ) size).1, mapR f (read' (⟨b, l, p, rm, c, s⟩ : R σ) size).2) :=
  readCore_map f hf ⟨b, l, p, rm, c, s⟩ size

/-! `finishRU` in three stages: `firstRead`, `Rd.putBack`, `consumeD` -/
def firstRead (r : R σ) (size : Int) (backlog : List Bytes) (have_ : Int) : Bytes × R σ :=
  if have_ == 0 then read' r size
  else
    let (x, r) := read' r (size - have_)
    ((backlog ++ [x]).flatten, r)

def consumeD (r : R σ) (ret : Bytes) (consume : Int) (delim : Option Bytes) (dpos : Int) : Res × R σ :=
  if consume != 0 then
    if dpos < 0 then
      match delim with
      | some d =>
        let (p, r) := peek r consume
        if p != d then (.delimErr, r) else (.ok ret, { r with pos := r.pos + consume })
      | none => (.delimErr, r)
    else if r.pos != dpos then (.delimErr, r)
    else (.ok ret, { r with pos := r.pos + consume })
  else (.ok ret, r)

theorem finishRU_eq (r : R σ) (size : Int) (backlog : List Bytes) (have_ consume : Int)
    (delim : Option Bytes) (dpos : Int) (next : Option Bytes) :
    finishRU r size backlog have_ consume delim dpos next
      = consumeD (putBack (firstRead r size backlog have_).2 next) (firstRead r size backlog have_).1
          consume delim dpos := by
  rcases h : firstRead r size backlog have_ with ⟨x, r1⟩
  unfold firstRead at h
  unfold finishRU
  rw [h]
  rfl

theorem firstRead_map (f : σ → τ) (hf : Sim f) (r : R σ) (size : Int) (backlog : List Bytes) (have_ : Int) :
    firstRead (mapR f r) size backlog have_
      = ((firstRead r size backlog have_).1, mapR f (firstRead r size backlog have_).2) := by
  simp only [firstRead, readCore_map f hf, pair_ite f]

omit [Source σ] [Source τ] in
theorem putBack_map (f : σ → τ) (r : R σ) (next : Option Bytes) :
    putBack (mapR f r) next = mapR f (putBack r next) := by
  cases next with
  | none => rfl
  | some nc =>
    simp only [putBack, mapR_buf, mapR_len, mapR_pos, mapR_rem, mapR_chunk, mapR_src, mk_map f, apply_ite (mapR f)]
    rfl

theorem consumeD_map (f : σ → τ) (hf : Sim f) (r : R σ) (ret : Bytes) (consume : Int) (delim : Option Bytes) (dpos : Int) :
    consumeD (mapR f r) ret consume delim dpos
      = ((consumeD r ret consume delim dpos).1, mapR f (consumeD r ret consume delim dpos).2) := by
  cases delim with
  | none =>
    simp only [consumeD, mapR_buf, mapR_len, mapR_pos, mapR_rem, mapR_chunk, mapR_src, mk_map f, pair_ite f]
    rfl
  | some d =>
    rcases h : peek r consume with ⟨p, r1⟩
    simp only [consumeD, peek_map f hf, h, mapR_buf, mapR_len, mapR_pos, mapR_rem, mapR_chunk, mapR_src, mk_map f, pair_ite f]
    rfl

theorem finishRU_map (f : σ → τ) (hf : Sim f) (r : R σ) (size : Int) (backlog : List Bytes) (have_ consume : Int)
    (delim : Option Bytes) (dpos : Int) (next : Option Bytes) :
    finishRU (mapR f r) size backlog have_ consume delim dpos next
      = ((finishRU r size backlog have_ consume delim dpos next).1,
         mapR f (finishRU r size backlog have_ consume delim dpos next).2) := by
  rw [finishRU_eq, finishRU_eq, firstRead_map f hf, putBack_map, consumeD_map f hf]

theorem finalizeRU_map (f : σ → τ) (hf : Sim f) (r : R σ) (size : Int) (backlog : List Bytes) (have_ consume : Int)
    (delim : Option Bytes) (dpos : Int) (next : Option Bytes) :
    finalizeRU (mapR f r) size backlog have_ consume delim dpos next
      = ((finalizeRU r size backlog have_ consume delim dpos next).1,
         mapR f (finalizeRU r size backlog have_ consume delim dpos next).2) :=
  finishRU_map f hf r _ _ _ _ _ _ _

theorem readUntilLoop_map (f : σ → τ) (hf : Sim f) : ∀ (fuel : Nat) (r : R σ) (delim : Bytes) (size consume : Int)
    (result : List Bytes) (have_ : Int),
    readUntilLoop fuel (mapR f r) delim size consume result have_
      = ((readUntilLoop fuel r delim size consume result have_).1,
         mapR f (readUntilLoop fuel r delim size consume result have_).2) := by
  intro fuel
  induction fuel with
  | zero => intro r delim size consume result have_; rfl
  | succ n ih =>
    intro r delim size consume result have_
    rcases h : performRead r r.chunk with ⟨nc, r1⟩
    simp only [readUntilLoop, mapR_buf, mapR_len, mapR_pos, mapR_rem, mapR_chunk, mapR_src, performRead_map f hf, h, mk_map f,
      finalizeRU_map f hf, ih, pair_ite f]
    rfl

theorem readUntilCore_map (f : σ → τ) (hf : Sim f) (r : R σ) (delim : Bytes) (size : Int) (consumeDelim : Bool) :
    readUntil' (mapR f r) delim size consumeDelim
      = ((readUntil' r delim size consumeDelim).1, mapR f (readUntil' r delim size consumeDelim).2) := by
  simp only [readUntil', mapR_buf, mapR_chunk, mapR_src, fillBuffer_map f hf, ite_map f, hf.bound, readUntilLoop_map f hf,
    pair_ite f]
  rfl

theorem pipeUntilLoop_map (f : σ → τ) (hf : Sim f) : ∀ (fuel : Nat) (r : R σ) (delim : Bytes) (remaining : Int)
    (acc : Bytes),
    pipeUntilLoop fuel (mapR f r) delim remaining acc
      = ((pipeUntilLoop fuel r delim remaining acc).1, mapR f (pipeUntilLoop fuel r delim remaining acc).2) := by
  intro fuel
  induction fuel with
  | zero => intro r delim remaining acc; rfl
  | succ n ih =>
    intro r delim remaining acc
    rcases h : readUntil' r delim (min r.chunk remaining) false with ⟨res, r1⟩
    cases res <;> simp only [pipeUntilLoop, mapR_chunk, readUntilCore_map f hf, h, ih, pair_ite f]

theorem pipeUntil_map (f : σ → τ) (hf : Sim f) (r : R σ) (delim : Bytes) (consumeDelim : Bool) (size : Option Int) :
    pipeUntil (mapR f r) delim consumeDelim size
      = ((pipeUntil r delim consumeDelim size).1, mapR f (pipeUntil r delim consumeDelim size).2) := by
  rcases h : pipeUntilLoop (Source.bound r.src + r.buf.length + 3) r delim (normalizeSize r size) [] with ⟨res, r1⟩
  rcases hp : peek r1 delim.length with ⟨p, r2⟩
  cases res <;> simp only [pipeUntil, mapR_src, mapR_buf, hf.bound, normalizeSize_map, pipeUntilLoop_map f hf, h, peek_map f hf, hp,
    mapR_len, mapR_pos, mapR_rem, mapR_chunk, mk_map f, pair_ite f]

theorem readUntil_map (f : σ → τ) (hf : Sim f) (r : R σ) (delim : Bytes) (size : Option Int) (consumeDelim : Bool) :
    readUntil (mapR f r) delim size consumeDelim
      = ((readUntil r delim size consumeDelim).1, mapR f (readUntil r delim size consumeDelim).2) := by
  simp only [readUntil, show maxJoin (mapR f r) = maxJoin r from rfl, normalizeSize_map, readUntilCore_map f hf,
    pipeUntil_map f hf, pair_ite f]

theorem pipeLoop_map (f : σ → τ) (hf : Sim f) : ∀ (fuel : Nat) (r : R σ) (acc : Bytes),
    pipeLoop fuel (mapR f r) acc = ((pipeLoop fuel r acc).1, mapR f (pipeLoop fuel r acc).2) := by
  intro fuel
  induction fuel with
  | zero => intro r acc; rfl
  | succ n ih =>
    intro r acc
    rcases h : read r (some r.chunk) with ⟨x, r1⟩
    simp only [pipeLoop, mapR_chunk, read_map f hf, h, ih, pair_ite f]

theorem pipe_map (f : σ → τ) (hf : Sim f) (r : R σ) :
    pipe (mapR f r) = ((pipe r).1, mapR f (pipe r).2) := by
  unfold pipe
  rw [mapR_src, hf.bound, mapR_buf]
  exact pipeLoop_map f hf _ r []

theorem exhaust_map (f : σ → τ) (hf : Sim f) (r : R σ) :
    exhaust (mapR f r) = mapR f (exhaust r) := by
  unfold exhaust
  rw [pipe_map f hf]

theorem readline_map (f : σ → τ) (hf : Sim f) (r : R σ) (size : Option Int) :
    readline (mapR f r) size = ((readline r size).1, mapR f (readline r size).2) := by
  rcases h : readUntil r [10] (some (normalizeSize r size)) false with ⟨res, r1⟩
  rcases hr : read r1 (some 1) with ⟨x, r2⟩
  cases res <;> simp only [readline, normalizeSize_map, readUntil_map f hf, h, read_map f hf, hr, pair_ite f]

theorem readlinesLoop_map (f : σ → τ) (hf : Sim f) : ∀ (fuel : Nat) (r : R σ) (hint nread : Int) (acc : List Bytes),
    readlinesLoop fuel (mapR f r) hint nread acc
      = ((readlinesLoop fuel r hint nread acc).1, mapR f (readlinesLoop fuel r hint nread acc).2) := by
  intro fuel
  induction fuel with
  | zero => intro r hint nread acc; rfl
  | succ n ih =>
    intro r hint nread acc
    rcases h : readline r (some (-1)) with ⟨res, r1⟩
    cases res <;> simp only [readlinesLoop, readline_map f hf, h, ih, pair_ite f]

theorem readlines_map (f : σ → τ) (hf : Sim f) (r : R σ) (hint : Int) :
    readlines (mapR f r) hint = ((readlines r hint).1, mapR f (readlines r hint).2) := by
  unfold readlines
  rw [mapR_src, hf.bound, mapR_buf]
  exact readlinesLoop_map f hf _ r hint 0 []

theorem readerStep_map (f : σ → τ) (hf : Sim f) (r : R σ) (op : POp) :
    readerStep (mapR f r) op = ((readerStep r op).1, mapR f (readerStep r op).2) := by
  cases op with
  | read s => simp only [readerStep, read_map f hf]
  | peek n => simp only [readerStep, peek_map f hf]
  | readUntil d s c => simp only [readerStep, readUntil_map f hf]
  | pipeUntil d c => simp only [readerStep, pipeUntil_map f hf]
  | pipe => simp only [readerStep, pipe_map f hf]
  | exhaust => simp only [readerStep, exhaust_map f hf]
  | readline s => simp only [readerStep, readline_map f hf]
  | readlines h => simp only [readerStep, readlines_map f hf]

theorem readerRun_map (f : σ → τ) (hf : Sim f) (ops : List POp) : ∀ r : R σ,
    readerRun (mapR f r) ops = ((readerRun r ops).1, mapR f (readerRun r ops).2) := by
  induction ops with
  | nil => intro r; rfl
  | cons op rest ih =>
    intro r
    simp only [readerRun, readerStep_map f hf, ih]

end Mf
