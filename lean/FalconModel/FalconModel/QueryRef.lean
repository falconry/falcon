import FalconModel.Query
import FalconModel.UriEncodeProofs
/-! C08 `parseQS_eq_ref`: for every query string and option setting the parser's mapping equals the
    form-urlencoded reference reading (split on '&' and the first '=', decode, group repeated names in order). -/
namespace Qs
open Probe Uri

/-- what one field contributes: its decoded name, its decoded value(s), and whether the values came from a CSV split -/
structure Entry where
  key : Str
  vals : List Str
  isList : Bool
  deriving Repr

/-- the reference reading of one `name=value` field (independent of what was parsed before) -/
def fieldEntry (kb csv : Bool) (field : Bytes) : Option Entry :=
  let (k, _, v) := partitionEq field
  if v.isEmpty && (!kb || k.isEmpty) then none
  else if csv && v.contains 44 then
    let values := splitOn 44 v
    some ⟨decodeStr k, (if !kb then values.filter (!·.isEmpty) else values).map decodeStr, true⟩
  else some ⟨decodeStr k, [decodeStr v], false⟩

def entries (bs : Bytes) (kb csv : Bool) : List Entry := (splitOn 38 bs).filterMap (fieldEntry kb csv)

/-- names in order of first occurrence -/
def keysOf : List Entry → List Str
  | [] => []
  | e :: es => e.key :: (keysOf es).filter (· != e.key)

/-- the value of a name: a scalar iff it occurs once and not as a CSV list; otherwise all its values in order -/
def valOf (es : List Entry) (k : Str) : Val :=
  match es.filter (·.key == k) with
  | [e] => if e.isList then .many e.vals else (match e.vals with | [v] => .one v | vs => .many vs)
  | g => .many (g.flatMap (·.vals))

def parseRef (bs : Bytes) (kb csv : Bool) : Params :=
  let es := entries bs kb csv
  (keysOf es).map fun k => (k, valOf es k)

theorem str_beq_false {a b : Str} (h : a ≠ b) : (a == b) = false := beq_false_of_ne h
theorem str_beq_self (a : Str) : (a == a) = true := beq_self_eq_true a
theorem byte_beq_false {a b : UInt8} (h : a ≠ b) : (a == b) = false := beq_false_of_ne h
theorem byte_beq_self (a : UInt8) : (a == a) = true := beq_self_eq_true a
theorem contains_iff_mem {l : Bytes} {a : UInt8} : l.contains a = true ↔ a ∈ l := List.contains_iff_mem

def valsOfVal : Val → List Str
  | .one v => [v]
  | .many l => l

/-- the value of a name whose only entry is `e` -/
def single (e : Entry) : Val := if e.isList then .many e.vals else (match e.vals with | [v] => .one v | vs => .many vs)

/-- adding an entry to the mapping built so far, with the case distinctions of `addField` -/
def addEntry (params : Params) (e : Entry) : Params :=
  match lookup params e.key with
  | some old =>
    match old with
    | .many l => replace params e.key (.many (l ++ e.vals))
    | .one o => replace params e.key (.many (o :: e.vals))
  | none => params ++ [(e.key, single e)]

theorem addEntry_eq (params : Params) (e : Entry) :
    addEntry params e = match lookup params e.key with
      | some old => replace params e.key (.many (valsOfVal old ++ e.vals))
      | none => params ++ [(e.key, single e)] := by
  unfold addEntry
  cases lookup params e.key with
  | none => rfl
  | some old => cases old <;> rfl

theorem addField_true_eq (kb csv : Bool) (params : Params) (field : Bytes) :
    addField kb csv true params field = (match fieldEntry kb csv field with | none => params | some e => addEntry params e) := by
  unfold addField fieldEntry
  generalize partitionEq field = p
  obtain ⟨k, f, v⟩ := p
  dsimp only
  cases (v.isEmpty && (!kb || k.isEmpty))
  · cases (csv && v.contains 44) <;> rfl
  · rfl

theorem mem_keysOf (es : List Entry) (k : Str) : k ∈ keysOf es ↔ ∃ e ∈ es, e.key = k := by
  induction es with
  | nil => simp [keysOf]
  | cons x xs ih =>
    simp only [keysOf, List.mem_cons, List.mem_filter, ih, bne_iff_ne, exists_eq_or_imp]
    by_cases h : k = x.key
    · simp only [h, true_or]
    · simp only [h, false_or, ne_eq, not_false_eq_true, and_true, Ne.symm h]

theorem filter_key_eq_nil {es : List Entry} {k : Str} (h : k ∉ keysOf es) : es.filter (·.key == k) = [] :=
  List.filter_eq_nil_iff.2 fun x hx hk => h ((mem_keysOf es k).2 ⟨x, hx, eq_of_beq hk⟩)

theorem keysOf_append (es : List Entry) (e : Entry) :
    keysOf (es ++ [e]) = if e.key ∈ keysOf es then keysOf es else keysOf es ++ [e.key] := by
  induction es with
  | nil => rfl
  | cons x xs ih =>
    rw [List.cons_append, keysOf, keysOf, ih]
    by_cases hx : e.key = x.key
    · rw [if_pos (List.mem_cons.2 (Or.inl hx))]
      split
      · rfl
      · rw [List.filter_append, hx, List.filter_cons, bne_self_eq_false]; exact congrArg _ (List.append_nil _)
    · by_cases hm : e.key ∈ keysOf xs
      · rw [if_pos hm, if_pos (List.mem_cons_of_mem _ (List.mem_filter.2 ⟨hm, (bne_iff_ne.2 hx : (e.key != x.key) = true)⟩))]
      · rw [if_neg hm, if_neg fun h => (List.mem_cons.1 h).elim hx fun h => hm (List.mem_filter.1 h).1,
          List.filter_append, List.filter_cons, bne_iff_ne.2 hx]; rfl

/-- the value of a name from the entries that carry it -/
def groupVal : List Entry → Val
  | [e] => single e
  | g => .many (g.flatMap (·.vals))

theorem valOf_eq (es : List Entry) (k : Str) : valOf es k = groupVal (es.filter (·.key == k)) := rfl

theorem valsOfVal_single (e : Entry) : valsOfVal (single e) = e.vals := by
  obtain ⟨k, vs, b⟩ := e
  cases b with
  | true => rfl
  | false =>
    cases vs with
    | nil => rfl
    | cons v r => cases r <;> rfl

theorem valsOfVal_valOf (es : List Entry) (k : Str) : valsOfVal (valOf es k) = (es.filter (·.key == k)).flatMap (·.vals) := by
  rw [valOf_eq]
  cases es.filter (·.key == k) with
  | nil => rfl
  | cons e r =>
    cases r with
    | nil => exact (valsOfVal_single e).trans (List.append_nil _).symm
    | cons _ _ => rfl

theorem valOf_append_other (es : List Entry) (e : Entry) (k : Str) (h : (e.key == k) = false) :
    valOf (es ++ [e]) k = valOf es k := by
  simp only [valOf_eq, List.filter_append, List.filter_cons, List.filter_nil, h, Bool.false_eq_true, if_false, List.append_nil]

theorem valOf_append_new (es : List Entry) (e : Entry) (h : e.key ∉ keysOf es) :
    valOf (es ++ [e]) e.key = single e := by
  rw [valOf_eq, List.filter_append, filter_key_eq_nil h, List.filter_cons, str_beq_self]; rfl

theorem valOf_append_old (es : List Entry) (e : Entry) (h : e.key ∈ keysOf es) :
    valOf (es ++ [e]) e.key = .many (valsOfVal (valOf es e.key) ++ e.vals) := by
  obtain ⟨x, hx, hk⟩ := (mem_keysOf es e.key).1 h
  rw [valsOfVal_valOf, valOf_eq, List.filter_append, List.filter_cons, str_beq_self]
  cases hg : es.filter (·.key == e.key) with
  | nil => exact absurd (List.mem_filter.2 ⟨hx, beq_iff_eq.2 hk⟩ : x ∈ es.filter (·.key == e.key)) (hg ▸ List.not_mem_nil)
  | cons y ys =>
    cases ys with
    | nil => simp only [if_true, groupVal, List.filter_nil, List.cons_append, List.nil_append, List.flatMap_cons,
        List.flatMap_nil, List.append_nil]
    | cons z zs => simp only [if_true, groupVal, List.filter_nil, List.cons_append, List.flatMap_cons,
        List.flatMap_append, List.flatMap_nil, List.append_nil, List.append_assoc]

def refOf (es : List Entry) : Params := (keysOf es).map fun k => (k, valOf es k)

theorem lookup_map (ks : List Str) (f : Str → Val) (k : Str) :
    lookup (ks.map fun x => (x, f x)) k = if k ∈ ks then some (f k) else none := by
  unfold lookup
  induction ks with
  | nil => rfl
  | cons x xs ih =>
    simp only [List.map_cons, List.find?_cons, List.mem_cons]
    by_cases hx : x = k
    · subst hx; simp only [str_beq_self, true_or, if_true, Option.map_some]
    · simp only [str_beq_false hx, ih, Ne.symm hx, false_or]

theorem addEntry_refOf (es : List Entry) (e : Entry) : addEntry (refOf es) e = refOf (es ++ [e]) := by
  rw [addEntry_eq]
  unfold refOf
  rw [lookup_map, keysOf_append]
  by_cases hm : e.key ∈ keysOf es
  · rw [if_pos hm, if_pos hm]
    unfold replace
    dsimp only
    rw [List.map_map]
    apply List.map_congr_left
    intro k _
    by_cases hk : k = e.key
    · subst hk; simp only [Function.comp, str_beq_self, if_true, valOf_append_old es e hm]
    · simp only [Function.comp, str_beq_false hk, valOf_append_other es e k (str_beq_false (Ne.symm hk)),
        Bool.false_eq_true, if_false]
  · rw [if_neg hm, if_neg hm, List.map_append, List.map_singleton, valOf_append_new es e hm]
    refine congrArg (· ++ _) (List.map_congr_left fun k hk => ?_)
    rw [valOf_append_other es e k (str_beq_false fun h => hm (h ▸ hk))]

theorem foldl_addField_true (kb csv : Bool) : ∀ (fields : List Bytes) (es : List Entry),
    fields.foldl (addField kb csv true) (refOf es) = refOf (es ++ fields.filterMap (fieldEntry kb csv)) := by
  intro fields
  induction fields with
  | nil => exact fun es => congrArg refOf (List.append_nil es).symm
  | cons f fs ih =>
    intro es
    rw [List.foldl_cons, List.filterMap_cons, addField_true_eq]
    cases fieldEntry kb csv f with
    | none => exact ih es
    | some e => simp only [addEntry_refOf, ih (es ++ [e]), List.append_assoc, List.singleton_append]

/-! ### the whole-string "is anything encoded?" flag does not change the result -/
theorem mem_splitOn (sep : UInt8) : ∀ (l f : Bytes), f ∈ splitOn sep l → ∀ c ∈ f, c ∈ l := by
  intro l
  induction l with
  | nil =>
    intro f hf c hc
    rw [splitOn, List.mem_singleton] at hf
    exact hf ▸ hc
  | cons x r ih =>
    intro f hf c hc
    rw [splitOn] at hf
    split at hf
    · rcases List.mem_cons.1 hf with rfl | hf
      · exact nomatch hc
      · exact List.mem_cons_of_mem _ (ih f hf c hc)
    · split at hf
      · next t ts hs =>
        rcases List.mem_cons.1 hf with rfl | hf
        · rcases List.mem_cons.1 hc with rfl | hc
          · exact List.mem_cons_self
          · exact List.mem_cons_of_mem _ (ih t (hs ▸ List.mem_cons_self) c hc)
        · exact List.mem_cons_of_mem _ (ih f (hs ▸ List.mem_cons_of_mem _ hf) c hc)
      · rw [List.mem_singleton.1 hf] at hc
        exact List.mem_singleton.1 hc ▸ List.mem_cons_self

theorem partitionEq_sublist (f : Bytes) : ((partitionEq f).1 ++ (partitionEq f).2.2).Sublist f := by
  induction f with
  | nil => exact .slnil
  | cons c r ih =>
    rw [partitionEq]
    by_cases hc : (c == 61) = true
    · rw [if_pos hc]; exact .cons _ (List.Sublist.refl r)
    · rw [if_neg hc]; exact .cons_cons _ ih

theorem plain_eq_decodeStr (x : Bytes) (h43 : ∀ c ∈ x, c ≠ 43) (h37 : ∀ c ∈ x, c ≠ 37) : plain x = decodeStr x := by
  unfold plain decodeStr
  rw [map_plus_id x h43, decodeImpl_eq_ref, decode_of_noPct x h37]

theorem addField_flag_irrelevant (kb csv : Bool) (params : Params) (field : Bytes)
    (h43 : ∀ c ∈ field, c ≠ 43) (h37 : ∀ c ∈ field, c ≠ 37) :
    addField kb csv false params field = addField kb csv true params field := by
  have hsub := (partitionEq_sublist field).subset
  unfold addField
  generalize partitionEq field = p at hsub
  obtain ⟨k, f, v⟩ := p
  have hk : ∀ c ∈ k, c ∈ field := fun c hc => hsub (List.mem_append_left _ hc)
  have hv : ∀ c ∈ v, c ∈ field := fun c hc => hsub (List.mem_append_right _ hc)
  dsimp only
  rw [plain_eq_decodeStr k (fun c hc => h43 c (hk c hc)) (fun c hc => h37 c (hk c hc)),
    plain_eq_decodeStr v (fun c hc => h43 c (hv c hc)) (fun c hc => h37 c (hv c hc))]
  rfl

theorem foldl_flag_irrelevant (kb csv : Bool) : ∀ (fields : List Bytes) (params : Params),
    (∀ f ∈ fields, (∀ c ∈ f, c ≠ 43) ∧ (∀ c ∈ f, c ≠ 37)) →
    fields.foldl (addField kb csv false) params = fields.foldl (addField kb csv true) params := by
  intro fields
  induction fields with
  | nil => exact fun params _ => (rfl : params = params)
  | cons f fs ih =>
    intro params h
    obtain ⟨hf, hfs⟩ := List.forall_mem_cons.1 h
    rw [List.foldl_cons, List.foldl_cons, addField_flag_irrelevant kb csv params f hf.1 hf.2]
    exact ih _ hfs

/-- **C08**: for every query string and every option setting, the parser's mapping — names in order of first
    occurrence, repeated names collected into lists in order, blank rule, CSV split on literal commas only — is the
    reference reading `parseRef` -/
theorem parseQS_eq_ref (bs : Bytes) (kb csv : Bool) : parseQS bs kb csv = parseRef bs kb csv := by
  have hmain : (splitOn 38 bs).foldl (addField kb csv true) [] = parseRef bs kb csv :=
    (foldl_addField_true kb csv (splitOn 38 bs) []).trans (congrArg refOf (List.nil_append _))
  unfold parseQS
  cases henc : (bs.contains 43 || bs.contains 37) with
  | true => exact hmain
  | false =>
    obtain ⟨h43, h37⟩ := Bool.or_eq_false_iff.1 henc
    rw [← hmain]
    exact foldl_flag_irrelevant kb csv (splitOn 38 bs) [] fun f hf =>
      ⟨fun c hc he => Bool.false_ne_true (h43.symm.trans (contains_iff_mem.2 (he ▸ mem_splitOn 38 bs f hf c hc))),
       fun c hc he => Bool.false_ne_true (h37.symm.trans (contains_iff_mem.2 (he ▸ mem_splitOn 38 bs f hf c hc)))⟩

/-! ### consequences of the reference reading, and non-vacuity -/

/-- names are listed once each -/
theorem keysOf_nodup : ∀ (es : List Entry), (keysOf es).Nodup
  | [] => .nil
  | _ :: es => List.nodup_cons.2 ⟨fun h => absurd rfl (bne_iff_ne.1 (List.mem_filter.1 h).2), (keysOf_nodup es).filter _⟩

theorem parseQS_keys_nodup (bs : Bytes) (kb csv : Bool) : ((parseQS bs kb csv).map (·.1)).Nodup := by
  rw [parseQS_eq_ref, parseRef, List.map_map]
  exact (List.map_id _).symm ▸ keysOf_nodup (entries bs kb csv)

/-- with CSV parsing off, no field is ever split -/
theorem csv_off_never_splits (kb : Bool) (field : Bytes) (e : Entry) (h : fieldEntry kb false field = some e) :
    e.isList = false ∧ e.vals.length = 1 := by
  unfold fieldEntry at h
  generalize partitionEq field = p at h
  obtain ⟨k, f, v⟩ := p
  dsimp only at h
  revert h
  cases (v.isEmpty && (!kb || k.isEmpty)) <;> intro h
  · cases h; exact ⟨rfl, rfl⟩
  · exact nomatch h

-- "a=1&b=2&a=3", "a=1,2&b=&=x", "a=1%2C2"
example : (parseQS [97, 61, 49, 38, 98, 61, 50, 38, 97, 61, 51] true true == [([97], .many [[49], [51]]), ([98], .one [50])]) = true := by decide +kernel
example : (parseQS [97, 61, 49, 44, 50, 38, 98, 61, 38, 61, 120] false true == [([97], .many [[49], [50]]), ([], .one [120])]) = true := by decide +kernel
example : (parseQS [97, 61, 49, 37, 50, 67, 50] false true == [([97], .one [49, 44, 50])]) = true := by decide +kernel

end Qs
