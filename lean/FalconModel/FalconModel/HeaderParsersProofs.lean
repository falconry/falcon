import FalconModel.HeaderParsers
/-! C09 proofs: the modelled accessor cores read RFC-valid values as the RFC says (see `HeaderParsers.lean`). -/
namespace Hp

theorem isDigit_toNat {c : Char} (h : c.isDigit = true) : 48 ≤ c.toNat ∧ c.toNat ≤ 57 := by
  simp only [Char.isDigit, Bool.and_eq_true, decide_eq_true_eq] at h
  exact h

theorem isWs_of_isDigit {c : Char} (h : c.isDigit = true) : isWs c = false := by
  have := isDigit_toNat h
  simp [isWs]
  omega

theorem isWsI_of_isDigit {c : Char} (h : c.isDigit = true) : isWsI c = false := by
  have := isDigit_toNat h
  simp [isWsI]
  omega

theorem isWsB_of_isDigit {c : Char} (h : c.isDigit = true) : isWsB c = false := by
  have := isDigit_toNat h
  simp [isWsB]
  omega

theorem dropWhile_head_false {p : Char → Bool} {c : Char} {r : Str} (h : p c = false) : (c :: r).dropWhile p = c :: r := by
  simp [List.dropWhile, h]

/-- a string whose first and last characters are not whitespace is unchanged by `strip` -/
theorem strip_of_ends {w : Char → Bool} (s : Str)
    (h1 : ∀ x, s.head? = some x → w x = false) (h2 : ∀ x, s.reverse.head? = some x → w x = false) : stripW w s = s := by
  unfold stripW rstripW lstripW
  cases s with
  | nil => rfl
  | cons a r =>
    have ha : w a = false := h1 a rfl
    rw [dropWhile_head_false ha]
    cases hrev : (a :: r).reverse with
    | nil => simp at hrev
    | cons z t =>
      have hz : w z = false := by
        apply h2 z
        rw [hrev]; rfl
      rw [dropWhile_head_false hz, ← hrev, List.reverse_reverse]

/-- a stripped character on each side does not change what `strip` returns -/
theorem stripW_bracket (w : Char → Bool) (l r : Char) (a : Str) (hl : w l = true) (hr : w r = true) :
    stripW w (l :: (a ++ [r])) = stripW w a := by
  unfold stripW rstripW lstripW
  rw [List.dropWhile_cons_of_pos hl, List.dropWhile_append]
  split
  · rename_i h
    rw [List.isEmpty_iff.mp h, List.dropWhile_cons_of_pos hr]; rfl
  · rw [List.reverse_append, List.reverse_singleton, List.singleton_append, List.dropWhile_cons_of_pos hr]

def allDigits (l : Str) : Prop := ∀ c ∈ l, c.isDigit = true

theorem strip_digits {w : Char → Bool} (hw : ∀ c, c.isDigit = true → w c = false) (l : Str) (h : allDigits l) : stripW w l = l := by
  apply strip_of_ends
  · intro x hx; apply hw; apply h; cases l with
    | nil => simp at hx
    | cons a r => simp at hx; simp [hx]
  · intro x hx; apply hw; apply h
    have : x ∈ l.reverse := List.mem_of_mem_head? hx
    simpa using this

theorem digitsGo_digits : ∀ (l : Str) (acc : Nat) (last : Bool), allDigits l → (l ≠ [] ∨ last = true) →
    digitsGo l acc last = some (Nat.ofDigitChars 10 l acc)
  | [], acc, last, _, h => by
    cases h with
    | inl h => exact absurd rfl h
    | inr h => simp [digitsGo, h]
  | c :: r, acc, last, hd, _ => by
    have hc : c.isDigit = true := hd c (by simp)
    have hr : allDigits r := fun x hx => hd x (by simp [hx])
    simp only [digitsGo, hc, if_true]
    rw [digitsGo_digits r _ true hr (Or.inr rfl), Nat.ofDigitChars_cons]
    rfl

theorem toDigits_allDigits (n : Nat) : allDigits (Nat.toDigits 10 n) :=
  fun _ hc => Nat.isDigit_of_mem_toDigits (by decide) (by decide) hc

theorem pyInt_digits {w : Char → Bool} (hw : ∀ c, c.isDigit = true → w c = false) (l : Str) (hd : allDigits l) (hne : l ≠ []) :
    pyIntW w l = some ((Nat.ofDigitChars 10 l 0 : Nat) : Int) := by
  unfold pyIntW
  rw [strip_digits hw l hd]
  cases l with
  | nil => exact absurd rfl hne
  | cons c r =>
    have hc : c.isDigit = true := hd c (by simp)
    have h1 : c ≠ '-' := by intro h; rw [h] at hc; exact absurd hc (by decide)
    have h2 : c ≠ '+' := by intro h; rw [h] at hc; exact absurd hc (by decide)
    split
    · rename_i heq; simp at heq; exact absurd heq.1 h1
    · rename_i heq; simp at heq; exact absurd heq.1 h2
    · rw [digitsGo_digits (c :: r) 0 false hd (Or.inl (by simp))]; rfl

/-- Python `int()` of the decimal representation of `n` is `n` -/
theorem pyIntW_toDigits {w : Char → Bool} (hw : ∀ c, c.isDigit = true → w c = false) (n : Nat) :
    pyIntW w (Nat.toDigits 10 n) = some (n : Int) := by
  rw [pyInt_digits hw _ (toDigits_allDigits n) (by simp), Nat.ofDigitChars_ten_toDigits]

theorem pyInt_toDigits (n : Nat) : pyInt (Nat.toDigits 10 n) = some (n : Int) := pyIntW_toDigits (fun _ => isWsI_of_isDigit) n
theorem pyIntB_toDigits (n : Nat) : pyIntB (Nat.toDigits 10 n) = some (n : Int) := pyIntW_toDigits (fun _ => isWsB_of_isDigit) n


theorem mem_dropWhile {p : Char → Bool} {x : Char} {l : Str} (h : x ∈ l.dropWhile p) : x ∈ l :=
  (List.dropWhile_sublist p).subset h

theorem mem_strip {w : Char → Bool} {x : Char} {s : Str} (h : x ∈ stripW w s) : x ∈ s := by
  unfold stripW rstripW lstripW at h
  have h1 : x ∈ (List.dropWhile w s).reverse.dropWhile w := by simpa using h
  have h2 := mem_dropWhile h1
  exact mem_dropWhile (by simpa using h2)

/-- a string without a minus sign never reads as a negative number -/
theorem pyIntW_nonneg_of_no_minus {w : Char → Bool} (s : Str) (n : Int) (hm : '-' ∉ s) (h : pyIntW w s = some n) : 0 ≤ n := by
  have nonneg {o : Option Nat} (h : o.map (fun k => (k : Int)) = some n) : 0 ≤ n := by
    cases o with
    | none => cases h
    | some k => cases h; exact Int.natCast_nonneg k
  unfold pyIntW at h
  split at h
  · rename_i r heq
    have : '-' ∈ stripW w s := by rw [heq]; simp
    exact absurd (mem_strip this) hm
  · exact nonneg h
  · exact nonneg h

theorem pyInt_nonneg_of_no_minus (s : Str) (n : Int) (hm : '-' ∉ s) (h : pyInt s = some n) : 0 ≤ n :=
  pyIntW_nonneg_of_no_minus s n hm h

/-- a prefix without the separator is passed over -/
theorem breakOn_skip (c : Char) (a s : Str) (h : c ∉ a) : breakOn c (a ++ s) = (a ++ (breakOn c s).1, (breakOn c s).2) := by
  induction a with
  | nil => rfl
  | cons x a ih =>
    have hx : (x == c) = false := beq_false_of_ne fun e => h (by simp [e])
    simp [breakOn, hx, ih fun e => h (by simp [e])]

theorem breakOn_append (c : Char) (a b : Str) (h : c ∉ a) : breakOn c (a ++ c :: b) = (a, some b) := by
  simp [breakOn_skip c a _ h, breakOn]

theorem breakOn_none (c : Char) (a : Str) (h : c ∉ a) : breakOn c a = (a, none) := by
  simpa [breakOn] using breakOn_skip c a [] h

theorem breakOn_fst_not_mem (c : Char) : ∀ (s : Str), c ∉ (breakOn c s).1
  | [] => by simp [breakOn]
  | x :: r => by
    simp only [breakOn]
    split
    · simp
    · rename_i hx
      have := breakOn_fst_not_mem c r
      simp at hx
      simp [this]; exact fun e => hx e.symm

theorem partition_append (a b : Str) (c : Char) (h : c ∉ a) : partition (a ++ c :: b) c = (a, true, b) := by
  unfold partition; rw [breakOn_append c a b h]

theorem partition_no_sep (a : Str) (c : Char) (h : c ∉ a) : partition a c = (a, false, []) := by
  unfold partition; rw [breakOn_none c a h]

theorem partition_fst_not_mem (s : Str) (c : Char) : c ∉ (partition s c).1 := by
  unfold partition
  have := breakOn_fst_not_mem c s
  cases hb : breakOn c s with
  | mk a b => rw [hb] at this; cases b <;> simpa using this


theorem not_mem_digits {c : Char} (hc : c.isDigit = false) {l : Str} (hl : allDigits l) : c ∉ l :=
  fun h => by rw [hl c h] at hc; exact absurd hc (by decide)

theorem contentLengthW_digits {w : Char → Bool} (hw : ∀ c, c.isDigit = true → w c = false) (n : Nat) :
    contentLengthW w (some (Nat.toDigits 10 n)) = .ok n := by
  unfold contentLengthW
  split
  · rename_i h; simp at h
  · rename_i h; simp at h
  · rename_i s hs hne
    simp at hne; subst hne
    rw [pyIntW_toDigits hw]; simp

theorem contentLength_digits (n : Nat) : contentLength (some (Nat.toDigits 10 n)) = .ok n := contentLengthW_digits (fun _ => isWsI_of_isDigit) n
theorem contentLengthB_digits (n : Nat) : contentLengthB (some (Nat.toDigits 10 n)) = .ok n := contentLengthW_digits (fun _ => isWsB_of_isDigit) n

theorem contentLengthW_ok_nonneg {w : Char → Bool} (v : Option Str) (n : Int) (h : contentLengthW w v = .ok n) : 0 ≤ n := by
  unfold contentLengthW at h
  split at h <;> try (simp at h)
  split at h <;> try (simp at h)
  split at h <;> simp at h
  omega

theorem contentLength_ok_nonneg (v : Option Str) (n : Int) (h : contentLength v = .ok n) : 0 ≤ n := contentLengthW_ok_nonneg v n h
theorem contentLengthB_ok_nonneg (v : Option Str) (n : Int) (h : contentLengthB v = .ok n) : 0 ≤ n := contentLengthW_ok_nonneg v n h

theorem range_value_shape (u r : Str) (hu : '=' ∉ u) :
    (u ++ '=' :: r).contains '=' = true ∧ (partition (u ++ '=' :: r) '=').2.2 = r ∧ (partition (u ++ '=' :: r) '=').1 = u := by
  rw [partition_append u r '=' hu]; simp

/-- `unit=first-last` with decimal (or empty) `first` and `last`: how the value is taken apart -/
theorem range_parts (u f l : Str) (hu : '=' ∉ u) (hf : allDigits f) (hl : allDigits l) :
    (u ++ '=' :: (f ++ '-' :: l)).contains '=' = true ∧ (partition (u ++ '=' :: (f ++ '-' :: l)) '=').2.2 = f ++ '-' :: l ∧
    (f ++ '-' :: l).contains ',' = false ∧ partition (f ++ '-' :: l) '-' = (f, true, l) := by
  have hs := range_value_shape u (f ++ '-' :: l) hu
  have h1 := not_mem_digits (c := ',') (by decide) hf
  have h2 := not_mem_digits (c := ',') (by decide) hl
  exact ⟨hs.1, hs.2.1, by simp [h1, h2], partition_append f l '-' (not_mem_digits (by decide) hf)⟩

theorem toDigits_isEmpty (n : Nat) : (Nat.toDigits 10 n).isEmpty = false := by
  cases h : Nat.toDigits 10 n with
  | nil => exact absurd h (by simp)
  | cons _ _ => rfl

/-- `unit=first-last` reads as `(first, last)`, or is the 400 outcome when `last < first` -/
theorem range_digits (u : Str) (a b : Nat) (hu : '=' ∉ u) :
    range (some (u ++ '=' :: (Nat.toDigits 10 a ++ '-' :: Nat.toDigits 10 b))) = if b < a then .bad else .ok a b := by
  obtain ⟨h1, h2, h3, h4⟩ := range_parts u _ _ hu (toDigits_allDigits a) (toDigits_allDigits b)
  unfold range
  simp only [h1, h2, h3, h4, pyInt_toDigits]
  simp

/-- `unit=first-last` with `first ≤ last` reads as `(first, last)` -/
theorem range_first_last (u : Str) (a b : Nat) (hu : '=' ∉ u) (hab : a ≤ b) :
    range (some (u ++ '=' :: (Nat.toDigits 10 a ++ '-' :: Nat.toDigits 10 b))) = .ok a b := by
  rw [range_digits u a b hu, if_neg (by omega)]

/-- `unit=first-last` with `last < first` is the 400 outcome -/
theorem range_invalid_order_is_400 (u : Str) (a b : Nat) (hu : '=' ∉ u) (hab : b < a) :
    range (some (u ++ '=' :: (Nat.toDigits 10 a ++ '-' :: Nat.toDigits 10 b))) = .bad := by
  rw [range_digits u a b hu, if_pos hab]

/-- `unit=first-` reads as `(first, -1)` -/
theorem range_first_open (u : Str) (a : Nat) (hu : '=' ∉ u) :
    range (some (u ++ '=' :: (Nat.toDigits 10 a ++ ['-']))) = .ok a (-1) := by
  obtain ⟨h1, h2, h3, h4⟩ := range_parts u _ [] hu (toDigits_allDigits a) (fun _ h => nomatch h)
  unfold range
  simp only [h1, h2, h3, h4, pyInt_toDigits, toDigits_isEmpty]
  simp

/-- `unit=-n` with `n > 0` reads as `(-n, -1)` -/
theorem range_suffix (u : Str) (n : Nat) (hu : '=' ∉ u) (hn : 0 < n) :
    range (some (u ++ '=' :: ('-' :: Nat.toDigits 10 n))) = .ok (-(n : Int)) (-1) := by
  obtain ⟨h1, h2, h3, h4⟩ := range_parts u [] _ hu (fun _ h => nomatch h) (toDigits_allDigits n)
  simp only [List.nil_append] at h1 h2 h3 h4
  unfold range
  simp only [h1, h2, h3, h4, pyInt_toDigits, toDigits_isEmpty]
  simp
  omega

theorem rangeUnit_of_valid (u r : Str) (hu : '=' ∉ u) : rangeUnit (some (u ++ '=' :: r)) = .ok u := by
  have hs := range_value_shape u r hu
  unfold rangeUnit
  simp only [hs.1, hs.2.2]; simp

/-- whatever the header value, a returned `(first, last)` has the documented shape -/
theorem range_ok_shape (v : Option Str) (a b : Int) (h : range v = .ok a b) :
    (0 ≤ a ∧ (b = -1 ∨ a ≤ b)) ∨ (a < 0 ∧ b = -1) := by
  unfold range at h
  cases v with
  | none => cases h
  | some value =>
    simp only at h
    generalize (partition value '=').2.2 = req at h
    have hnm := partition_fst_not_mem req '-'
    generalize partition req '-' = p at h hnm
    obtain ⟨first, sep, last⟩ := p
    have hx : ∀ x, pyInt first = some x → 0 ≤ x := fun x => pyInt_nonneg_of_no_minus first x hnm
    -- from here on only the outcomes of the tests and of the two `int()` calls matter
    generalize pyInt first = px at h hx
    generalize pyInt last = py at h
    generalize first.isEmpty = fe at h
    generalize last.isEmpty = le at h
    generalize value.contains '=' = c1 at h
    generalize req.contains ',' = c2 at h
    cases c1
    · cases h
    cases c2
    case true => cases h
    cases sep
    · cases h
    cases fe
    · cases le
      · cases px with
        | none => cases h
        | some x =>
          cases py with
          | none => cases h
          | some y =>
            simp only [Bool.not_true, Bool.not_false, Bool.false_eq_true, if_false, if_true, Bool.and_self] at h
            by_cases hlt : y < x
            · rw [if_pos hlt] at h; cases h
            · rw [if_neg hlt] at h; cases h
              exact .inl ⟨hx a rfl, .inr (Int.not_lt.mp hlt)⟩
      · cases px with
        | none => cases h
        | some x => cases h; exact .inl ⟨hx a rfl, .inl rfl⟩
    · cases le
      · cases py with
        | none => cases h
        | some y =>
          simp only [Bool.not_true, Bool.not_false, Bool.false_eq_true, if_false, if_true, Bool.and_true] at h
          by_cases hge : -y ≥ 0
          · rw [if_pos hge] at h; cases h
          · rw [if_neg hge] at h; cases h
            exact .inr ⟨Int.not_le.mp hge, rfl⟩
      · cases h


theorem portOf_digits (p : Nat) (d : Option Int) : portOf (Nat.toDigits 10 p) d = some (some (p : Int)) := by
  unfold portOf; rw [toDigits_isEmpty, pyInt_toDigits]; simp

theorem filter_colon_none (l : Str) (h : ':' ∉ l) : l.filter (· == ':') = [] :=
  List.filter_eq_nil_iff.mpr fun _ hx e => h (beq_iff_eq.mp e ▸ hx)

/-- a bare reg-name / IPv4 address (no colon) is the host; the port is the default -/
theorem parseHost_bare (h : Str) (d : Option Int) (hc : ':' ∉ h) (hb : h.head? ≠ some '[') : parseHost h d = .ok h d := by
  unfold parseHost
  split
  · rename_i r; simp at hb
  · simp [filter_colon_none h hc]

theorem filter_colon_one (h r : Str) (hh : ':' ∉ h) (hr : ':' ∉ r) : ((h ++ ':' :: r).filter (· == ':')).length = 1 := by
  simp [List.filter_append, filter_colon_none h hh, List.filter, filter_colon_none r hr]

/-- `name:text`: the name, and the port that `text` denotes (numeric, empty = default) or a `ValueError` -/
theorem parseHost_name_anyport (h s : Str) (d : Option Int) (hc : ':' ∉ h) (hb : h.head? ≠ some '[') (hs : ':' ∉ s) :
    parseHost (h ++ ':' :: s) d = match portOf s d with | some p => .ok h p | none => .valueError := by
  unfold parseHost
  split
  · rename_i r heq
    cases h with
    | nil => simp at heq
    | cons x t => simp at heq hb; exact absurd heq.1 hb
  · rw [filter_colon_one h _ hc hs, partition_append h _ ':' hc]
    simp only [bne_self_eq_false, Bool.false_eq_true, if_false]
    cases portOf s d <;> rfl

/-- `name:port` with a numeric port -/
theorem parseHost_name_port (h : Str) (p : Nat) (d : Option Int) (hc : ':' ∉ h) (hb : h.head? ≠ some '[') :
    parseHost (h ++ ':' :: Nat.toDigits 10 p) d = .ok h (some (p : Int)) := by
  rw [parseHost_name_anyport h _ d hc hb (not_mem_digits (by decide) (toDigits_allDigits p)), portOf_digits]

/-- `name:` (empty port, RFC 3986) means the default port -/
theorem parseHost_name_empty_port (h : Str) (d : Option Int) (hc : ':' ∉ h) (hb : h.head? ≠ some '[') :
    parseHost (h ++ [':']) d = .ok h d :=
  parseHost_name_anyport h [] d hc hb (by simp)

theorem rfindPairGo_skip (a b x : Char) (l : Str) (i : Nat) (best : Option Nat) (hx : x ≠ a) :
    rfindPairGo a b (x :: l) i best = rfindPairGo a b l (i + 1) best := by
  cases l with
  | nil => rfl
  | cons y r => rw [rfindPairGo, beq_false_of_ne hx]; rfl

theorem rfindPairGo_no_first (a b : Char) (l : Str) (i : Nat) (best : Option Nat) (h : a ∉ l) :
    rfindPairGo a b l i best = best := by
  induction l generalizing i with
  | nil => rfl
  | cons x l ih => rw [rfindPairGo_skip a b x l i best (fun e => h (by simp [e])), ih _ (fun e => h (by simp [e]))]

/-- in a string with exactly one `a` the pair `ab` is found at that place or not at all -/
theorem rfindPairGo_one (a b : Char) (pre post : Str) (i : Nat) (best : Option Nat) (hpre : a ∉ pre) (hpost : a ∉ post) :
    rfindPairGo a b (pre ++ a :: post) i best = if post.head? = some b then some (i + pre.length) else best := by
  induction pre generalizing i with
  | nil =>
    cases post with
    | nil => rfl
    | cons y r => simp [rfindPairGo, rfindPairGo_no_first a b (y :: r) (i + 1) _ hpost]
  | cons x pre ih =>
    rw [List.cons_append, rfindPairGo_skip a b x _ i best (fun e => hpre (by simp [e])), ih _ (fun e => hpre (by simp [e])),
      List.length_cons, Nat.add_right_comm, Nat.add_assoc]

/-- `[addr]:text`: the address without brackets, and the port that `text` denotes or a `ValueError` -/
theorem parseHost_ipv6_anyport (a s : Str) (d : Option Int) (ha : ']' ∉ a) (hs : ']' ∉ s) :
    parseHost ('[' :: (a ++ ']' :: ':' :: s)) d = match portOf s d with | some p => .ok a p | none => .valueError := by
  have hfind := rfindPairGo_one ']' ':' ('[' :: a) (':' :: s) 0 none (by simp [ha]) (by simp [hs])
  simp only [List.cons_append, List.head?_cons, if_true] at hfind
  unfold parseHost
  simp only [hfind]
  have h1 : ('[' :: (a ++ ']' :: ':' :: s)).drop (0 + ('[' :: a).length + 2) = s := by simp [List.drop_append]
  have h2 : (('[' :: (a ++ ']' :: ':' :: s)).take (0 + ('[' :: a).length)).drop 1 = a := by simp
  rw [h1, h2]
  cases portOf s d <;> rfl

/-- `[addr]:port`: the address without brackets and the numeric port -/
theorem parseHost_ipv6_port (a : Str) (p : Nat) (d : Option Int) (ha : ']' ∉ a) :
    parseHost ('[' :: (a ++ ']' :: ':' :: Nat.toDigits 10 p)) d = .ok a (some (p : Int)) := by
  rw [parseHost_ipv6_anyport a _ d ha (not_mem_digits (by decide) (toDigits_allDigits p)), portOf_digits]

/-- `[addr]` without a port: the default port -/
theorem parseHost_ipv6_bare (a : Str) (d : Option Int) (ha : ']' ∉ a) :
    parseHost ('[' :: (a ++ [']'])) d = .ok a d := by
  have hfind := rfindPairGo_one ']' ':' ('[' :: a) [] 0 none (by simp [ha]) (by simp)
  simp only [List.cons_append, List.head?_nil, reduceCtorEq, if_false] at hfind
  unfold parseHost
  simp only [hfind]
  simp [List.dropLast_append_of_ne_nil]


theorem dropLast_snoc (v : Str) (c : Char) : (v ++ [c]).dropLast = v := by simp

theorem getLast?_quote (v : Str) : ('"' :: (v ++ ['"'])).getLast? = some '"' := by
  have : ('"' :: (v ++ ['"'])) = ('"' :: v) ++ ['"'] := by simp
  rw [this, List.getLast?_append]; simp

theorem loads_dumps (t : ETag) : ETag.loads t.dumps = t := by
  cases t with
  | mk v w => cases w <;> simp [ETag.dumps, ETag.loads, getLast?_quote]

theorem closeQuote_append (v rest : Str) (h : '"' ∉ v) : closeQuote (v ++ '"' :: rest) = some (v, rest) := by
  unfold closeQuote; rw [breakOn_append '"' v rest h]

/-- scanning one serialized tag yields it and continues behind it -/
theorem scanTags_dumps (t : ETag) (rest : Str) (fuel : Nat) (hq : '"' ∉ t.value) :
    scanTags (fuel + 1) (t.dumps ++ rest) = t :: scanTags fuel rest := by
  cases t with
  | mk v w =>
    cases w
    all_goals
      simp only [ETag.dumps, if_true, Bool.false_eq_true, if_false, List.cons_append, List.append_assoc]
      rw [scanTags.eq_def]
      simp [closeQuote_append v rest hq]

theorem scanTags_skip (c : Char) (r : Str) (fuel : Nat) (h1 : c ≠ '"') (h2 : c ≠ 'W') (h3 : c ≠ 'w') :
    scanTags (fuel + 1) (c :: r) = scanTags fuel r := by
  rw [scanTags.eq_def]
  simp [h1, h2, h3]

def joinTags : List ETag → Str
  | [] => []
  | [t] => t.dumps
  | t :: ts => t.dumps ++ ',' :: ' ' :: joinTags ts

theorem dumps_length (t : ETag) : 2 ≤ t.dumps.length := by
  cases t with | mk v w => cases w <;> simp [ETag.dumps] <;> omega

theorem scanTags_join : ∀ (ts : List ETag) (fuel : Nat), (∀ t ∈ ts, '"' ∉ t.value) → (joinTags ts).length ≤ fuel →
    scanTags fuel (joinTags ts) = ts
  | [], fuel, _, _ => by cases fuel <;> rfl
  | [t], fuel, h, hf => by
    have := dumps_length t
    simp only [joinTags] at hf ⊢
    cases fuel with
    | zero => omega
    | succ f =>
      have := scanTags_dumps t [] f (h t (by simp))
      simp only [List.append_nil] at this
      rw [this]; cases f <;> rfl
  | t :: u :: ts, fuel, h, hf => by
    have hl := dumps_length t
    simp only [joinTags, List.length_append, List.length_cons] at hf
    obtain ⟨f, rfl⟩ : ∃ f, fuel = f + 3 := ⟨fuel - 3, by omega⟩
    · simp only [joinTags]
      rw [scanTags_dumps t _ (f + 2) (h t (by simp)), scanTags_skip ',' _ (f + 1) (by decide) (by decide) (by decide),
        scanTags_skip ' ' _ f (by decide) (by decide) (by decide)]
      rw [scanTags_join (u :: ts) f (fun x hx => h x (by simp [hx])) (by omega)]


/-- shape of a serialized tag (list): the first character is neither white space nor `*` (it is `W` or `"`), the last is `"` -/
def Quoted (s : Str) : Prop := (∃ c r, s = c :: r ∧ isWs c = false ∧ c ≠ '*') ∧ ∃ m, s = m ++ ['"']

theorem quoted_dumps (t : ETag) : Quoted t.dumps := by
  cases t with
  | mk v w =>
    cases w with
    | true => exact ⟨⟨'W', _, rfl, by decide, by decide⟩, ⟨'W' :: '/' :: '"' :: v, by simp [ETag.dumps]⟩⟩
    | false => exact ⟨⟨'"', _, rfl, by decide, by decide⟩, ⟨'"' :: v, by simp [ETag.dumps]⟩⟩

theorem quoted_join : ∀ (ts : List ETag), ts ≠ [] → Quoted (joinTags ts)
  | [], h => absurd rfl h
  | [t], _ => quoted_dumps t
  | t :: u :: ts, _ => by
    obtain ⟨⟨c, r, hr, hc⟩, _⟩ := quoted_dumps t
    obtain ⟨_, ⟨m, hm⟩⟩ := quoted_join (u :: ts) (by simp)
    refine ⟨⟨c, r ++ ',' :: ' ' :: joinTags (u :: ts), by simp [joinTags, hr], hc⟩, ⟨t.dumps ++ ',' :: ' ' :: m, ?_⟩⟩
    simp only [joinTags]; rw [hm]; simp

/-- what `_parse_etags` tests on a serialized tag (list): nothing to strip, not empty, not `*` -/
theorem quoted_facts (s : Str) (h : Quoted s) : strip s = s ∧ s.isEmpty = false ∧ (s == ['*']) = false := by
  obtain ⟨⟨c, r, hr, hws, hne⟩, ⟨m, hm⟩⟩ := h
  refine ⟨strip_of_ends s ?_ ?_, by rw [hr]; rfl, by rw [hr]; simp [hne]⟩
  · intro x hx
    rw [hr] at hx; cases hx; exact hws
  · intro x hx
    rw [hm] at hx; simp at hx; rw [← hx]; decide

theorem parseEtags_star : parseEtags ['*'] = .star := by decide

/-- a single serialized entity-tag (opaque tag without `"` or `,`) is read back exactly -/
theorem parseEtags_single (t : ETag) (hc : ',' ∉ t.value) : parseEtags t.dumps = .tags [t] := by
  obtain ⟨h1, h2, h3⟩ := quoted_facts _ (quoted_dumps t)
  have hcomma : t.dumps.contains ',' = false := by
    cases t with
    | mk v w => cases w <;> simp [ETag.dumps] <;> simpa using hc
  unfold parseEtags
  simp only [h1, h2, h3, hcomma, loads_dumps]
  simp

theorem join_contains_comma (t u : ETag) (ts : List ETag) : (joinTags (t :: u :: ts)).contains ',' = true := by
  simp [joinTags]

/-- a list of two or more serialized entity-tags joined by `", "` is read back exactly, in order, with the weakness flags -/
theorem parseEtags_list (ts : List ETag) (h2 : 2 ≤ ts.length) (hq : ∀ t ∈ ts, '"' ∉ t.value) :
    parseEtags (joinTags ts) = .tags ts := by
  match ts, h2 with
  | t :: u :: r, _ =>
    obtain ⟨h1, h2, h3⟩ := quoted_facts _ (quoted_join (t :: u :: r) (by simp))
    unfold parseEtags
    simp only [h1, h2, h3, join_contains_comma,
      scanTags_join (t :: u :: r) _ hq (Nat.le_refl _)]
    simp


/-! ### non-vacuity: concrete header values on which the theorems' hypotheses hold and the model computes -/
example : range (some "bytes=0-5".toList) = .ok 0 5 := by decide +kernel
example : range (some "bytes=-3".toList) = .ok (-3) (-1) := by decide +kernel
example : range (some "bytes=5-".toList) = .ok 5 (-1) := by decide +kernel
example : range (some "bytes=5-3".toList) = .bad := by decide +kernel
example : range (some "bytes= 1 - 2 ".toList) = .ok 1 2 := by decide +kernel      -- Python int() leniency is modelled
example : range (some "bytes=-0".toList) = .bad := by decide +kernel
example : contentLength (some "1_0".toList) = .ok 10 := by decide +kernel
example : parseHost "[::1]:99".toList none = .ok "::1".toList (some 99) := by decide +kernel
example : parseHost "example.com:".toList (some 80) = .ok "example.com".toList (some 80) := by decide +kernel
example : parseHost "example.com:abc".toList none = .valueError := by decide +kernel
example : parseEtags "W/\"a\", \"b\"".toList = .tags [⟨['a'], true⟩, ⟨['b'], false⟩] := by decide +kernel
example : '=' ∉ "bytes".toList ∧ (0 : Nat) ≤ 5 := by decide +kernel

end Hp
