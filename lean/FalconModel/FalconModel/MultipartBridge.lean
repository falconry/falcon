import FalconModel.MultipartFlatProofs
import FalconModel.MultipartProofs
import FalconModel.ReaderMap
/-! C13, **the bridge**: `Mp.next` - the transcription of `MultipartForm.__iter__` over the buffered reader model, which is
    what the correspondence ties to falcon/media/multipart.py - computes the flat parser `Mf.next`/`Mf.parseAll`
    (FalconModel/MultipartFlat.lean) of the text still to come, for every lawful source (every transport chunking and
    short-read pattern), every buffer state, every chunk size ≥ the delimiter length, and whatever the application does
    with the part streams in between (any history of public reader operations).

    * `next_step`: one resumption; each reader call (`pipe_until`, `peek`, `read`, `read_until` x2) is rewritten by its
      refinement theorem (`Rd.pipeUntil_consume_refines`, `Rd.peek_refines`, `Rd.read_refines`, `Rd.readUntil_consume_refines`).
    * `GD`, `part_stream_refines`: `delimit(d)` is a reader whose source is the parent's `read_until(d, ·)`. That source is
      lawful on parents in a good state (`GD`); `Mf.readerRun_map` (FalconModel/ReaderMap.lean: every reader operation is natural
      in its source) transfers `Rd.public_history_refines_cursor` from the lawful presentation to the real `R (Delim σ)`.
      The type of `GD` carries "the parent's cursor is between the start of the content and the delimiter", so
      "a delimited reader never passes its delimiter" (`gd_at` for one read) holds for every operation by typing.
    * `next_skip`: resuming from inside the previous content is resuming from its start.
    * `run_refines`, `next_refines_flat`, `consumption_independent`, `chunking_independent`, `impl_parse_encode`. -/
namespace Mf
open Rd
open Mp (crlf crlfcrlf dashes Form parseHeaders split)
variable {σ : Type} [Source σ] [LawfulSource σ]

/-- the consuming call of a `Stops` pair is `untilConsume` on the text -/
theorem consume_cases {A d : Bytes} {n : Nat} {chunk : Int} {x0 x1 : Res × R σ} (h : Stops A d (stopAt d A n) chunk x0 x1)
    (hdc : (d.length : Int) ≤ chunk) :
    (∃ x s1, x1 = (.ok x, s1) ∧ untilConsume d A n = some (x, abs s1) ∧ Inv s1 ∧ s1.pos ≤ s1.len ∧ s1.chunk = chunk) ∨
    (∃ s1, x1 = (.delimErr, s1) ∧ untilConsume d A n = none) := by
  unfold untilConsume
  by_cases hat : (A.drop (stopAt d A n)).take d.length = d
  · obtain ⟨a, b, c, e, g⟩ := (h.consume_refines hdc).1 hat
    exact .inl ⟨_, x1.2, Prod.ext a rfl, by rw [if_pos hat, b], c, e, g⟩
  · exact .inr ⟨x1.2, Prod.ext ((h.consume_refines hdc).2 hat).1 rfl, if_neg hat⟩

theorem pipeUntil_consume_cases (r : R σ) (d : Bytes) (hinv : Inv r) (hpl : r.pos ≤ r.len) (hd : d ≠ [])
    (hdc : (d.length : Int) ≤ r.chunk) :
    (∃ x s1, pipeUntil r d true none = (.ok x, s1) ∧ untilConsume d (abs r) (abs r).length = some (x, abs s1) ∧
      Inv s1 ∧ s1.pos ≤ s1.len ∧ s1.chunk = r.chunk) ∨
    (∃ s1, pipeUntil r d true none = (.delimErr, s1) ∧ untilConsume d (abs r) (abs r).length = none) :=
  consume_cases (pipeUntil_stops r d none hinv hpl nofun hd hdc) hdc

theorem readUntil_consume_cases (r : R σ) (d : Bytes) (size : Int) (hinv : Inv r) (hpl : r.pos ≤ r.len) (hd : d ≠ [])
    (hdc : (d.length : Int) ≤ r.chunk) (hs : size = -1 ∨ 0 ≤ size) :
    (∃ x s1, readUntil r d (some size) true = (.ok x, s1) ∧ untilConsume d (abs r) (sizeArg (abs r) size) = some (x, abs s1) ∧
      Inv s1 ∧ s1.pos ≤ s1.len ∧ s1.chunk = r.chunk) ∨
    (∃ s1, readUntil r d (some size) true = (.delimErr, s1) ∧ untilConsume d (abs r) (sizeArg (abs r) size) = none) :=
  consume_cases (readUntil_stops r d (some size) hinv hpl (fun x h => by cases h; exact hs) hd hdc) hdc

theorem peek2 (r : R σ) (hinv : Inv r) (hpl : r.pos ≤ r.len) (h2 : 2 ≤ r.chunk) :
    (peek r 2).1 = (abs r).take 2 ∧ abs (peek r 2).2 = abs r ∧ Inv (peek r 2).2 ∧ (peek r 2).2.pos ≤ (peek r 2).2.len ∧
    (peek r 2).2.chunk = r.chunk := by
  have h := peek_refines r 2 hinv hpl
  rw [if_neg (by simpa using h2)] at h
  exact h

theorem read2 (r : R σ) (hinv : Inv r) (hpl : r.pos ≤ r.len) : abs (read r (some 2)).2 = (abs r).drop 2 :=
  (read_refines r (some 2) hinv hpl (fun s h => by cases h; right; omega)).2.1

/-- how an outcome of `Mp.next` (over a buffered reader) corresponds to an outcome of `Mf.next` (over the flat text):
    same headers, and the part stream is `delimit(d)` of a parent reader in a good state whose text is the flat cursor -/
def Rel (chunk : Int) (d : Bytes) : Mp.Out σ → Out → Prop
  | .part h c, .part h' A' => h = h' ∧ ∃ p : R σ, c = delimit p d ∧ abs p = A' ∧ Inv p ∧ p.pos ≤ p.len ∧ p.chunk = chunk
  | .done p, .done A' => abs p = A'
  | .err e _, .err e' => e = e'.toMp
  | _, _ => False

theorem delim_le_after (f : Form) : f.delim.length ≤ (delimAfter f).length := by
  unfold delimAfter; split
  · simp
  · exact Nat.le_refl _

/-- **one resumption of the generator**: over any reader in a good state, `Mp.next` computes `Mf.next` of the text still to come -/
theorem next_step (f : Form) (r : R σ) (hinv : Inv r) (hpl : r.pos ≤ r.len) (hd : f.delim ≠ [])
    (hdc : ((delimAfter f).length : Int) ≤ r.chunk) (h4 : 4 ≤ r.chunk) (hm : f.maxHdr = -1 ∨ 0 ≤ f.maxHdr) :
    (Mp.next f r).1 = (next f (abs r)).1 ∧ Rel r.chunk (next f (abs r)).1.delim (Mp.next f r).2 (next f (abs r)).2 := by
  have hdc0 : (f.delim.length : Int) ≤ r.chunk := by have := delim_le_after f; omega
  unfold Mp.next next
  rw [Mp.prologue_step]
  rcases pipeUntil_consume_cases r f.delim hinv hpl hd hdc0 with ⟨x, s1, e1, u1, i1, l1, c1⟩ | ⟨s1, e1, u1⟩
  · simp only [e1, u1]
    obtain ⟨k1, k2, k3, k4, k5⟩ := peek2 s1 i1 l1 (by omega)
    rw [k1]
    by_cases hdash : ((abs s1).take 2 == dashes) = true
    · simp only [if_pos hdash]
      exact ⟨trivial, (read2 _ k3 k4).trans (congrArg (List.drop 2) k2)⟩
    · simp only [if_neg hdash]
      have h2 := readUntil_consume_cases (peek s1 2).2 crlf 0 k3 k4 crlf_ne (by rw [k5, c1]; exact Int.le_trans (by decide) h4)
        (Or.inr (Int.le_refl 0))
      rw [show sizeArg (abs (peek s1 2).2) 0 = 0 from rfl, k2] at h2
      rw [show (Mp.afterDelim f).maxHdr = f.maxHdr from rfl]
      rcases h2 with ⟨x2, s3, e2, u2, i2, l2, c2⟩ | ⟨s3, e2, u2⟩
      · simp only [e2, u2]
        rcases readUntil_consume_cases s3 crlfcrlf f.maxHdr i2 l2 crlfcrlf_ne (by rw [c2, k5, c1]; exact h4) hm
          with ⟨x3, s4, e3, u3, i3, l3, c3⟩ | ⟨s4, e3, u3⟩
        · simp only [e3, u3]
          cases hph : parseHeaders (split x3 crlf) [] with
          | error e => exact ⟨rfl, parseHeaders_err_cte _ _ e hph⟩
          | ok hs =>
            simp only
            by_cases hlim : (decide ((Mp.afterDelim f).remaining - 1 < 0) && decide (0 < (Mp.afterDelim f).maxCount)) = true
            · simp only [if_pos hlim]
              exact ⟨trivial, rfl⟩
            · simp only [if_neg hlim]
              exact ⟨trivial, rfl, s4, rfl, rfl, i3, l3, by rw [c3, c2, k5, c1]⟩
        · simp only [e3, u3]
          exact ⟨trivial, rfl⟩
      · simp only [e2, u2]
        exact ⟨trivial, rfl⟩
  · simp only [e1, u1]
    exact ⟨trivial, rfl⟩

theorem stopAt_length (d A : Bytes) (hd : d ≠ []) : stopAt d A A.length = upTo d A :=
  Nat.min_eq_right (upTo_le d A hd)

theorem stopAt_min (d A : Bytes) (n : Nat) (hd : d ≠ []) : stopAt d A n = min n (stopAt d A A.length) := by
  rw [stopAt_length d A hd]
  rfl

/-- moving the cursor forward, but not past the delimiter, moves the stopping point back by as much -/
theorem stopAt_drop (d A : Bytes) (j n : Nat) (hd : d ≠ []) (hj : j ≤ stopAt d A A.length) :
    stopAt d (A.drop j) n = min n (stopAt d A A.length - j) := by
  rw [stopAt_length d A hd] at hj ⊢
  rw [stopAt_eq, upTo_drop d A j hd hj]

theorem contentOf_length (d A : Bytes) (hd : d ≠ []) : (contentOf d A).length = stopAt d A A.length := by
  unfold contentOf
  rw [List.length_take, Nat.min_eq_left (stopAt_le_length d A A.length hd)]

theorem contentOf_drop (d A : Bytes) (j : Nat) (hd : d ≠ []) (hj : j ≤ stopAt d A A.length) :
    contentOf d (A.drop j) = (contentOf d A).drop j := by
  unfold contentOf
  rw [stopAt_drop d A j _ hd hj, List.length_drop, List.drop_take,
    Nat.min_eq_right (Nat.sub_le_sub_right (stopAt_le_length d A A.length hd) j)]

variable {σ : Type} [Source σ] [LawfulSource σ]

/-! ### a lawful presentation of the source of a part stream

    `delimit(d)` makes a reader whose `read` callable is the parent's `read_until(d, ·)`. `Rd.Delim σ` is that source for an
    arbitrary parent state. `GD σ d A chunk` is the same source restricted to parents in a good state (representation
    invariant, chunk size, delimiter fits in a chunk) whose text is a suffix `A.drop j` of the text `A` at which the part
    stream was opened, with `j` not beyond the first occurrence of `d` in `A`. It is closed under `read` (that is the
    theorem `gd_at`), satisfies `LawfulSource`, and forgets to `Delim σ` by a simulation. -/
structure GD (σ : Type) [Source σ] [LawfulSource σ] (d A : Bytes) (chunk : Int) where
  parent : R σ
  inv : Inv parent
  pl : parent.pos ≤ parent.len
  ch : parent.chunk = chunk
  hd : d ≠ []
  hdc : (d.length : Int) ≤ chunk
  at_ : ∃ j, j ≤ stopAt d A A.length ∧ abs parent = A.drop j

def bytesOf : Res → Bytes
  | .ok b => b
  | _ => []

/-- `read_until(d, size)` (delimiter not consumed) on a parent in a good state, `size > 0` -/
theorem gd_read (p : R σ) (d : Bytes) (size : Int) (hinv : Inv p) (hpl : p.pos ≤ p.len) (hd : d ≠ [])
    (hdc : (d.length : Int) ≤ p.chunk) (hs : 0 < size) :
    (readUntil p d (some size) false).1 = .ok ((abs p).take (stopAt d (abs p) size.toNat)) ∧
    abs (readUntil p d (some size) false).2 = (abs p).drop (stopAt d (abs p) size.toNat) ∧
    Inv (readUntil p d (some size) false).2 ∧
    (readUntil p d (some size) false).2.pos ≤ (readUntil p d (some size) false).2.len ∧
    (readUntil p d (some size) false).2.chunk = p.chunk := by
  obtain ⟨r', e1, e2, e3, e4, e5⟩ := readUntil_refines_all p d (some size) hinv hpl (fun s h => by cases h; right; omega) hd hdc
  have hw : want (abs p) (some size) = size.toNat := by
    unfold want; have : size ≠ -1 := by omega
    simp [this]
  rw [hw] at e1 e2
  rw [e1]
  exact ⟨rfl, e2, e3, e4, e5⟩

/-- **a delimited reader never passes its delimiter**: reading from the parent through `read_until(d, ·)` keeps the parent's
    cursor between where the part stream was opened and the first occurrence of `d` -/
theorem gd_at (A d : Bytes) (p : R σ) (size : Int) (hinv : Inv p) (hpl : p.pos ≤ p.len) (hd : d ≠ [])
    (hdc : (d.length : Int) ≤ p.chunk) (hs : 0 < size) (hat : ∃ j, j ≤ stopAt d A A.length ∧ abs p = A.drop j) :
    ∃ j, j ≤ stopAt d A A.length ∧ abs (readUntil p d (some size) false).2 = A.drop j := by
  obtain ⟨j, hj, ha⟩ := hat
  obtain ⟨_, e2, _⟩ := gd_read p d size hinv hpl hd hdc hs
  refine ⟨j + stopAt d (abs p) size.toNat, ?_, ?_⟩
  · rw [ha, stopAt_drop d A j _ hd hj]
    exact Nat.le_trans (Nat.add_le_add_left (Nat.min_le_right _ _) j) (Nat.le_of_eq (Nat.add_sub_cancel' hj))
  · rw [e2, ha, List.drop_drop]

def GD.read {d A : Bytes} {chunk : Int} (s : GD σ d A chunk) (size : Int) : Bytes × GD σ d A chunk :=
  if h : 0 < size then
    (bytesOf (readUntil s.parent d (some size) false).1,
     { parent := (readUntil s.parent d (some size) false).2
       inv := (gd_read s.parent d size s.inv s.pl s.hd (by rw [s.ch]; exact s.hdc) h).2.2.1
       pl := (gd_read s.parent d size s.inv s.pl s.hd (by rw [s.ch]; exact s.hdc) h).2.2.2.1
       ch := ((gd_read s.parent d size s.inv s.pl s.hd (by rw [s.ch]; exact s.hdc) h).2.2.2.2).trans s.ch
       hd := s.hd
       hdc := s.hdc
       at_ := gd_at A d s.parent size s.inv s.pl s.hd (by rw [s.ch]; exact s.hdc) h s.at_ })
  else ([], s)

instance (d A : Bytes) (chunk : Int) : Source (GD σ d A chunk) where
  read := GD.read
  bound s := Source.bound s.parent.src + s.parent.buf.length

/-- forget the proofs -/
def GD.toDelim {d A : Bytes} {chunk : Int} (s : GD σ d A chunk) : Delim σ := { parent := s.parent, d := d }

theorem toDelim_sim (d A : Bytes) (chunk : Int) : Sim (GD.toDelim : GD σ d A chunk → Delim σ) where
  read := by
    intro s n hn
    simp only [Source.read, GD.read, hn, dif_pos, GD.toDelim]
    rcases readUntil s.parent d (some n) false with ⟨res, p⟩
    cases res <;> rfl
  bound := by intro s; rfl

theorem GD.read_pos {d A : Bytes} {chunk : Int} (s : GD σ d A chunk) (size : Int) (h : 0 < size) :
    (Source.read s size).1 = (abs s.parent).take (stopAt d (abs s.parent) size.toNat) ∧
    abs (Source.read s size).2.parent = (abs s.parent).drop (stopAt d (abs s.parent) size.toNat) := by
  obtain ⟨e1, e2, _⟩ := gd_read s.parent d size s.inv s.pl s.hd (by rw [s.ch]; exact s.hdc) h
  show (GD.read s size).1 = _ ∧ abs (GD.read s size).2.parent = _
  unfold GD.read
  simp only [h, dif_pos, e1, bytesOf]
  exact ⟨trivial, e2⟩

theorem GD.read_nonpos {d A : Bytes} {chunk : Int} (s : GD σ d A chunk) (size : Int) (h : ¬ 0 < size) :
    Source.read s size = ([], s) := by
  show GD.read s size = _
  unfold GD.read
  simp only [h, dif_neg, not_false_eq_true]

instance (d A : Bytes) (chunk : Int) : LawfulSource (GD σ d A chunk) where
  data s := contentOf d (abs s.parent)
  readLen s size := if 0 < size then stopAt d (abs s.parent) size.toNat else 0
  read_fst := by
    intro s size
    by_cases h : 0 < size
    · simp only [h, if_true, (GD.read_pos s size h).1, contentOf]
      rw [List.take_take, stopAt_min d (abs s.parent) size.toNat s.hd]
      congr 1; omega
    · simp only [h, if_false, GD.read_nonpos s size h, List.take_zero]
  read_snd_data := by
    intro s size
    by_cases h : 0 < size
    · simp only [h, if_true, contentOf, (GD.read_pos s size h).2]
      have hm := stopAt_min d (abs s.parent) size.toNat s.hd
      have hle := stopAt_le_length d (abs s.parent) (abs s.parent).length s.hd
      rw [stopAt_drop d (abs s.parent) _ _ s.hd (by omega), List.length_drop, List.drop_take]
      congr 1; omega
    · simp only [h, if_false, GD.read_nonpos s size h, List.drop_zero]
  readLen_le_size := by
    intro s size h0
    split
    · have : stopAt d (abs s.parent) size.toNat ≤ size.toNat := by unfold stopAt; omega
      omega
    · omega
  readLen_le_data := by
    intro s size
    rw [contentOf_length d _ s.hd]
    split
    · rw [stopAt_min d (abs s.parent) size.toNat s.hd]; omega
    · omega
  readLen_pos := by
    intro s size hs hne
    have hl : 0 < (contentOf d (abs s.parent)).length := List.length_pos_iff.mpr hne
    rw [contentOf_length d _ s.hd] at hl
    simp only [hs, if_true]
    rw [stopAt_min d (abs s.parent) size.toNat s.hd]; omega
  bound_ge := by
    intro s
    rw [contentOf_length d _ s.hd]
    have h1 := stopAt_le_length d (abs s.parent) (abs s.parent).length s.hd
    have h2 : (abs s.parent).length ≤ Source.bound s.parent.src + s.parent.buf.length := by
      rw [abs_eq s.parent s.inv s.pl, List.length_append, List.length_drop]
      have := avail_length_le s.parent
      omega
    show _ ≤ Source.bound s.parent.src + s.parent.buf.length
    omega

/-- the part stream over the lawful presentation; it forgets to the real `delimit` -/
def childGD {d A : Bytes} {chunk : Int} (s : GD σ d A chunk) : R (GD σ d A chunk) :=
  { rem := normalizeSize s.parent none, chunk := s.parent.chunk, src := s }

theorem childGD_map {d A : Bytes} {chunk : Int} (s : GD σ d A chunk) :
    mapR GD.toDelim (childGD s) = delimit s.parent d := rfl

theorem childGD_facts {d A : Bytes} {chunk : Int} (s : GD σ d A chunk) :
    Inv (childGD s) ∧ (childGD s).pos ≤ (childGD s).len ∧ abs (childGD s) = contentOf d (abs s.parent) ∧
    (childGD s).chunk = chunk := by
  have hl := abs_length_le s.parent s.inv s.pl
  have hrem : (0 : Int) ≤ s.parent.rem + s.parent.len - s.parent.pos := by
    have := s.inv.rem_nonneg; have := s.pl; omega
  refine ⟨⟨rfl, Int.le_refl 0, hrem, s.inv.chunk_pos, Or.inl (Int.le_refl 0)⟩, Int.le_refl 0, ?_, s.ch⟩
  have hc := contentOf_length d (abs s.parent) s.hd
  have h1 := stopAt_le_length d (abs s.parent) (abs s.parent).length s.hd
  show (contentOf d (abs s.parent)).take (s.parent.rem + s.parent.len - s.parent.pos).toNat = _
  exact List.take_of_length_le (by omega)

/-- any history on the part stream, run on the lawful presentation: the observations are the flat cursor's over the content,
    the real `delimit` reader ends as the image of the presented one, whose text is what the cursor has left -/
theorem childGD_run {d A : Bytes} {chunk : Int} (s : GD σ d A chunk) (ops : List POp) (hok : ∀ op ∈ ops, op.ok chunk) :
    readerRun (delimit s.parent d) ops
      = ((cursorRun chunk (contentOf d (abs s.parent)) ops).1, mapR GD.toDelim (readerRun (childGD s) ops).2) ∧
    abs (readerRun (childGD s) ops).2 = (cursorRun chunk (contentOf d (abs s.parent)) ops).2 := by
  obtain ⟨f1, f2, f3, f4⟩ := childGD_facts s
  obtain ⟨t1, t2, _, _⟩ := public_history_refines_cursor ops (childGD s) f1 f2 (fun op h => by rw [f4]; exact hok op h)
  rw [f3, f4] at t1 t2
  refine ⟨?_, t2⟩
  rw [← childGD_map s, readerRun_map GD.toDelim (toDelim_sim d A chunk) ops (childGD s), t1]

/-- **a part stream is a flat cursor over its content, and leaves the parent before the delimiter**
    (`delimit_refines_subcursor`): for a parent `p` in a good state with text `A`, any history `ops` of public reader
    operations on `delimit(p, d)` observes exactly what the same history observes on a flat cursor over
    `contentOf d A` (the text up to the first `d`), and afterwards the parent is again in a good state, with the same
    chunk size, and its text is `A.drop j` for some `j` not beyond the first occurrence of `d` in `A`. -/
theorem part_stream_refines (p : R σ) (d : Bytes) (ops : List POp) (hinv : Inv p) (hpl : p.pos ≤ p.len) (hd : d ≠ [])
    (hdc : (d.length : Int) ≤ p.chunk) (hok : ∀ op ∈ ops, op.ok p.chunk) :
    (readerRun (delimit p d) ops).1 = (cursorRun p.chunk (contentOf d (abs p)) ops).1 ∧
    Inv (readerRun (delimit p d) ops).2.src.parent ∧
    (readerRun (delimit p d) ops).2.src.parent.pos ≤ (readerRun (delimit p d) ops).2.src.parent.len ∧
    (readerRun (delimit p d) ops).2.src.parent.chunk = p.chunk ∧
    ∃ j, j ≤ stopAt d (abs p) (abs p).length ∧ abs (readerRun (delimit p d) ops).2.src.parent = (abs p).drop j := by
  let s : GD σ d (abs p) p.chunk :=
    { parent := p, inv := hinv, pl := hpl, ch := rfl, hd := hd, hdc := hdc, at_ := ⟨0, Nat.zero_le _, rfl⟩ }
  rw [(childGD_run s ops hok).1]
  exact ⟨rfl, (readerRun (childGD s) ops).2.src.inv, (readerRun (childGD s) ops).2.src.pl, (readerRun (childGD s) ops).2.src.ch,
    (readerRun (childGD s) ops).2.src.at_⟩

/-- **skipping**: resuming the generator from anywhere inside the previous part's content (not beyond its delimiter) is the
    same as resuming it from the start of that content -/
theorem next_skip (f : Form) (A : Bytes) (j : Nat) (hd : f.delim ≠ []) (hj : j ≤ stopAt f.delim A A.length) :
    next f (A.drop j) = next f A := by
  have hle := stopAt_le_length f.delim A A.length hd
  have hu : untilConsume f.delim (A.drop j) (A.drop j).length
      = (untilConsume f.delim A A.length).map (fun x => ((A.drop j).take (stopAt f.delim A A.length - j), x.2)) := by
    unfold untilConsume
    simp only
    rw [stopAt_drop f.delim A j _ hd hj, List.length_drop, Nat.min_eq_right (Nat.sub_le_sub_right hle j), List.drop_drop,
      List.drop_drop, ← Nat.add_assoc, Nat.add_sub_cancel' hj]
    split <;> rfl
  unfold next
  rw [hu]
  cases untilConsume f.delim A A.length with
  | none => rfl
  | some x => rfl

/-- what the application does with the stream of the `k`-th part (any history of public reader operations; `[]` = skip it) -/
abbrev Scripts := Nat → List POp

/-- how iterating the real (modelled) form ends: as `Outcome`, but with `Mp.Err` (which also has `value`, for `ValueError`) -/
inductive IOutcome where
  | finished
  | error (e : Mp.Err)
  | fuel

def Outcome.lift : Outcome → IOutcome
  | .finished => .finished
  | .error e => .error e.toMp
  | .fuel => .fuel

/-- **the implementation side**: iterate `Mp.next` over a buffered reader; between two resumptions the application runs its
    script on the part stream it was handed; the generator is resumed with whatever state that left the parent in -/
def runImpl {σ : Type} [Source σ] (sc : Scripts) : Nat → Nat → Form → R σ → List (Headers × List Obs) →
    List (Headers × List Obs) × IOutcome
  | 0, _, _, _, acc => (acc, .fuel)
  | n + 1, k, f, r, acc =>
    match Mp.next f r with
    | (f', .part h c) =>
      runImpl sc n (k + 1) f' (readerRun c (sc k)).2.src.parent (acc ++ [(h, (readerRun c (sc k)).1)])
    | (_, .done _) => (acc, .finished)
    | (_, .err e _) => (acc, .error e)

/-- **the specification side**: iterate `Mf.next` over the flat text; the script of each part runs on a flat cursor over that
    part's content; the generator is resumed from the start of the content (what was read does not matter) -/
def runFlat (chunk : Int) (sc : Scripts) : Nat → Nat → Form → Bytes → List (Headers × List Obs) →
    List (Headers × List Obs) × Outcome
  | 0, _, _, _, acc => (acc, .fuel)
  | n + 1, k, f, A, acc =>
    match next f A with
    | (f', .part h A') =>
      runFlat chunk sc n (k + 1) f' A' (acc ++ [(h, (cursorRun chunk (contentOf f'.delim A') (sc k)).1)])
    | (_, .done _) => (acc, .finished)
    | (_, .err e) => (acc, .error e)

theorem runFlat_skip (chunk : Int) (sc : Scripts) (n k : Nat) (f : Form) (A : Bytes) (j : Nat) (acc : List (Headers × List Obs))
    (hd : f.delim ≠ []) (hj : j ≤ stopAt f.delim A A.length) :
    runFlat chunk sc n k f (A.drop j) acc = runFlat chunk sc n k f A acc := by
  cases n with
  | zero => rfl
  | succ n => simp only [runFlat, next_skip f A j hd hj]

variable {σ : Type} [Source σ] [LawfulSource σ]

theorem run_refines (sc : Scripts) : ∀ (n k : Nat) (f : Form) (r : R σ) (acc : List (Headers × List Obs)),
    Inv r → r.pos ≤ r.len → f.delim ≠ [] → ((delimAfter f).length : Int) ≤ r.chunk → 4 ≤ r.chunk →
    (f.maxHdr = -1 ∨ 0 ≤ f.maxHdr) → (∀ k, ∀ op ∈ sc k, op.ok r.chunk) →
    runImpl sc n k f r acc = ((runFlat r.chunk sc n k f (abs r) acc).1, (runFlat r.chunk sc n k f (abs r) acc).2.lift) := by
  intro n
  induction n with
  | zero => intro k f r acc _ _ _ _ _ _ _; rfl
  | succ n ih =>
    intro k f r acc hinv hpl hd hdc h4 hm hok
    obtain ⟨s1, s2⟩ := next_step f r hinv hpl hd hdc h4 hm
    unfold runImpl runFlat
    rcases hI : Mp.next f r with ⟨f1, o1⟩
    rcases hF : next f (abs r) with ⟨f2, o2⟩
    rw [hI, hF] at s1 s2
    simp only at s1 s2
    subst s1
    cases o1 with
    | part h c =>
      cases o2 with
      | part h' A' =>
        obtain ⟨rfl, p, rfl, hp, ip, lp, cp⟩ := s2
        obtain ⟨n1, n2, n3, n4, n5, _, _⟩ := next_part_frame f (abs r) f1 h A' hF
        have hd1 : f1.delim ≠ [] := by rw [n5]; exact delimAfter_ne f hd
        have hda : delimAfter f1 = f1.delim := by unfold delimAfter; simp [n4]
        obtain ⟨q1, q2, q3, q4, j, q5, q6⟩ := part_stream_refines p f1.delim (sc k) ip lp hd1
          (by rw [cp, n5]; exact hdc) (fun op h => by rw [cp]; exact hok k op h)
        simp only
        rw [ih (k + 1) f1 _ _ q2 q3 hd1 (by rw [q4, cp, hda, n5]; exact hdc) (by rw [q4, cp]; exact h4)
          (by rw [n3]; exact hm) (fun k' op h => by rw [q4, cp]; exact hok k' op h)]
        rw [q4, cp, q6, hp, runFlat_skip _ _ _ _ _ _ _ _ hd1 (by rw [hp] at q5; exact q5), q1, cp, hp]
      | done A' => exact s2.elim
      | err e => exact s2.elim
    | done p =>
      cases o2 with
      | part h' A' => exact s2.elim
      | done A' => rfl
      | err e => exact s2.elim
    | err e p =>
      cases o2 with
      | part h' A' => exact s2.elim
      | done A' => exact s2.elim
      | err e' =>
        have : e = e'.toMp := s2
        subst this
        rfl

/-- what the application observes on the parts `ps` (header dict, content) when it runs script `k`, `k+1`, … on flat cursors
    over their contents -/
def observe (chunk : Int) (sc : Scripts) : Nat → List (Headers × Bytes) → List (Headers × List Obs)
  | _, [] => []
  | k, (h, c) :: t => (h, (cursorRun chunk c (sc k)).1) :: observe chunk sc (k + 1) t

theorem parseLoop_acc : ∀ (n : Nat) (f : Form) (A : Bytes) (acc : List (Headers × Bytes)),
    parseLoop n f A acc = (acc ++ (parseLoop n f A []).1, (parseLoop n f A []).2) := by
  intro n
  induction n with
  | zero => intro f A acc; simp [parseLoop]
  | succ n ih =>
    intro f A acc
    unfold parseLoop
    rcases next f A with ⟨f', o⟩
    cases o with
    | part h A' =>
      simp only
      rw [ih f' A' (acc ++ [_]), ih f' A' ([] ++ [_])]
      simp only [List.nil_append, List.append_assoc]
    | done _ => simp
    | err e => simp

theorem runFlat_parse (chunk : Int) (sc : Scripts) : ∀ (n k : Nat) (f : Form) (A : Bytes) (acc : List (Headers × List Obs)),
    runFlat chunk sc n k f A acc
      = (acc ++ observe chunk sc k (parseLoop n f A []).1, (parseLoop n f A []).2) := by
  intro n
  induction n with
  | zero => intro k f A acc; simp [runFlat, parseLoop, observe]
  | succ n ih =>
    intro k f A acc
    unfold runFlat parseLoop
    rcases next f A with ⟨f', o⟩
    cases o with
    | part h A' =>
      simp only
      rw [ih (k + 1) f' A' _, parseLoop_acc n f' A' ([] ++ [_])]
      simp only [List.nil_append, List.singleton_append, observe, List.append_assoc]
    | done _ => simp [observe]
    | err e => simp [observe]

theorem observe_fst (chunk : Int) (sc : Scripts) : ∀ (ps : List (Headers × Bytes)) (k : Nat),
    (observe chunk sc k ps).map Prod.fst = ps.map Prod.fst
  | [], _ => rfl
  | (h, c) :: t, k => by simp only [observe, List.map_cons, observe_fst chunk sc t (k + 1)]

/-- the application runs the same script `ops` on every part -/
theorem observe_const (chunk : Int) (sc : Scripts) (ops : List POp) (hsc : ∀ k, sc k = ops) :
    ∀ (ps : List (Headers × Bytes)) (k : Nat), observe chunk sc k ps = ps.map (fun x => (x.1, (cursorRun chunk x.2 ops).1))
  | [], _ => rfl
  | (h, c) :: t, k => by simp only [observe, List.map_cons, observe_const chunk sc ops hsc t (k + 1), hsc k]

/-- the application skips every part -/
theorem observe_skip (chunk : Int) (sc : Scripts) (hsc : ∀ k, sc k = []) : ∀ (ps : List (Headers × Bytes)) (k : Nat),
    observe chunk sc k ps = ps.map (fun x => (x.1, [])) :=
  observe_const chunk sc [] hsc

variable {σ : Type} [Source σ] [LawfulSource σ]

/-- **C13 `next_refines_flat` (the bridge).** Take any reader in a good state (in particular a fresh one) over ANY lawful
    source - every transport chunking, every pattern of short reads - with a chunk size of at least `len(CRLF--boundary)`
    (and ≥ 4), any limits (`max_body_part_headers_size` ≥ 0 or -1), and ANY application behaviour between resumptions that
    is a history of public reader operations with valid arguments on the part stream it was handed (skip, `peek`, partial
    and full `read`, `read_until`, `pipe_until`, `readline(s)`, `pipe`, `exhaust`, in any order and number).
    Then iterating `Mp.next` (the transcription of `MultipartForm.__iter__` over the buffered reader) hands out exactly
    the parts that the flat parser `Mf.parseAll` finds in the text still to come - the same header dicts in the same
    order, the same end (`StopIteration` or the same `MultipartParseError`) - and every part stream behaves, operation by
    operation, as a flat cursor over that part's content as computed by `parseAll`. -/
theorem next_refines_flat (sc : Scripts) (r : R σ) (b : Bytes) (lim : Limits) (hinv : Inv r) (hpl : r.pos ≤ r.len)
    (hc : (b.length : Int) + 4 ≤ r.chunk) (hm : lim.maxHdr = -1 ∨ 0 ≤ lim.maxHdr) (hok : ∀ k, ∀ op ∈ sc k, op.ok r.chunk) :
    runImpl sc ((abs r).length + 1) 0 (initForm b lim) r []
      = (observe r.chunk sc 0 (parseAll (abs r) b lim).1, (parseAll (abs r) b lim).2.lift) := by
  have hl : ((delimAfter (initForm b lim)).length : Int) = b.length + 4 := by
    simp only [delimAfter, initForm, crlf, dashes, if_true, List.length_append, List.length_cons, List.length_nil]
    omega
  rw [run_refines sc _ 0 (initForm b lim) r [] hinv hpl (List.cons_ne_nil _ _) (by omega) (by omega) hm hok,
    runFlat_parse, List.nil_append, parseAll]

/-- **C13 `consumption_independent`.** Under the hypotheses of `next_refines_flat`, whatever two applications do with the
    part streams (two arbitrary families of scripts), they are handed the same number of parts with the same header dicts
    in the same order, and iteration ends the same way - namely as `parseAll` says. -/
theorem consumption_independent (sc1 sc2 : Scripts) (r : R σ) (b : Bytes) (lim : Limits) (hinv : Inv r) (hpl : r.pos ≤ r.len)
    (hc : (b.length : Int) + 4 ≤ r.chunk) (hm : lim.maxHdr = -1 ∨ 0 ≤ lim.maxHdr)
    (hok1 : ∀ k, ∀ op ∈ sc1 k, op.ok r.chunk) (hok2 : ∀ k, ∀ op ∈ sc2 k, op.ok r.chunk) :
    (runImpl sc1 ((abs r).length + 1) 0 (initForm b lim) r []).1.map Prod.fst
      = (runImpl sc2 ((abs r).length + 1) 0 (initForm b lim) r []).1.map Prod.fst ∧
    (runImpl sc1 ((abs r).length + 1) 0 (initForm b lim) r []).2
      = (runImpl sc2 ((abs r).length + 1) 0 (initForm b lim) r []).2 ∧
    (runImpl sc1 ((abs r).length + 1) 0 (initForm b lim) r []).1.map Prod.fst = (parseAll (abs r) b lim).1.map Prod.fst := by
  rw [next_refines_flat sc1 r b lim hinv hpl hc hm hok1, next_refines_flat sc2 r b lim hinv hpl hc hm hok2]
  simp only [observe_fst]
  exact ⟨trivial, trivial, trivial⟩

/-- … and an application that reads every part to its end sees exactly the contents `parseAll` computes, however the
    other application consumed (or skipped) them -/
theorem consumption_full_read (sc : Scripts) (hsc : ∀ k, sc k = [POp.pipe]) (r : R σ) (b : Bytes) (lim : Limits) (hinv : Inv r)
    (hpl : r.pos ≤ r.len) (hc : (b.length : Int) + 4 ≤ r.chunk) (hm : lim.maxHdr = -1 ∨ 0 ≤ lim.maxHdr) :
    runImpl sc ((abs r).length + 1) 0 (initForm b lim) r []
      = ((parseAll (abs r) b lim).1.map (fun x => (x.1, [Obs.bytes x.2])), (parseAll (abs r) b lim).2.lift) := by
  rw [next_refines_flat sc r b lim hinv hpl hc hm (fun k op h => by rw [hsc k] at h; simp at h; subst h; trivial),
    observe_const r.chunk sc [POp.pipe] hsc]
  rfl

/-- **C13 `chunking_independent`.** Two readers over two arbitrary lawful sources (of possibly different types: a file, a
    socket delivering one byte at a time, …), in arbitrary buffer states, with the same chunk size and the same text still
    to come, running the same application scripts: the same parts, the same observations on every part stream, the same end. -/
theorem chunking_independent {τ : Type} [Source τ] [LawfulSource τ] (sc : Scripts) (r1 : R σ) (r2 : R τ) (b : Bytes) (lim : Limits)
    (hi1 : Inv r1) (hp1 : r1.pos ≤ r1.len) (hi2 : Inv r2) (hp2 : r2.pos ≤ r2.len) (habs : abs r1 = abs r2)
    (hch : r1.chunk = r2.chunk) (hc : (b.length : Int) + 4 ≤ r1.chunk) (hm : lim.maxHdr = -1 ∨ 0 ≤ lim.maxHdr)
    (hok : ∀ k, ∀ op ∈ sc k, op.ok r1.chunk) :
    runImpl sc ((abs r1).length + 1) 0 (initForm b lim) r1 [] = runImpl sc ((abs r2).length + 1) 0 (initForm b lim) r2 [] := by
  rw [next_refines_flat sc r1 b lim hi1 hp1 hc hm hok,
    next_refines_flat sc r2 b lim hi2 hp2 (by rw [← hch]; exact hc) hm (fun k op h => by rw [← hch]; exact hok k op h),
    habs, hch]

/-- … and with different chunk sizes (each at least the delimiter length) still the same parts and the same end -/
theorem chunking_independent_parts {τ : Type} [Source τ] [LawfulSource τ] (sc1 sc2 : Scripts) (r1 : R σ) (r2 : R τ) (b : Bytes)
    (lim : Limits) (hi1 : Inv r1) (hp1 : r1.pos ≤ r1.len) (hi2 : Inv r2) (hp2 : r2.pos ≤ r2.len) (habs : abs r1 = abs r2)
    (hc1 : (b.length : Int) + 4 ≤ r1.chunk) (hc2 : (b.length : Int) + 4 ≤ r2.chunk) (hm : lim.maxHdr = -1 ∨ 0 ≤ lim.maxHdr)
    (hok1 : ∀ k, ∀ op ∈ sc1 k, op.ok r1.chunk) (hok2 : ∀ k, ∀ op ∈ sc2 k, op.ok r2.chunk) :
    (runImpl sc1 ((abs r1).length + 1) 0 (initForm b lim) r1 []).1.map Prod.fst
      = (runImpl sc2 ((abs r2).length + 1) 0 (initForm b lim) r2 []).1.map Prod.fst ∧
    (runImpl sc1 ((abs r1).length + 1) 0 (initForm b lim) r1 []).2
      = (runImpl sc2 ((abs r2).length + 1) 0 (initForm b lim) r2 []).2 := by
  rw [next_refines_flat sc1 r1 b lim hi1 hp1 hc1 hm hok1, next_refines_flat sc2 r2 b lim hi2 hp2 hc2 hm hok2, habs]
  simp only [observe_fst]
  exact ⟨trivial, trivial⟩

/-- **end to end**: a boundary- and header-safe form within the limits, encoded by the reference encoder, delivered by any
    lawful source in any chunking to a fresh reader with chunk size ≥ `len(CRLF--boundary)`, with the application consuming
    the part streams in any way: it is handed exactly the encoded parts' header dicts, in order, and `StopIteration`; and each
    part stream is a flat cursor over exactly the encoded content -/
theorem impl_parse_encode (sc : Scripts) (parts : List Part) (b pre epi : Bytes) (fin : Bool) (lim : Limits) (r : R σ)
    (hinv : Inv r) (hpl : r.pos ≤ r.len) (habs : abs r = encodeForm parts b pre epi fin)
    (hc : (b.length : Int) + 4 ≤ r.chunk) (hm : lim.maxHdr = -1 ∨ 0 ≤ lim.maxHdr) (hok : ∀ k, ∀ op ∈ sc k, op.ok r.chunk)
    (hb : BoundarySafe parts b pre) (hh : HeadersSafe parts) (hl : WithinLimits parts lim) :
    runImpl sc ((abs r).length + 1) 0 (initForm b lim) r []
      = (observe r.chunk sc 0 (parts.map Part.parsed), .finished) := by
  rw [next_refines_flat sc r b lim hinv hpl hc hm hok, habs,
    parseAll_encode parts b pre epi fin lim hb (fun p hp => (hh p hp).1),
    expect_pass lim.maxHdr lim.maxCount parts lim.maxCount (fun p hp => ⟨hl.1 p hp, (hh p hp).2.1, (hh p hp).2.2⟩) hl.2]
  rfl

/-- **`invalid_is_parse_error_only` and `parser_terminates` for the implementation model**: under the hypotheses of the bridge,
    iterating `Mp.next` over the buffered reader - whatever the body holds, however it is chunked, whatever the application
    does with the part streams - ends with `StopIteration` or with one of the four `MultipartParseError`s; it never runs out
    of fuel (no hang) and never raises `ValueError` (`Mp.Err.value`, the only other constructor) -/
theorem impl_error_only (sc : Scripts) (r : R σ) (b : Bytes) (lim : Limits) (hinv : Inv r) (hpl : r.pos ≤ r.len)
    (hc : (b.length : Int) + 4 ≤ r.chunk) (hm : lim.maxHdr = -1 ∨ 0 ≤ lim.maxHdr) (hok : ∀ k, ∀ op ∈ sc k, op.ok r.chunk) :
    (runImpl sc ((abs r).length + 1) 0 (initForm b lim) r []).2 = .finished ∨
    ∃ e : Err, (runImpl sc ((abs r).length + 1) 0 (initForm b lim) r []).2 = .error e.toMp := by
  rw [next_refines_flat sc r b lim hinv hpl hc hm hok]
  have ht := parser_terminates (abs r) b lim
  cases ho : (parseAll (abs r) b lim).2 with
  | finished => left; rfl
  | error e => right; exact ⟨e, rfl⟩
  | fuel => exact absurd ho ht


/-- the same for a freshly constructed reader `BufferedReader(read, max_stream_len, chunk_size)`: the text is the first
    `max_stream_len` bytes the source delivers - the request body -/
theorem next_refines_flat_fresh (sc : Scripts) (src : σ) (maxLen chunk : Int) (b : Bytes) (lim : Limits) (h0 : 0 ≤ maxLen)
    (hc : (b.length : Int) + 4 ≤ chunk) (hm : lim.maxHdr = -1 ∨ 0 ≤ lim.maxHdr) (hok : ∀ k, ∀ op ∈ sc k, op.ok chunk) :
    let body := (LawfulSource.data src).take maxLen.toNat
    runImpl sc (body.length + 1) 0 (initForm b lim) ({ rem := maxLen, chunk := chunk, src := src } : R σ) []
      = (observe chunk sc 0 (parseAll body b lim).1, (parseAll body b lim).2.lift) := by
  intro body
  obtain ⟨f1, f2, f3⟩ := fresh_reader src maxLen chunk h0 (by omega)
  have := next_refines_flat sc ({ rem := maxLen, chunk := chunk, src := src } : R σ) b lim f1 f2 hc hm hok
  rw [f3] at this
  exact this

/-- non-vacuity: a 5-byte-chunk reader over a source that delivers at most 1-3 bytes per call, boundary "b", a script that
    peeks, reads 1 byte and reads a line of part 0, skips part 1 and pipes the rest - all hypotheses of `next_refines_flat` hold -/
example :
    let r : R Src := { rem := 40, chunk := 5, src := Src.mk [45, 45, 98, 13, 10, 13, 10, 120, 13, 10, 45, 45, 98, 45, 45] [1, 3, 2, 1] [] }
    let sc : Scripts := fun k => if k = 0 then [POp.peek 2, POp.read (some 1), POp.readline none] else if k = 1 then [] else [POp.pipe]
    Inv r ∧ r.pos ≤ r.len ∧ (([98] : Bytes).length : Int) + 4 ≤ r.chunk ∧ ((8192 : Int) = -1 ∨ (0 : Int) ≤ 8192) ∧
      ∀ k, ∀ op ∈ sc k, op.ok r.chunk := by
  refine ⟨⟨rfl, by decide, by decide, by decide, Or.inl (by decide)⟩, by decide, by decide, by decide, ?_⟩
  intro k op hop
  by_cases h0 : k = 0
  · simp only [h0, if_true, List.mem_cons, List.not_mem_nil, or_false] at hop
    rcases hop with rfl | rfl | rfl
    · trivial
    · intro x hx; cases hx; right; decide
    · intro x hx; cases hx
  · by_cases h1 : k = 1
    · simp [h1] at hop
    · simp only [h0, h1, if_false, List.mem_cons, List.not_mem_nil, or_false] at hop
      subst hop; trivial

end Mf
