import FalconModel.FinalizeReader
import FalconModel.FinalizeProofs
/-! C06 (response side): a file-like `resp.stream` with **short reads** is delivered completely, and identically, by both
    stacks - for every content, every short-read pattern (`caps`, `tail`, all positive) and every block size. -/
namespace Fr
open Fz (drainFile)

/-- every `read` call returns at least one byte while data is left (only `b''` means end of file) -/
def capsPos (caps : List Nat) (tail : Nat) : Bool := caps.all (fun c => decide (0 < c)) && decide (0 < tail)

theorem capAt_pos {caps : List Nat} {tail : Nat} (h : capsPos caps tail = true) (i : Nat) : 0 < capAt caps tail i := by
  unfold capsPos at h
  simp only [Bool.and_eq_true, List.all_eq_true, decide_eq_true_eq] at h
  unfold capAt
  rw [List.getD_eq_getElem?_getD]
  cases hi : caps[i]? with
  | none => simpa using h.2
  | some c => simpa using h.1 c (List.mem_of_getElem? hi)

/-- a non-empty result consumes at least one byte -/
theorem read_progress (caps : List Nat) (tail : Nat) (rest : Bytes) (i n : Nat)
    (h : (read caps tail rest i n).1.isEmpty = false) :
    (read caps tail rest i n).2.length < rest.length := by
  unfold read at *
  simp only at *
  have hk : 0 < min n (capAt caps tail i) := by
    rcases Nat.eq_zero_or_pos (min n (capAt caps tail i)) with h0 | h0
    · rw [h0] at h; simp at h
    · exact h0
  have hr : 0 < rest.length := by
    rcases Nat.eq_zero_or_pos rest.length with h0 | h0
    · have : rest = [] := List.eq_nil_of_length_eq_zero h0
      subst this; simp at h
    · exact h0
  rw [List.length_drop]; omega

/-- `read` returns a prefix and keeps the rest: nothing is lost or reordered -/
theorem read_append (caps : List Nat) (tail : Nat) (rest : Bytes) (i n : Nat) :
    (read caps tail rest i n).1 ++ (read caps tail rest i n).2 = rest := by
  unfold read; simp

/-- with positive caps and a positive block size an empty result means that nothing is left -/
theorem read_empty_end {caps : List Nat} {tail : Nat} (hc : capsPos caps tail = true) {n : Nat} (hn : 0 < n)
    (rest : Bytes) (i : Nat) (h : (read caps tail rest i n).1.isEmpty = true) : rest = [] := by
  unfold read at h
  simp only at h
  have hk : 0 < min n (capAt caps tail i) := by have := capAt_pos hc i; omega
  cases rest with
  | nil => rfl
  | cons x xs =>
    obtain ⟨k, hk'⟩ : ∃ k, min n (capAt caps tail i) = k + 1 := ⟨min n (capAt caps tail i) - 1, by omega⟩
    rw [hk'] at h; simp at h

/-- **the hand-outs of the object concatenate to its content**, whatever the short-read pattern and the block size -/
theorem handouts_flatten {caps : List Nat} {tail : Nat} (hc : capsPos caps tail = true) {n : Nat} (hn : 0 < n) :
    ∀ (fuel : Nat) (rest : Bytes) (i : Nat), rest.length < fuel → (handouts n caps tail fuel rest i).flatten = rest := by
  intro fuel
  induction fuel with
  | zero => intro rest i h; omega
  | succ f ih =>
    intro rest i h
    unfold handouts
    simp only
    cases he : (read caps tail rest i n).1.isEmpty with
    | true =>
      simp only [if_true]
      have := read_empty_end hc hn rest i he
      subst this; simp
    | false =>
      simp only [Bool.false_eq_true, if_false, List.flatten_cons]
      have hp := read_progress caps tail rest i n he
      rw [ih _ _ (by omega)]
      exact read_append caps tail rest i n

/-- the loop on the object = `Fz.drainFile` on the list of its hand-outs (any failing call, any fuel that suffices) -/
theorem pump_eq_drainFile (n : Nat) (caps : List Nat) (tail : Nat) (fail : Option Nat) :
    ∀ (fuel : Nat) (rest : Bytes) (i F : Nat), rest.length < fuel → (handouts n caps tail fuel rest i).length ≤ F →
      pump n caps tail fail fuel rest i = drainFile F (handouts n caps tail fuel rest i) fail i := by
  intro fuel
  induction fuel with
  | zero => intro rest i F h; cases h
  | succ f ih =>
    intro rest i F h hF
    unfold handouts at hF ⊢
    unfold pump
    dsimp only at hF ⊢
    cases F with
    | zero => split at hF <;> cases hF
    | succ F' =>
      unfold drainFile
      by_cases hf : (fail == some i) = true
      · rw [if_pos hf, if_pos hf]
      · rw [if_neg hf, if_neg hf]
        cases he : (read caps tail rest i n).1.isEmpty with
        | true => rw [if_pos rfl]; rfl
        | false =>
          rw [he] at hF
          rw [if_neg Bool.false_ne_true, if_neg Bool.false_ne_true]
          dsimp only
          rw [he, if_neg Bool.false_ne_true,
            ih _ _ F' (Nat.lt_of_lt_of_le (read_progress caps tail rest i n he) (Nat.le_of_lt_succ h))
              (Nat.le_of_succ_le_succ hF)]

/-- **completeness of the pump**: without a failing call the loop delivers exactly the content and ends normally -/
theorem pump_complete {caps : List Nat} {tail : Nat} (hc : capsPos caps tail = true) {n : Nat} (hn : 0 < n) :
    ∀ (fuel : Nat) (rest : Bytes) (i : Nat), rest.length < fuel →
      (pump n caps tail none fuel rest i).1.flatten = rest ∧ (pump n caps tail none fuel rest i).2 = false := by
  intro fuel
  induction fuel with
  | zero => intro rest i h; omega
  | succ f ih =>
    intro rest i h
    unfold pump
    simp only [show ((none : Option Nat) == some i) = false from rfl, Bool.false_eq_true, if_false]
    cases he : (read caps tail rest i n).1.isEmpty with
    | true =>
      have := read_empty_end hc hn rest i he
      subst this; simp
    | false =>
      simp only [Bool.false_eq_true, if_false, List.flatten_cons]
      have hp := read_progress caps tail rest i n he
      obtain ⟨h1, h2⟩ := ih (read caps tail rest i n).2 (i + 1) (by omega)
      refine ⟨?_, h2⟩
      rw [h1]; exact read_append caps tail rest i n

/-- with a failing call (or a reader that declares the end early) what was delivered is a prefix of the content -/
theorem pump_prefix (n : Nat) (caps : List Nat) (tail : Nat) (fail : Option Nat) :
    ∀ (fuel : Nat) (rest : Bytes) (i : Nat), ∃ t, (pump n caps tail fail fuel rest i).1.flatten ++ t = rest := by
  intro fuel
  induction fuel with
  | zero => intro rest i; exact ⟨rest, by simp [pump]⟩
  | succ f ih =>
    intro rest i
    unfold pump
    by_cases hf : (fail == some i) = true
    · exact ⟨rest, by simp [hf]⟩
    · simp only [hf, Bool.false_eq_true, if_false]
      cases he : (read caps tail rest i n).1.isEmpty with
      | true => exact ⟨rest, by simp⟩
      | false =>
        simp only [Bool.false_eq_true, if_false, List.flatten_cons]
        obtain ⟨t, ht⟩ := ih (read caps tail rest i n).2 (i + 1)
        refine ⟨t, ?_⟩
        rw [List.append_assoc, ht]; exact read_append caps tail rest i n

/-- the block size does not matter: two pumps with different (positive) block sizes deliver the same bytes -/
theorem pump_block_size_irrelevant {caps : List Nat} {tail : Nat} (hc : capsPos caps tail = true) {n m : Nat} (hn : 0 < n) (hm : 0 < m)
    (data : Bytes) :
    (pump n caps tail none (data.length + 1) data 0).1.flatten = (pump m caps tail none (data.length + 1) data 0).1.flatten := by
  rw [(pump_complete hc hn _ data 0 (by omega)).1, (pump_complete hc hm _ data 0 (by omega)).1]

theorem blockSize_pos : 0 < blockSize := by decide

/-- what `Fz.wsgi` / `Fz.asgi` drain for a reader stream is the pump run on the object -/
theorem drain_blocks (data : Bytes) (caps : List Nat) (tail : Nat) (fail : Option Nat) :
    drainFile ((blocks data caps tail).length + 1) (blocks data caps tail) fail 0
      = pump blockSize caps tail fail (data.length + 1) data 0 := by
  unfold blocks
  exact (pump_eq_drainFile blockSize caps tail fail (data.length + 1) data 0
    ((handouts blockSize caps tail (data.length + 1) data 0).length + 1) (by omega) (by omega)).symm

/-- **WSGI delivers a file-like stream completely**, whatever its short-read pattern: the chunks of the iterable
    `falcon.App.__call__` returns concatenate to the content of the object, and the iteration ends normally -/
theorem wsgi_payload_complete (status : Nat) (data : Bytes) {caps : List Nat} {tail : Nat} (hc : capsPos caps tail = true)
    (headers : List (String × String)) (cookies : List String) (c : Fz.Cfg)
    (hh : c.head = false) (hb : Fz.bodiless status = false) :
    (Fz.wsgi (respOf status data caps tail none headers cookies) c).payload = data ∧
    (Fz.wsgi (respOf status data caps tail none headers cookies) c).iterErr = false := by
  have hp := pump_complete hc blockSize_pos (data.length + 1) data 0 (by omega)
  unfold Fz.wsgi Fz.Out.payload respOf Fz.renderBody
  simp only [hh, hb, Bool.or_self, Bool.false_eq_true, if_false, drain_blocks]
  rcases hq : pump blockSize caps tail none (data.length + 1) data 0 with ⟨o, e⟩
  rw [hq] at hp
  simpa using hp

/-- **ASGI delivers it completely too**: the `body` fields of the events concatenate to the content -/
theorem asgi_payload_complete (status : Nat) (data : Bytes) {caps : List Nat} {tail : Nat} (hc : capsPos caps tail = true)
    (headers : List (String × String)) (cookies : List String) (c : Fz.Cfg)
    (hh : c.head = false) (hb : Fz.bodiless status = false) :
    (Fz.asgi (respOf status data caps tail none headers cookies) c).payload = data ∧
    (Fz.asgi (respOf status data caps tail none headers cookies) c).iterErr = false := by
  obtain ⟨_, _, h3, h4⟩ := Fz.wsgi_asgi_agree (respOf status data caps tail none headers cookies) c
  rw [← h3, ← h4]
  exact wsgi_payload_complete status data hc headers cookies c hh hb

/-- a failing `read` call: both stacks have delivered the same prefix of the content when the exception surfaces -/
theorem failing_reader_prefix (status : Nat) (data : Bytes) (caps : List Nat) (tail : Nat) (fail : Option Nat)
    (headers : List (String × String)) (cookies : List String) (c : Fz.Cfg) :
    (Fz.wsgi (respOf status data caps tail fail headers cookies) c).payload
      = (Fz.asgi (respOf status data caps tail fail headers cookies) c).payload ∧
    ∃ t, (Fz.wsgi (respOf status data caps tail fail headers cookies) c).payload ++ t = data := by
  have hag := Fz.wsgi_asgi_agree (respOf status data caps tail fail headers cookies) c
  refine ⟨hag.2.2.1, ?_⟩
  unfold Fz.wsgi Fz.Out.payload respOf Fz.renderBody
  simp only [drain_blocks]
  obtain ⟨t, ht⟩ := pump_prefix blockSize caps tail fail (data.length + 1) data 0
  rcases hq : pump blockSize caps tail fail (data.length + 1) data 0 with ⟨o, e⟩
  rw [hq] at ht
  by_cases hx : (c.head || Fz.bodiless status) = true
  · exact ⟨data, by simp [hx]⟩
  · exact ⟨t, by simpa [hx] using ht⟩

/-- the hypotheses are satisfiable by a stream that is short in the middle: 12000 bytes in bursts of 5000, 5000, 2000 -/
example : capsPos [5000, 5000] 2000 = true := by decide
/-- ... and the statement is not vacuous: the same reader, pumped by a loop that stops at the first short block, loses data -/
example : ((blocks (content 20) [5, 5] 2).map List.length) = [5, 5, 2, 2, 2, 2, 2, 0] := by decide

/-- regression witness for the class of defect "stop at the first short block": that loop would deliver 5 of the 12 bytes -/
def pumpUntilShort (n : Nat) : List Bytes → List Bytes
  | [] => []
  | c :: rest => if c.isEmpty then [] else if c.length < n then [c] else c :: pumpUntilShort n rest
theorem short_block_stop_witness :
    (pumpUntilShort 8 (handouts 8 [5, 5] 2 13 (content 12) 0)).flatten.length = 5 ∧
    (pump 8 [5, 5] 2 none 13 (content 12) 0).1.flatten = content 12 := by decide

end Fr
