import FalconModel.StreamGlue
import FalconModel.HeaderParsersProofs
import FalconModel.WsgiStreamProofs
import FalconModel.AsgiHistory
/-! C07 glue proofs (model: `StreamGlue.lean`): the declared length handed to `BoundedStream` IS what the Content-Length text declares — on both
    stacks, for every header text — and the C07 history theorems (`Ws7F.history_refines_cursor`, `AsF.history_refines`) therefore hold for the stream
    obtained THROUGH THE REQUEST OBJECT, end to end from the header text.

    1. `Declares w text n`: the exact set of Content-Length texts that declare `n` (RFC 9110 `1*DIGIT` = `declares_digits`; the liberal spellings Python's
       `int()` adds: surrounding whitespace of class `w`, a `+`, a `-` before zero, single underscores between digits); `contentLengthW_spec`: C09's
       `Hp.contentLengthW` reads exactly those, every other non-empty text is the 400, missing/empty is `None` (`pyIntW_iff` characterises `Hp.pyIntW`).
    2. `wsgi_bound_eq_declared`, `asgi_bound` (+ converses, `asgi_stream_access`).
    3. `wsgi_request_stream_refines_cursor` / `asgi_request_stream_refines_cursor` (+ `_from_header_text`, `_no_usable_length`, `_unbounded`, `_invalid`,
       `wsgi_request_exhaust`); lazy caching of the stream object is part of the model (`reqOps_eq`, `areqOps_eq`).
    4. `wsgi_accompanying_headers_irrelevant`, `asgi_accompanying_headers_irrelevant` (`buildHeaders_lookup_cl`: last `content-length` entry wins). -/
namespace Sg
open Hp

/-- `D+ ('_' D+)*`: groups of decimal digits separated by single underscores (the second index is the text without the
    underscores) -/
inductive Groups : Str → Str → Prop
  | one (d : Str) : allDigits d → d ≠ [] → Groups d d
  | more (d rest ds : Str) : allDigits d → d ≠ [] → Groups rest ds → Groups (d ++ '_' :: rest) (d ++ ds)

theorem digitsGo_run : ∀ (d : Str), allDigits d → ∀ (r : Str) (acc : Nat) (last : Bool),
    digitsGo (d ++ r) acc last = digitsGo r (Nat.ofDigitChars 10 d acc) (last || !d.isEmpty)
  | [], _, r, acc, last => by simp
  | c :: d, h, r, acc, last => by
    have hc : c.isDigit = true := h c (by simp)
    have hd : allDigits d := fun x hx => h x (by simp [hx])
    simp only [List.cons_append, digitsGo, hc, if_true]
    rw [digitsGo_run d hd, Nat.ofDigitChars_cons]
    simp

theorem Groups.digitsGo {t ds : Str} (h : Groups t ds) : ∀ (acc : Nat) (last : Bool),
    digitsGo t acc last = some (Nat.ofDigitChars 10 ds acc) := by
  induction h with
  | one d hd hne => intro acc last; exact digitsGo_digits d acc last hd (Or.inl hne)
  | more d rest ds hd hne _ ih =>
    intro acc last
    rw [digitsGo_run d hd, List.isEmpty_eq_false_iff.mpr hne, Bool.not_false, Bool.or_true, Nat.ofDigitChars_append]
    exact ih _ false

theorem allDigits_cons {c : Char} {d : Str} (hc : c.isDigit = true) (hd : allDigits d) : allDigits (c :: d) := by
  intro x hx
  cases List.mem_cons.mp hx with
  | inl e => rw [e]; exact hc
  | inr e => exact hd x e

theorem Groups.consDigit {t ds : Str} (h : Groups t ds) (c : Char) (hc : c.isDigit = true) : Groups (c :: t) (c :: ds) := by
  cases h with
  | one _ hd hne => exact .one (c :: t) (allDigits_cons hc hd) (List.cons_ne_nil c t)
  | more d rest ds hd hne hr => exact .more (c :: d) rest ds (allDigits_cons hc hd) (List.cons_ne_nil c d) hr

theorem digitsGo_inv : ∀ (t : Str) (acc : Nat) (last : Bool) (res : Nat), digitsGo t acc last = some res →
    (t = [] ∧ last = true ∧ res = acc) ∨
    (last = true ∧ ∃ r ds, t = '_' :: r ∧ Groups r ds ∧ res = Nat.ofDigitChars 10 ds acc) ∨
    (∃ ds, Groups t ds ∧ res = Nat.ofDigitChars 10 ds acc)
  | [], acc, last, res, h => by
    simp only [digitsGo] at h
    split at h
    · rename_i hl; simp at h; exact Or.inl ⟨rfl, hl, h.symm⟩
    · simp at h
  | c :: r, acc, last, res, h => by
    simp only [digitsGo] at h
    split at h
    · rename_i hc
      have hone : allDigits [c] := allDigits_cons hc (fun _ h => nomatch h)
      refine Or.inr (Or.inr ?_)
      rcases digitsGo_inv r _ true res h with ⟨hr, _, hres⟩ | ⟨_, r2, ds, hr, hg, hres⟩ | ⟨ds, hg, hres⟩
      · exact ⟨[c], hr ▸ .one [c] hone (List.cons_ne_nil c []), by rw [hres, Nat.ofDigitChars_cons]; rfl⟩
      · exact ⟨c :: ds, hr ▸ .more [c] r2 ds hone (List.cons_ne_nil c []) hg, by rw [hres, Nat.ofDigitChars_cons]; rfl⟩
      · exact ⟨c :: ds, hg.consDigit c hc, by rw [hres, Nat.ofDigitChars_cons]; rfl⟩
    · split at h
      · rename_i hu
        simp at hu
        obtain ⟨hcu, hl⟩ := hu
        subst hcu
        rcases digitsGo_inv r acc false res h with ⟨_, ⟨⟩, _⟩ | ⟨⟨⟩, _⟩ | ⟨ds, hg, hres⟩
        exact Or.inr (Or.inl ⟨hl, r, ds, rfl, hg, hres⟩)
      · simp at h

/-- `digitsGo` from the start state accepts exactly `D+('_'D+)*` and reads the digits in decimal -/
theorem digitsGo_iff (t : Str) (res : Nat) :
    digitsGo t 0 false = some res ↔ ∃ ds, Groups t ds ∧ res = Nat.ofDigitChars 10 ds 0 := by
  constructor
  · intro h
    rcases digitsGo_inv t 0 false res h with ⟨_, ⟨⟩, _⟩ | ⟨⟨⟩, _⟩ | h3
    exact h3
  · rintro ⟨ds, hg, rfl⟩; exact hg.digitsGo 0 false

def allW (w : Char → Bool) (l : Str) : Prop := ∀ c ∈ l, w c = true

theorem allW_takeWhile (w : Char → Bool) (l : Str) : allW w (l.takeWhile w) :=
  List.all_eq_true.mp List.all_takeWhile

/-- `strip` removes a whitespace-only prefix and suffix -/
theorem strip_decomp (w : Char → Bool) (s : Str) : ∃ pre post, s = pre ++ stripW w s ++ post ∧ allW w pre ∧ allW w post := by
  refine ⟨s.takeWhile w, (((s.dropWhile w).reverse).takeWhile w).reverse, ?_, allW_takeWhile w s,
    fun c hc => allW_takeWhile w _ c (List.mem_reverse.mp hc)⟩
  unfold stripW rstripW lstripW
  have h1 : ((s.dropWhile w).reverse.dropWhile w).reverse ++ ((s.dropWhile w).reverse.takeWhile w).reverse = s.dropWhile w := by
    rw [← List.reverse_append, List.takeWhile_append_dropWhile, List.reverse_reverse]
  rw [List.append_assoc, h1, List.takeWhile_append_dropWhile]

/-- …and nothing else: a text whose first and last characters are not whitespace is what remains of it after any amount
    of whitespace was put around it -/
theorem strip_sandwich (w : Char → Bool) (pre post init : Str) (a z : Char) (hpre : allW w pre) (hpost : allW w post)
    (ha : w a = false) (hz : w z = false) (mid : Str) (hm1 : ∃ t, mid = a :: t) (hm2 : mid = init ++ [z]) :
    stripW w (pre ++ mid ++ post) = mid := by
  obtain ⟨t, ht⟩ := hm1
  unfold stripW rstripW lstripW
  rw [List.append_assoc, List.dropWhile_append_of_pos hpre]
  have : (mid ++ post).dropWhile w = mid ++ post := by rw [ht]; exact dropWhile_head_false ha
  rw [this, List.reverse_append, List.dropWhile_append_of_pos (fun c hc => hpost c (List.mem_reverse.mp hc))]
  rw [hm2, List.reverse_append]
  simp only [List.reverse_cons, List.reverse_nil, List.nil_append, List.singleton_append]
  rw [dropWhile_head_false hz]
  simp

/-- **what Python's `int()` (whitespace class `w`) reads as the integer `z`**: optional whitespace, an optional sign, `D+('_'D+)*` read in
    decimal, optional whitespace -/
def IntSpelling (w : Char → Bool) (s : Str) (z : Int) : Prop :=
  ∃ pre sign body ds post, s = pre ++ sign ++ body ++ post ∧ allW w pre ∧ allW w post ∧ Groups body ds ∧
    (((sign = [] ∨ sign = ['+']) ∧ z = ((Nat.ofDigitChars 10 ds 0 : Nat) : Int)) ∨
     (sign = ['-'] ∧ z = -((Nat.ofDigitChars 10 ds 0 : Nat) : Int)))

theorem Groups.head {t ds : Str} (h : Groups t ds) : ∃ c r, t = c :: r ∧ c.isDigit = true := by
  cases h with
  | one _ hd hne =>
    cases t with
    | nil => exact absurd rfl hne
    | cons c r => exact ⟨c, r, rfl, hd c (by simp)⟩
  | more d rest ds hd hne _ =>
    cases d with
    | nil => exact absurd rfl hne
    | cons c r => exact ⟨c, r ++ '_' :: rest, rfl, hd c (by simp)⟩

theorem Groups.last {t ds : Str} (h : Groups t ds) : ∃ init z, t = init ++ [z] ∧ z.isDigit = true := by
  induction h with
  | one d hd hne =>
    refine ⟨d.dropLast, d.getLast hne, (List.dropLast_concat_getLast hne).symm, hd _ (List.getLast_mem hne)⟩
  | more d rest ds _ _ _ ih =>
    obtain ⟨init, z, hr, hz⟩ := ih
    exact ⟨d ++ '_' :: init, z, by rw [hr]; simp, hz⟩

structure WsClass (w : Char → Bool) : Prop where
  digit : ∀ c, c.isDigit = true → w c = false
  plus : w '+' = false
  minus : w '-' = false

theorem wsClass_I : WsClass isWsI := ⟨fun _ => isWsI_of_isDigit, by decide, by decide⟩
theorem wsClass_B : WsClass isWsB := ⟨fun _ => isWsB_of_isDigit, by decide, by decide⟩

theorem pyIntW_iff {w : Char → Bool} (hw : WsClass w) (s : Str) (z : Int) : pyIntW w s = some z ↔ IntSpelling w s z := by
  constructor
  · intro h
    obtain ⟨pre, post, hs, hpre, hpost⟩ := strip_decomp w s
    -- each branch of `pyIntW` maps what `digitsGo` read
    have key : ∀ {r : Str} {g : Nat → Option Int} (f : Nat → Int), (∀ a, g a = some (f a)) →
        (digitsGo r 0 false).bind g = some z → ∃ ds, Groups r ds ∧ z = f (Nat.ofDigitChars 10 ds 0) := by
      intro r g f hg hm
      obtain ⟨n, hn, hz⟩ := Option.bind_eq_some_iff.mp hm
      obtain ⟨ds, hG, hd⟩ := (digitsGo_iff r n).mp hn
      exact ⟨ds, hG, by rw [← hd]; exact (Option.some.inj ((hg n).symm.trans hz)).symm⟩
    unfold pyIntW at h
    split at h
    · rename_i r heq
      simp at h
      obtain ⟨ds, hG, hz⟩ := key (fun n => -(n : Int)) (fun _ => rfl) h
      exact ⟨pre, ['-'], r, ds, post, by rw [hs, heq]; simp, hpre, hpost, hG, Or.inr ⟨rfl, hz⟩⟩
    · rename_i r heq
      simp at h
      obtain ⟨ds, hG, hz⟩ := key (fun n => (n : Int)) (fun _ => rfl) h
      exact ⟨pre, ['+'], r, ds, post, by rw [hs, heq]; simp, hpre, hpost, hG, Or.inl ⟨Or.inr rfl, hz⟩⟩
    · simp at h
      obtain ⟨ds, hG, hz⟩ := key (fun n => (n : Int)) (fun _ => rfl) h
      exact ⟨pre, [], stripW w s, ds, post, by simpa using hs, hpre, hpost, hG, Or.inl ⟨Or.inl rfl, hz⟩⟩
  · rintro ⟨pre, sign, body, ds, post, hs, hpre, hpost, hG, hsign⟩
    obtain ⟨c, r, hbody, hc⟩ := hG.head
    obtain ⟨init, zc, hlast, hzc⟩ := hG.last
    have hgo := hG.digitsGo 0 false
    have hstrip : ∀ a t, sign ++ body = a :: t → w a = false → stripW w s = sign ++ body := by
      intro a t hat ha
      rw [hs, List.append_assoc pre]
      exact strip_sandwich w pre post (sign ++ init) a zc hpre hpost ha (hw.digit zc hzc) (sign ++ body) ⟨t, hat⟩
        (by rw [hlast, List.append_assoc])
    rcases hsign with ⟨hsg | hsg, hz⟩ | ⟨hsg, hz⟩
    · subst hsg
      rw [pyIntW, hstrip c r hbody (hw.digit c hc), List.nil_append]
      split
      · cases hbody; exact absurd hc (by decide)
      · cases hbody; exact absurd hc (by decide)
      · rw [hgo, hz]; rfl
    · subst hsg
      rw [pyIntW, hstrip '+' body rfl hw.plus, List.singleton_append]; simp only
      rw [hgo, hz]; rfl
    · subst hsg
      rw [pyIntW, hstrip '-' body rfl hw.minus, List.singleton_append]; simp only
      rw [hgo, hz]; rfl

/-- **the Content-Length texts that declare the length `n`** (whitespace class `w`: `isWsI` for the WSGI `str`, `isWsB` for the
    ASGI byte string): optional whitespace, an optional `+` (a `-` only in front of a zero), `D+('_'D+)*` read in decimal with the
    underscores dropped, optional whitespace.  RFC 9110's `1*DIGIT` is the case without whitespace, sign and underscores
    (`declares_digits`). -/
def Declares (w : Char → Bool) (s : Str) (n : Nat) : Prop :=
  ∃ pre sign body ds post, s = pre ++ sign ++ body ++ post ∧ allW w pre ∧ allW w post ∧ Groups body ds ∧
    n = Nat.ofDigitChars 10 ds 0 ∧ (sign = [] ∨ sign = ['+'] ∨ (sign = ['-'] ∧ n = 0))

theorem declares_iff (w : Char → Bool) (s : Str) (n : Nat) : Declares w s n ↔ IntSpelling w s (n : Int) := by
  constructor
  · rintro ⟨pre, sign, body, ds, post, hs, hpre, hpost, hG, hn, hsg⟩
    refine ⟨pre, sign, body, ds, post, hs, hpre, hpost, hG, ?_⟩
    subst hn
    rcases hsg with h | h | ⟨h, h0⟩
    · exact Or.inl ⟨Or.inl h, rfl⟩
    · exact Or.inl ⟨Or.inr h, rfl⟩
    · exact Or.inr ⟨h, by rw [h0]; rfl⟩
  · rintro ⟨pre, sign, body, ds, post, hs, hpre, hpost, hG, hsg⟩
    refine ⟨pre, sign, body, ds, post, hs, hpre, hpost, hG, ?_⟩
    rcases hsg with ⟨h, hz⟩ | ⟨h, hz⟩
    · exact ⟨Int.ofNat_inj.mp hz, h.imp_right Or.inl⟩
    · exact ⟨by omega, Or.inr (Or.inr ⟨h, by omega⟩)⟩

theorem declares_iff_pyIntW {w : Char → Bool} (hw : WsClass w) (s : Str) (n : Nat) : Declares w s n ↔ pyIntW w s = some (n : Int) :=
  (declares_iff w s n).trans (pyIntW_iff hw s n).symm

/-- RFC 9110 `Content-Length = 1*DIGIT`: a non-empty string of decimal digits declares its decimal value (leading zeros allowed) -/
theorem declares_digits (w : Char → Bool) (l : Str) (hd : allDigits l) (hne : l ≠ []) : Declares w l (Nat.ofDigitChars 10 l 0) :=
  ⟨[], [], l, l, [], by simp, fun _ h => by simp at h, fun _ h => by simp at h, .one l hd hne, rfl, Or.inl rfl⟩

theorem declares_toDigits (w : Char → Bool) (n : Nat) : Declares w (Nat.toDigits 10 n) n := by
  have := declares_digits w _ (toDigits_allDigits n) (by simp)
  rwa [Nat.ofDigitChars_ten_toDigits] at this

theorem declares_unique {w : Char → Bool} (hw : WsClass w) {s : Str} {n m : Nat} (h1 : Declares w s n) (h2 : Declares w s m) : n = m := by
  have a := (declares_iff_pyIntW hw s n).mp h1
  have b := (declares_iff_pyIntW hw s m).mp h2
  exact Int.ofNat_inj.mp (Option.some.inj (a.symm.trans b))

theorem not_declares_nil (w : Char → Bool) (n : Nat) : ¬ Declares w [] n := by
  rintro ⟨pre, sign, body, ds, post, hs, _, _, hG, _⟩
  obtain ⟨c, r, hb, _⟩ := hG.head
  rw [hb] at hs
  have := congrArg List.length hs
  simp at this

/-- the complete reading of `req.content_length`, for EVERY header value -/
theorem contentLengthW_spec {w : Char → Bool} (hw : WsClass w) (v : Option Str) :
    ((v = none ∨ v = some []) ∧ contentLengthW w v = .absent) ∨
    (∃ s n, v = some s ∧ Declares w s n ∧ contentLengthW w v = .ok (n : Int)) ∨
    (∃ s, v = some s ∧ s ≠ [] ∧ (∀ n, ¬ Declares w s n) ∧ contentLengthW w v = .bad) := by
  cases v with
  | none => exact Or.inl ⟨Or.inl rfl, rfl⟩
  | some s =>
    cases s with
    | nil => exact Or.inl ⟨Or.inr rfl, rfl⟩
    | cons a t =>
      right
      cases hp : pyIntW w (a :: t) with
      | none =>
        refine Or.inr ⟨a :: t, rfl, by simp, ?_, by simp [contentLengthW, hp]⟩
        intro n hn
        rw [declares_iff_pyIntW hw, hp] at hn
        cases hn
      | some z =>
        by_cases hz : z < 0
        · refine Or.inr ⟨a :: t, rfl, by simp, ?_, by simp [contentLengthW, hp, hz]⟩
          intro n hn
          rw [declares_iff_pyIntW hw, hp] at hn
          have := Option.some.inj hn
          omega
        · have hzn : ((z.toNat : Nat) : Int) = z := Int.toNat_of_nonneg (Int.not_lt.mp hz)
          refine Or.inl ⟨a :: t, z.toNat, rfl, ?_, ?_⟩
          · rw [declares_iff_pyIntW hw, hzn]
            exact hp
          · simp [contentLengthW, hp, hz, hzn]

/-- the two readings that are not "absent" -/
theorem contentLengthW_declares {w : Char → Bool} (hw : WsClass w) {s : Str} {n : Nat} (h : Declares w s n) :
    contentLengthW w (some s) = .ok (n : Int) := by
  have hp := (declares_iff_pyIntW hw s n).mp h
  cases s with
  | nil => exact absurd h (not_declares_nil w n)
  | cons a t => simp [contentLengthW, hp]

theorem contentLengthW_undeclared {w : Char → Bool} (hw : WsClass w) {s : Str} (hne : s ≠ []) (h : ∀ n, ¬ Declares w s n) :
    contentLengthW w (some s) = .bad := by
  rcases contentLengthW_spec hw (some s) with ⟨hv, _⟩ | ⟨s', n, hv, hd, _⟩ | ⟨s', hv, _, _, hr⟩
  · rcases hv with hv | hv
    · cases hv
    · exact absurd (Option.some.inj hv) hne
  · cases hv; exact absurd hd (h n)
  · exact hr

/-! ## (1) WSGI: the bound handed to `BoundedStream` -/

/-- **`wsgi_bound_eq_declared`.** For every environ: the declared length handed to the WSGI `BoundedStream` is never negative; it is `n` when
    the `CONTENT_LENGTH` text declares `n` (RFC 9110 `1*DIGIT`, and the liberal spellings of `Declares`); it is 0 when the
    variable is missing, empty, or unusable (anything else: not a number, a negative number, `1.5`, `0x10`, `5, 5`, …). -/
theorem wsgi_bound_eq_declared (env : Env) :
    0 ≤ wsgiBound env ∧
    (∀ s n, env.lookup clKey = some s → Declares isWsI s n → wsgiBound env = (n : Int)) ∧
    (env.lookup clKey = none → wsgiBound env = 0) ∧
    (env.lookup clKey = some [] → wsgiBound env = 0) ∧
    (∀ s, env.lookup clKey = some s → (∀ n, ¬ Declares isWsI s n) → wsgiBound env = 0) := by
  have hof : ∀ {v}, env.lookup clKey = v → wsgiBound env = match contentLengthW isWsI v with
      | .ok n => if n == 0 then 0 else n | .absent => 0 | .bad => 0 := fun h => by rw [← h]; rfl
  refine ⟨?_, fun s n hs hd => ?_, fun h => hof h, fun h => hof h, fun s hs hnd => ?_⟩
  · rcases contentLengthW_spec wsClass_I (env.lookup clKey) with ⟨_, hr⟩ | ⟨s, n, _, _, hr⟩ | ⟨_, _, _, _, hr⟩ <;>
      rw [hof rfl, hr]
    · exact Int.le_refl 0
    · dsimp only; split
      · exact Int.le_refl 0
      · exact Int.natCast_nonneg n
    · exact Int.le_refl 0
  · rw [hof hs, contentLengthW_declares wsClass_I hd]
    dsimp only; split
    · rename_i h; exact (eq_of_beq h).symm
    · rfl
  · cases s with
    | nil => exact hof hs
    | cons a t => rw [hof hs, contentLengthW_undeclared wsClass_I (List.cons_ne_nil a t) hnd]

/-- RFC 9110: `Content-Length: 1*DIGIT` gives exactly its decimal value as the bound -/
theorem wsgi_bound_rfc (env : Env) (l : Str) (h : env.lookup clKey = some l) (hd : allDigits l) (hne : l ≠ []) :
    wsgiBound env = ((Nat.ofDigitChars 10 l 0 : Nat) : Int) :=
  (wsgi_bound_eq_declared env).2.1 l _ h (declares_digits _ l hd hne)

theorem wsgi_bound_nonneg (env : Env) : 0 ≤ wsgiBound env := (wsgi_bound_eq_declared env).1

/-! ## (2) ASGI: the bound, or the 400 -/

/-- **`asgi_bound`.** For every header dict: no `content-length` entry (or an empty one) gives `None` (read until the final event);
    a text that declares `n` gives `some n`; every other text raises HTTPInvalidHeader — there is no fourth outcome,
    in particular no negative and no guessed bound. -/
theorem asgi_bound (d : Hdrs) :
    ((d.lookup clName = none ∨ d.lookup clName = some []) → asgiBound d = .bound none) ∧
    (∀ s n, d.lookup clName = some s → Declares isWsB s n → asgiBound d = .bound (some n)) ∧
    (∀ s, d.lookup clName = some s → s ≠ [] → (∀ n, ¬ Declares isWsB s n) → asgiBound d = .invalidHeader) := by
  have hof : ∀ {v}, d.lookup clName = v → asgiBound d = match contentLengthW isWsB v with
      | .absent => .bound none | .ok n => .bound (some n.toNat) | .bad => .invalidHeader := fun h => by rw [← h]; rfl
  refine ⟨fun h => ?_, fun s n hs hd => ?_, fun s hs hne hnd => ?_⟩
  · rcases h with h | h <;> exact hof h
  · rw [hof hs, contentLengthW_declares wsClass_B hd]; rfl
  · rw [hof hs, contentLengthW_undeclared wsClass_B hne hnd]

/-- the converse readings: which headers produce which outcome -/
theorem asgi_bound_some_iff (d : Hdrs) (n : Nat) :
    asgiBound d = .bound (some n) ↔ ∃ s, d.lookup clName = some s ∧ Declares isWsB s n := by
  constructor
  · intro h
    unfold asgiBound asgiContentLength contentLengthB at h
    rcases contentLengthW_spec wsClass_B (d.lookup clName) with ⟨_, hr⟩ | ⟨s, m, hv, hd, hr⟩ | ⟨_, _, _, _, hr⟩
    · rw [hr] at h; simp at h
    · rw [hr] at h; simp at h; subst h; exact ⟨s, hv, hd⟩
    · rw [hr] at h; simp at h
  · rintro ⟨s, hs, hd⟩; exact (asgi_bound d).2.1 s n hs hd

theorem asgi_bound_invalid_iff (d : Hdrs) :
    asgiBound d = .invalidHeader ↔ ∃ s, d.lookup clName = some s ∧ s ≠ [] ∧ ∀ n, ¬ Declares isWsB s n := by
  constructor
  · intro h
    unfold asgiBound asgiContentLength contentLengthB at h
    rcases contentLengthW_spec wsClass_B (d.lookup clName) with ⟨_, hr⟩ | ⟨s, m, hv, hd, hr⟩ | ⟨s, hv, hne, hnd, hr⟩
    · rw [hr] at h; simp at h
    · rw [hr] at h; simp at h
    · exact ⟨s, hv, hne, hnd⟩
  · rintro ⟨s, hs, hne, hnd⟩; exact (asgi_bound d).2.2 s hs hne hnd

/-- at `.stream` access (fresh, non-WebSocket request): an unusable header raises and NO stream is created (nothing cached, no event
    consumed); otherwise the stream is `BoundedStream(receive, first_event, content_length = the bound)` and it is cached -/
theorem asgi_stream_access (r : AReq) (hws : r.isWebsocket = false) (hfresh : r.cached = none) :
    (asgiBound r.headers = .invalidHeader → stream r = (.invalidHeader, r)) ∧
    (∀ cl, asgiBound r.headers = .bound cl →
      stream r = (.stream (AsF.init r.firstEvent cl r.events), { r with cached := some (AsF.init r.firstEvent cl r.events) })) := by
  unfold stream
  simp only [hws, hfresh, Bool.false_eq_true, if_false]
  constructor
  · intro h; rw [h]
  · intro cl h; rw [h]

/-! ## (4) the bound is a function of the Content-Length header alone -/

theorem lookup_filter_key (k : Str) : ∀ (env : Env), (env.filter (·.1 == k)).lookup k = env.lookup k
  | [] => rfl
  | (k', v) :: env => by
    by_cases h : k' = k
    · subst h; simp [List.filter, List.lookup]
    · have h1 : (k' == k) = false := by simpa using h
      have h2 : (k == k') = false := by simpa using fun e => h e.symm
      simp only [List.filter, h1, List.lookup, h2]
      exact lookup_filter_key k env

theorem wsgi_bound_congr (env env' : Env) (h : env.lookup clKey = env'.lookup clKey) : wsgiBound env = wsgiBound env' := by
  unfold wsgiBound wsgiContentLength; rw [h]

/-- WSGI: every other environ entry (HTTP_TRANSFER_ENCODING, HTTP_X_CONTENT_LENGTH, CONTENT_TYPE, …) is irrelevant -/
theorem wsgi_accompanying_headers_irrelevant (env : Env) :
    wsgiBound env = wsgiBound (env.filter (·.1 == clKey)) :=
  wsgi_bound_congr env _ (lookup_filter_key clKey env).symm

theorem lookup_dictSet (k v k' : Str) : ∀ (d : Hdrs), (dictSet d k v).lookup k' = if k' == k then some v else d.lookup k'
  | [] => by
    rw [dictSet, List.lookup_cons]
    cases k' == k <;> rfl
  | (a, b) :: d => by
    rw [dictSet]
    by_cases hka : (k == a) = true
    · rw [if_pos hka, List.lookup_cons, List.lookup_cons, ← eq_of_beq hka]
      cases k' == k <;> rfl
    · rw [if_neg hka, List.lookup_cons, List.lookup_cons, lookup_dictSet k v k' d]
      cases h : k' == a
      · rfl
      · have hne : (k' == k) = false := beq_eq_false_iff_ne.mpr fun e => hka (beq_iff_eq.mpr (e.symm.trans (eq_of_beq h)))
        rw [hne]; rfl

theorem lookup_addHeader_other (d : Hdrs) (h : Str × Str) (k : Str) (hk : (k == h.1) = false) :
    (addHeader d h).lookup k = d.lookup k := by
  unfold addHeader
  split
  · rw [lookup_dictSet, hk]; rfl
  · split <;> (rw [lookup_dictSet, hk]; rfl)

theorem lookup_addHeader_cl (d : Hdrs) (v : Str) : (addHeader d (clName, v)).lookup clName = some v := by
  unfold addHeader
  have hs : singletonHeaders.contains clName = true := by decide +kernel
  split
  · rw [lookup_dictSet]; simp
  · simp only [hs, if_true]; rw [lookup_dictSet]; simp

/-- the values of the `content-length` entries of `scope['headers']`, in order -/
def clValues (hs : Hdrs) : List Str := (hs.filter (·.1 == clName)).map (·.2)

theorem lookup_foldl_addHeader : ∀ (hs d : Hdrs),
    (hs.foldl addHeader d).lookup clName = ((clValues hs).getLast?).or (d.lookup clName)
  | [], d => by simp [clValues]
  | h :: hs, d => by
    rw [List.foldl_cons, lookup_foldl_addHeader hs]
    by_cases hk : h.1 = clName
    · have hh : h = (clName, h.2) := by rw [← hk]
      have hcv : clValues (h :: hs) = h.2 :: clValues hs := by simp [clValues, List.filter, hk]
      rw [hcv, hh, lookup_addHeader_cl, List.getLast?_cons]
      cases (clValues hs).getLast? <;> rfl
    · have h1 : (h.1 == clName) = false := by simpa using hk
      have h2 : (clName == h.1) = false := by simpa using fun e => hk e.symm
      have hcv : clValues (h :: hs) = clValues hs := by simp [clValues, List.filter, h1]
      rw [hcv, lookup_addHeader_other d h clName h2]

/-- ASGI: `_asgi_headers[b'content-length']` is the value of the LAST `content-length` entry the server listed (a singleton header: not joined) -/
theorem buildHeaders_lookup_cl (hs : Hdrs) : (buildHeaders hs).lookup clName = (clValues hs).getLast? := by
  unfold buildHeaders; rw [lookup_foldl_addHeader]; simp

/-- two header lists with the same `content-length` entries (whatever else they contain, in whatever order) give the same bound -/
theorem asgi_bound_congr (hs hs' : Hdrs) (h : clValues hs = clValues hs') : asgiBound (buildHeaders hs) = asgiBound (buildHeaders hs') := by
  unfold asgiBound asgiContentLength
  rw [buildHeaders_lookup_cl, buildHeaders_lookup_cl, h]

/-- ASGI: all other headers (transfer-encoding, x-content-length, content-type, expect, …), wherever they are in the list and however often
    they repeat, are irrelevant to the bound -/
theorem asgi_accompanying_headers_irrelevant (hs : Hdrs) :
    asgiBound (buildHeaders hs) = asgiBound (buildHeaders (hs.filter (·.1 == clName))) :=
  asgi_bound_congr hs _ (by simp [clValues, List.filter_filter])

/-- **`accompanying_headers_irrelevant`.** On both stacks the bound is a function of the Content-Length header alone: dropping every other environ entry /
    header (Transfer-Encoding, X-Content-Length, Content-Type, Expect, …) changes nothing. -/
theorem accompanying_headers_irrelevant (env : Env) (hs : Hdrs) :
    wsgiBound env = wsgiBound (env.filter (·.1 == clKey)) ∧
    asgiBound (buildHeaders hs) = asgiBound (buildHeaders (hs.filter (·.1 == clName))) :=
  ⟨wsgi_accompanying_headers_irrelevant env, asgi_accompanying_headers_irrelevant hs⟩

/-! ## (3) composition: the stream obtained THROUGH THE REQUEST OBJECT is a cursor over `body[:n]`, `n` read from the header text -/

/-- `req.bounded_stream.<op>(…)` for one operation of the file-like API (the property is accessed again for every operation) -/
def reqOp (r : WReq) (o : Ws7F.Op) : Ws7.Bytes × WReq := withBounded r (fun s => Ws7F.runOp s o)

def reqOps : WReq → List Ws7F.Op → Ws7.Bytes × WReq
  | r, [] => ([], r)
  | r, o :: rest => let (d, r1) := reqOp r o; let (d2, r2) := reqOps r1 rest; (d ++ d2, r2)

/-- the stream object the next access of `req.bounded_stream` yields -/
def cur (r : WReq) : Ws7.S := (boundedStream r).1

theorem cur_fresh (r : WReq) (h : r.bounded = none) : cur r = getWrappedWsgiInput r := by
  unfold cur boundedStream; rw [h]

theorem withBounded_eq {α : Type} (r : WReq) (f : Ws7.S → α × Ws7.S) :
    (withBounded r f).1 = (f (cur r)).1 ∧ cur (withBounded r f).2 = (f (cur r)).2 := by
  unfold withBounded cur
  cases hb : boundedStream r with
  | mk s r1 =>
    cases hf : f s with
    | mk a s1 => simp [boundedStream, hf]

theorem reqOp_eq (r : WReq) (o : Ws7F.Op) :
    (reqOp r o).1 = (Ws7F.runOp (cur r) o).1 ∧ cur (reqOp r o).2 = (Ws7F.runOp (cur r) o).2 :=
  withBounded_eq r _

/-- lazy wrapping is invisible: a history performed through `req.bounded_stream` (one access per operation) is the history on ONE
    stream object, the one built at the first access -/
theorem reqOps_eq (ops : List Ws7F.Op) : ∀ (r : WReq),
    (reqOps r ops).1 = (Ws7F.runOps (cur r) ops).1 ∧ cur (reqOps r ops).2 = (Ws7F.runOps (cur r) ops).2 := by
  induction ops with
  | nil => intro r; exact ⟨rfl, rfl⟩
  | cons o rest ih =>
    intro r
    obtain ⟨h1, h2⟩ := reqOp_eq r o
    obtain ⟨h3, h4⟩ := ih (reqOp r o).2
    rw [h2] at h3 h4
    simp only [reqOps, Ws7F.runOps]
    exact ⟨by rw [h1, h3], h4⟩

/-- **`wsgi_request_stream_refines_cursor`.** For every request (any environ, any `wsgi.input` contents and short-read pattern) and every history of
    read / readline / readlines / next with any sizes performed through `req.bounded_stream`: with `n` = the bound computed from the
    `CONTENT_LENGTH` text (`wsgi_bound_eq_declared`), the concatenated outputs are the next bytes of `body[:n]`, exactly the rest of `body[:n]`
    remains, the server's stream advanced by exactly the bytes returned (never past `n`), and the budget is `n - returned ≥ 0`. -/
theorem wsgi_request_stream_refines_cursor (r : WReq) (hfresh : r.bounded = none) (ops : List Ws7F.Op) :
    (reqOps r ops).1 = ((r.input.data.take (wsgiBound r.env).toNat).take (reqOps r ops).1.length) ∧
    Ws7F.absS (cur (reqOps r ops).2) = (r.input.data.take (wsgiBound r.env).toNat).drop (reqOps r ops).1.length ∧
    (cur (reqOps r ops).2).raw.data = r.input.data.drop (reqOps r ops).1.length ∧
    (cur (reqOps r ops).2).remaining = wsgiBound r.env - ((reqOps r ops).1.length : Int) ∧
    0 ≤ (cur (reqOps r ops).2).remaining ∧ ((reqOps r ops).1.length : Int) ≤ wsgiBound r.env := by
  obtain ⟨h1, h2⟩ := reqOps_eq ops r
  rw [h1, h2, cur_fresh r hfresh]
  have h0 : 0 ≤ (getWrappedWsgiInput r).remaining := wsgi_bound_nonneg r.env
  have h := Ws7F.history_refines_cursor ops (getWrappedWsgiInput r) h0
  exact ⟨h.out, h.rest, h.raw, h.rem, h.nonneg, Int.le_of_sub_nonneg (h.rem ▸ h.nonneg)⟩

/-- …stated from the header text: a `CONTENT_LENGTH` that declares `n` makes the request's stream a cursor over `body[:n]` -/
theorem wsgi_request_stream_from_header_text (r : WReq) (hfresh : r.bounded = none) (text : Str) (n : Nat)
    (htext : r.env.lookup clKey = some text) (hdecl : Declares isWsI text n) (ops : List Ws7F.Op) :
    (reqOps r ops).1 = ((r.input.data.take n).take (reqOps r ops).1.length) ∧
    Ws7F.absS (cur (reqOps r ops).2) = (r.input.data.take n).drop (reqOps r ops).1.length ∧
    (cur (reqOps r ops).2).raw.data = r.input.data.drop (reqOps r ops).1.length ∧
    (reqOps r ops).1.length ≤ n := by
  have hb : wsgiBound r.env = (n : Int) := (wsgi_bound_eq_declared r.env).2.1 text n htext hdecl
  have h := wsgi_request_stream_refines_cursor r hfresh ops
  rw [hb] at h
  simp only [Int.toNat_natCast] at h
  exact ⟨h.1, h.2.1, h.2.2.1, Int.ofNat_le.mp h.2.2.2.2.2⟩

/-- …and a missing / empty / unusable `CONTENT_LENGTH` declares no body: nothing is ever returned and `wsgi.input` is never advanced -/
theorem wsgi_request_stream_no_usable_length (r : WReq) (hfresh : r.bounded = none)
    (h : r.env.lookup clKey = none ∨ ∃ s, r.env.lookup clKey = some s ∧ ∀ n, ¬ Declares isWsI s n) (ops : List Ws7F.Op) :
    (reqOps r ops).1 = [] ∧ (cur (reqOps r ops).2).raw.data = r.input.data := by
  have hb : wsgiBound r.env = 0 := by
    rcases h with h | ⟨s, hs, hn⟩
    · exact (wsgi_bound_eq_declared r.env).2.2.1 h
    · exact (wsgi_bound_eq_declared r.env).2.2.2.2 s hs hn
  have hh := wsgi_request_stream_refines_cursor r hfresh ops
  rw [hb] at hh
  have hl : (reqOps r ops).1.length = 0 := Nat.le_zero.mp (Int.ofNat_le.mp hh.2.2.2.2.2)
  exact ⟨List.eq_nil_of_length_eq_zero hl, by simpa [hl] using hh.2.2.1⟩

/-- `req.bounded_stream.exhaust(chunk)` (what `get_media` does in its `finally`) after any history: discards a part of what was still
    declared and leaves nothing of it -/
def reqExhaust (r : WReq) (chunk : Int) : WReq := (withBounded r (fun s => ((), Ws7F.exhaust s chunk))).2

theorem wsgi_request_exhaust (r : WReq) (hfresh : r.bounded = none) (ops : List Ws7F.Op) (chunk : Int) (hch : 0 < chunk) :
    Ws7F.absS (cur (reqExhaust (reqOps r ops).2 chunk)) = [] ∧
    ∃ X, Ws7F.Step (cur (reqOps r ops).2) X (cur (reqExhaust (reqOps r ops).2 chunk)) := by
  have h0 := (wsgi_request_stream_refines_cursor r hfresh ops).2.2.2.2.1
  have hc : cur (reqExhaust (reqOps r ops).2 chunk) = Ws7F.exhaust (cur (reqOps r ops).2) chunk := (withBounded_eq _ _).2
  rw [hc]
  obtain ⟨hx, he⟩ := Ws7F.exhaust_step (cur (reqOps r ops).2) chunk hch h0
  exact ⟨he, hx⟩

/-- `await req.stream.<op>(…)` (the property is accessed again for every operation); `none` = the access raised -/
def areqOp (r : AReq) (o : AsF.Op) : Option AsF.Out × AReq := withStream r (fun s => AsF.runOp s o)

/-- a history through the request; an exception at the property access ends it (`none`) -/
def areqOps : AReq → List AsF.Op → Option AsF.Bytes × AReq
  | r, [] => (some [], r)
  | r, o :: os =>
    match areqOp r o with
    | (none, r) => (none, r)
    | (some out, r) =>
      match areqOps r os with
      | (none, r) => (none, r)
      | (some rest, r) => (some (AsF.outBytes out ++ rest), r)

/-- `s` is the stream object the next access of `req.stream` yields -/
def ACur (r : AReq) (s : AsF.S) : Prop :=
  r.isWebsocket = false ∧
  (r.cached = some s ∨ (r.cached = none ∧ ∃ cl, asgiBound r.headers = .bound cl ∧ s = AsF.init r.firstEvent cl r.events))

theorem stream_of_cur (r : AReq) (s : AsF.S) (h : ACur r s) :
    ∃ r1, stream r = (.stream s, r1) ∧ r1.isWebsocket = false := by
  obtain ⟨hws, hc | ⟨hc, cl, hb, hs⟩⟩ := h
  · exact ⟨r, by unfold stream; simp [hws, hc], hws⟩
  · exact ⟨{ r with cached := some s }, by unfold stream; simp [hws, hc, hb, hs], hws⟩

theorem areqOp_eq (r : AReq) (s : AsF.S) (o : AsF.Op) (h : ACur r s) :
    (areqOp r o).1 = some (AsF.runOp s o).1 ∧ ACur (areqOp r o).2 (AsF.runOp s o).2 := by
  obtain ⟨r1, hst, hws⟩ := stream_of_cur r s h
  unfold areqOp withStream
  rw [hst]
  exact ⟨rfl, hws, Or.inl rfl⟩

theorem areqOps_eq (ops : List AsF.Op) : ∀ (r : AReq) (s : AsF.S), ACur r s →
    (areqOps r ops).1 = some (AsF.runOps s ops).1 ∧ ACur (areqOps r ops).2 (AsF.runOps s ops).2 := by
  induction ops with
  | nil => intro r s h; exact ⟨rfl, h⟩
  | cons o os ih =>
    intro r s h
    obtain ⟨h1, h2⟩ := areqOp_eq r s o h
    obtain ⟨h3, h4⟩ := ih _ _ h2
    have ea : areqOp r o = (some (AsF.runOp s o).1, (areqOp r o).2) := Prod.ext h1 rfl
    have eb : areqOps (areqOp r o).2 os = (some (AsF.runOps (AsF.runOp s o).2 os).1, (areqOps (areqOp r o).2 os).2) := Prod.ext h3 rfl
    rw [areqOps, ea]
    simp only [AsF.runOps]
    rw [eb]
    exact ⟨rfl, h4⟩

/-- what a freshly built ASGI stream declares: with a length `n`, the first `n` bytes of everything the server will deliver (first event
    included) up to its final event / a disconnect -/
theorem absS_init_some (first : Option AsF.Event) (n : Nat) (events : List AsF.Event) :
    AsF.absS (AsF.init first (some n) events) = (AsF.future (first.toList ++ events)).take n := by
  cases first with
  | none => simp [AsF.init, AsF.absS]
  | some ev => rw [AsF.init_some, Option.toList, List.singleton_append, AsF.future_cons]; rfl

/-- …without a length, the first chunk and whatever follows up to the final event (the stream's budget is 2^63 bytes) -/
theorem absS_init_none (first : Option AsF.Event) (events : List AsF.Event) (hlen : (AsF.future events).length ≤ AsF.big) :
    AsF.absS (AsF.init first none events) = AsF.future (first.toList ++ events) := by
  have htake : (AsF.future events).take AsF.big = AsF.future events := List.take_of_length_le hlen
  have hbig : (AsF.big != 0) = true := by decide
  unfold AsF.absS AsF.init
  cases first with
  | none => simpa using htake
  | some ev =>
    cases ev with
    | disconnect => simp [AsF.future, AsF.moreOf]
    | request body more =>
      simp only [AsF.moreOf_request, hbig, Option.toList, List.cons_append, List.nil_append, AsF.future]
      cases body <;> cases more == some true <;> simp [htake]

/-- **`asgi_request_history`** (core): for a fresh non-WebSocket request whose header gives the bound `cl` and whose events still to come contain
    the end of the body, ANY history through `req.stream` is `AsF.history_refines` on `BoundedStream(receive, first_event, cl)`. -/
theorem asgi_request_history (r : AReq) (hws : r.isWebsocket = false) (hfresh : r.cached = none)
    (cl : Option Nat) (hb : asgiBound r.headers = .bound cl) (hcomplete : AsF.complete r.events = true) (ops : List AsF.Op) :
    ∃ out s', (areqOps r ops).1 = some out ∧ ACur (areqOps r ops).2 s' ∧ AsF.Good s' ∧
      ∃ c, c ++ AsF.absS s' = AsF.absS (AsF.init r.firstEvent cl r.events) ∧ s'.pos = c.length ∧
        (∃ t, out ++ t = c) ∧ ((∀ o ∈ ops, AsF.isExhaust o = false) → out = c) := by
  have hcur : ACur r (AsF.init r.firstEvent cl r.events) := ⟨hws, Or.inr ⟨hfresh, cl, hb, rfl⟩⟩
  obtain ⟨h1, h2⟩ := areqOps_eq ops r _ hcur
  obtain ⟨hg, c, hc, hp, ht, hall⟩ := AsF.history_refines ops _ (AsF.good_init r.firstEvent cl r.events hcomplete)
  refine ⟨_, _, h1, h2, hg, c, hc, ?_, ht, hall⟩
  rw [hp]; simp [AsF.init]

/-- **`asgi_request_stream_refines_cursor`.** A `content-length` text that declares `n` (`asgi_bound`) makes the stream obtained through the request a
    cursor over `body[:n]`, `body` = all bytes the server delivers (first event included) up to its final event / a disconnect: after ANY history of
    read(k) / read() / readall() / exhaust() / abandoned iteration, consumed ++ still-to-come = `body[:n]`, `tell()` = |consumed|, the bytes handed
    to the app are a prefix of consumed (all of it without exhaust), no access raised and no operation blocked. -/
theorem asgi_request_stream_refines_cursor (r : AReq) (hws : r.isWebsocket = false) (hfresh : r.cached = none)
    (text : Str) (n : Nat) (htext : r.headers.lookup clName = some text) (hdecl : Declares isWsB text n)
    (hcomplete : AsF.complete r.events = true) (ops : List AsF.Op) :
    ∃ out s', (areqOps r ops).1 = some out ∧ ACur (areqOps r ops).2 s' ∧ AsF.Good s' ∧
      ∃ c, c ++ AsF.absS s' = (AsF.future (r.firstEvent.toList ++ r.events)).take n ∧ s'.pos = c.length ∧
        (∃ t, out ++ t = c) ∧ ((∀ o ∈ ops, AsF.isExhaust o = false) → out = c) := by
  have hb := (asgi_bound r.headers).2.1 text n htext hdecl
  have h := asgi_request_history r hws hfresh (some n) hb hcomplete ops
  rw [absS_init_some] at h
  exact h

/-- no `content-length` header (or an empty one): the cursor is over the whole body up to the final event (bodies below 2^63 bytes) -/
theorem asgi_request_stream_unbounded (r : AReq) (hws : r.isWebsocket = false) (hfresh : r.cached = none)
    (hmissing : r.headers.lookup clName = none ∨ r.headers.lookup clName = some [])
    (hcomplete : AsF.complete r.events = true) (hlen : (AsF.future r.events).length ≤ AsF.big) (ops : List AsF.Op) :
    ∃ out s', (areqOps r ops).1 = some out ∧ ACur (areqOps r ops).2 s' ∧ AsF.Good s' ∧
      ∃ c, c ++ AsF.absS s' = AsF.future (r.firstEvent.toList ++ r.events) ∧ s'.pos = c.length ∧
        (∃ t, out ++ t = c) ∧ ((∀ o ∈ ops, AsF.isExhaust o = false) → out = c) := by
  have hb := (asgi_bound r.headers).1 hmissing
  have h := asgi_request_history r hws hfresh none hb hcomplete ops
  rw [absS_init_none _ _ hlen] at h
  exact h

/-- an unusable `content-length`: the first access of `req.stream` raises the 400-class error, whatever the operation; no stream exists, no event
    was received, nothing was read -/
theorem asgi_request_stream_invalid (r : AReq) (hws : r.isWebsocket = false) (hfresh : r.cached = none)
    (hbad : asgiBound r.headers = .invalidHeader) (o : AsF.Op) (os : List AsF.Op) :
    areqOps r (o :: os) = (none, r) ∧ (stream r).1 = .invalidHeader := by
  have hst := (asgi_stream_access r hws hfresh).1 hbad
  have : areqOp r o = (none, r) := by unfold areqOp withStream; rw [hst]
  simp only [areqOps, this]
  rw [hst]; exact ⟨trivial, rfl⟩

/-! ## non-vacuity: concrete requests on which the hypotheses hold and the models compute -/

-- the liberal spellings `int()` accepts, and what does not declare a length
example : Declares isWsI " +1_0 ".toList 10 :=
  (declares_iff_pyIntW wsClass_I _ _).mpr (by decide +kernel)
example : wsgiBound [("CONTENT_LENGTH".toList, " +1_0 ".toList)] = 10 := by decide +kernel
example : wsgiBound [("CONTENT_LENGTH".toList, "007".toList)] = 7 := by decide +kernel
example : wsgiBound [("HTTP_X_CONTENT_LENGTH".toList, "999".toList), ("CONTENT_LENGTH".toList, "5".toList), ("HTTP_TRANSFER_ENCODING".toList, "chunked".toList)] = 5 := by decide +kernel
example : wsgiBound [("CONTENT_LENGTH".toList, "-5".toList)] = 0 := by decide +kernel
example : wsgiBound [("CONTENT_LENGTH".toList, "-0".toList)] = 0 := by decide +kernel
example : wsgiBound [("CONTENT_LENGTH".toList, "5, 5".toList)] = 0 := by decide +kernel
example : wsgiBound [("CONTENT_LENGTH".toList, "0x10".toList)] = 0 := by decide +kernel
example : wsgiBound [("CONTENT_LENGTH".toList, "1__0".toList)] = 0 := by decide +kernel
example : wsgiBound [("CONTENT_LENGTH".toList, [])] = 0 := by decide +kernel
example : wsgiBound [("HTTP_X_CONTENT_LENGTH".toList, "999".toList)] = 0 := by decide +kernel
-- ASGI: last `content-length` wins, other headers are joined but irrelevant; an unusable text is the 400, an empty one is "no length"
example : asgiBound (buildHeaders [("content-length".toList, "3".toList), ("x-content-length".toList, "999".toList), ("te".toList, "a".toList),
    ("te".toList, "b".toList), ("content-length".toList, " 5\t".toList)]) = .bound (some 5) := by decide +kernel
example : (buildHeaders [("te".toList, "a".toList), ("te".toList, "b".toList)]).lookup "te".toList = some "a,b".toList := by decide +kernel
example : asgiBound (buildHeaders [("x-content-length".toList, "999".toList)]) = .bound none := by decide +kernel
example : asgiBound (buildHeaders [("content-length".toList, [])]) = .bound none := by decide +kernel
example : asgiBound (buildHeaders [("content-length".toList, "-5".toList)]) = .invalidHeader := by decide +kernel
example : asgiBound (buildHeaders [("content-length".toList, "5;q=1".toList)]) = .invalidHeader := by decide +kernel
example : asgiBound (buildHeaders [("content-length".toList, "\x1c5".toList)]) = .invalidHeader := by decide +kernel      -- `int(b'\x1c5')` fails…
example : wsgiBound [("CONTENT_LENGTH".toList, "\x0b5\x0c".toList)] = 5 := by decide +kernel                                -- …`int('\x0b5\x0c')` is 5

-- WSGI end to end: `CONTENT_LENGTH: 4`, ten bytes on the wire ("a\nb\nEXTRA\n"); three `next()` through the request return "a\nb\n" and stop
example :
    let r : WReq := { env := [("REQUEST_METHOD".toList, "POST".toList), ("CONTENT_LENGTH".toList, "4".toList)],
                      input := { data := [97, 10, 98, 10, 69, 88, 84, 82, 65, 10] } }
    r.bounded = none ∧ (reqOps r [.next, .next, .next]).1 = [97, 10, 98, 10] ∧
    (cur (reqOps r [.next, .next, .next]).2).raw.data = [69, 88, 84, 82, 65, 10] ∧ (cur (reqOps r [.read none, .read (some 2)]).2).remaining = 0 := by decide +kernel
-- …and with an unusable length nothing is handed out
example :
    let r : WReq := { env := [("CONTENT_LENGTH".toList, "-5".toList)], input := { data := [97, 10, 98, 10] } }
    (reqOps r [.read none, .next, .readline (some (-1))]).1 = [] := by decide +kernel

-- ASGI end to end: `content-length: 5`, the server sends "abc" (more) then "defgh" (final, oversized): read(2); one iteration chunk; readall
example :
    let r := mkAReq [("content-type".toList, "text/plain".toList), ("content-length".toList, "5".toList)] false
      (some (.request (some [97, 98, 99]) (some true))) [.request (some [100, 101, 102, 103, 104]) none]
    r.isWebsocket = false ∧ r.cached = none ∧ AsF.complete r.events = true ∧ r.headers.lookup clName = some "5".toList ∧
    (areqOps r [.read 2, .iterate 1, .readAll]).1 = some [97, 98, 99, 100, 101] := by decide +kernel
example :
    let r := mkAReq [("content-length".toList, "five".toList)] false none [.request (some [100]) none]
    (areqOps r [.readAll]).1 = none ∧ (areqOps r [.readAll]).2.events = [.request (some [100]) none] := by
  intro r
  rw [(asgi_request_stream_invalid r rfl rfl (by decide +kernel) .readAll []).1]
  exact ⟨rfl, rfl⟩
example : (stream (mkAReq [] true none [])).1 = .unsupported := by rfl

#print axioms wsgi_bound_eq_declared
#print axioms asgi_bound
#print axioms wsgi_request_stream_refines_cursor
#print axioms asgi_request_stream_refines_cursor
#print axioms asgi_accompanying_headers_irrelevant
end Sg
