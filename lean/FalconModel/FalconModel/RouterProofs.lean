import FalconModel.RouterExec
/-! C01 `compile_correct`: running the generated finder (`exec` on `genAst`) equals the depth-first walk `findSpec`. -/
namespace Rt

/-- what a delayed param setter does to the params dict in environment `e` (`none`: it would raise; nothing else is
    ever put on a params_stack) -/
def setter (e : Env) : Cx → Option (Dict → Dict)
  | .setParamPath n i => e.path[i]?.map fun s ps => Dict.set ps n s
  | .setParamVal n u => (lookupN e.fieldVal u).map fun v ps => Dict.set ps n v
  | .setParamsDictMatch u => (lookupN e.dictMatch u).map fun d ps => Dict.update ps d
  | .setParamsDictGroups u => (lookupN e.dictGroups u).map fun d ps => Dict.update ps d
  | _ => none

def evalStack (e : Env) : List Cx → Dict → Option Dict
  | [], ps => some ps
  | c :: r, ps =>
    match setter e c with
    | some f => evalStack e r (f ps)
    | none => none

/-- the parts of the environment a params_stack of depth `n` may read -/
structure Frame (n : Nat) (e e' : Env) : Prop where
  path : e'.path = e.path
  params : e'.params = e.params
  fv : ∀ u, u ≤ n → lookupN e'.fieldVal u = lookupN e.fieldVal u
  dm : ∀ u, u ≤ n → lookupN e'.dictMatch u = lookupN e.dictMatch u
  dg : ∀ u, u ≤ n → lookupN e'.dictGroups u = lookupN e.dictGroups u

theorem Frame.refl (n : Nat) (e : Env) : Frame n e e := ⟨rfl, rfl, fun _ _ => rfl, fun _ _ => rfl, fun _ _ => rfl⟩
theorem Frame.trans {n : Nat} {a b c : Env} (h1 : Frame n a b) (h2 : Frame n b c) : Frame n a c :=
  ⟨h2.path.trans h1.path, h2.params.trans h1.params,
   fun u hu => (h2.fv u hu).trans (h1.fv u hu), fun u hu => (h2.dm u hu).trans (h1.dm u hu),
   fun u hu => (h2.dg u hu).trans (h1.dg u hu)⟩
theorem Frame.mono {n m : Nat} {a b : Env} (h : Frame n a b) (hm : m ≤ n) : Frame m a b :=
  ⟨h.path, h.params, fun u hu => h.fv u (Nat.le_trans hu hm), fun u hu => h.dm u (Nat.le_trans hu hm),
   fun u hu => h.dg u (Nat.le_trans hu hm)⟩

def StackIdx : List Cx → Nat → Prop
  | [], _ => True
  | .setParamPath _ _ :: r, n => StackIdx r n
  | .setParamVal _ u :: r, n => u ≤ n ∧ StackIdx r n
  | .setParamsDictMatch u :: r, n => u ≤ n ∧ StackIdx r n
  | .setParamsDictGroups u :: r, n => u ≤ n ∧ StackIdx r n
  | _ :: _, _ => False

theorem StackIdx_cons (c : Cx) (r : List Cx) (n : Nat) : StackIdx (c :: r) n ↔ StackIdx [c] n ∧ StackIdx r n := by
  cases c <;> simp only [StackIdx, and_true, true_and, false_and]

theorem setter_params (e : Env) (x : Dict) (c : Cx) : setter { e with params := x } c = setter e c := by
  cases c <;> rfl

theorem setter_frame {e e' : Env} {n : Nat} (h : Frame n e e') {c : Cx} (hs : StackIdx [c] n) :
    setter e' c = setter e c := by
  cases c with
  | setParamPath n i => exact congrArg (fun p : List String => (p[i]?).map fun s ps => Dict.set ps n s) h.path
  | setParamVal _ u => exact congrArg (Option.map _) (h.fv u hs.1)
  | setParamsDictMatch u => exact congrArg (Option.map _) (h.dm u hs.1)
  | setParamsDictGroups u => exact congrArg (Option.map _) (h.dg u hs.1)
  | _ => rfl

theorem exec_setter (t : Tables) {e : Env} {c : Cx} {f : Dict → Dict} (h : setter e c = some f) :
    exec t e c = .fall { e with params := f e.params } := by
  cases c with
  | setParamPath n i | setParamVal n u | setParamsDictMatch u | setParamsDictGroups u =>
    obtain ⟨x, hx, rfl⟩ := Option.map_eq_some_iff.mp h
    simp only [exec, hx]
  | _ => cases h

theorem evalStack_params (e : Env) (x : Dict) : ∀ (stack : List Cx) (ps : Dict),
    evalStack { e with params := x } stack ps = evalStack e stack ps
  | [], _ => rfl
  | c :: r, ps => by
    simp only [evalStack, setter_params]
    cases setter e c with
    | none => rfl
    | some f => exact evalStack_params e x r (f ps)

theorem evalStack_frame (e e' : Env) (n : Nat) (h : Frame n e e') :
    ∀ (stack : List Cx) (ps : Dict), StackIdx stack n → evalStack e' stack ps = evalStack e stack ps
  | [], _, _ => rfl
  | c :: r, ps, hs => by
    rw [StackIdx_cons] at hs
    simp only [evalStack, setter_frame h hs.1]
    cases setter e c with
    | none => rfl
    | some f => exact evalStack_frame e e' n h r (f ps) hs.2

theorem exec_stack_ret (t : Tables) (i : Nat) :
    ∀ (stack : List Cx) (e : Env) (ps : Dict),
      evalStack e stack e.params = some ps → execL t e (stack ++ [Cx.retVal i]) = .ret (some (i, ps))
  | [], e, ps, h => by
    cases h
    rfl
  | c :: r, e, ps, h => by
    rw [evalStack] at h
    cases hc : setter e c with
    | none => rw [hc] at h; cases h
    | some f =>
      rw [hc] at h
      rw [List.cons_append, execL, exec_setter t hc]
      exact exec_stack_ret t i r _ ps ((evalStack_params e _ r _).trans h)

#print axioms exec_stack_ret

@[simp] theorem Ctr.add_zero (c : Ctr) : c.add {} = c := by cases c; simp [Ctr.add]

theorem Ctr.add_assoc (a b c : Ctr) : (a.add b).add c = a.add (b.add c) := by
  simp only [Ctr.add, Nat.add_assoc]
theorem Ctr.add_comm (a b : Ctr) : a.add b = b.add a := by
  simp [Ctr.add, Nat.add_comm]

theorem cntL_cons (x : Node) (xs : List Node) : cntL (x :: xs) = (cntN x).add (cntL xs) := by
  rw [cntL]; rfl

theorem cntL_append (a b : List Node) : cntL (a ++ b) = (cntL a).add (cntL b) := by
  induction a with
  | nil => rw [List.nil_append, cntL, Ctr.add_comm, Ctr.add_zero]
  | cons x xs ih => rw [List.cons_append, cntL_cons, cntL_cons, ih, Ctr.add_assoc]

theorem cntL_filter_split (p : Node → Bool) (ns : List Node) :
    cntL ns = (cntL (ns.filter p)).add (cntL (ns.filter (fun n => !p n))) := by
  induction ns with
  | nil => rfl
  | cons x xs ih =>
    rw [List.filter_cons, List.filter_cons, cntL_cons, ih]
    cases p x with
    | true => exact (Ctr.add_assoc _ _ _).symm
    | false =>
      simp only [Bool.false_eq_true, if_false, Bool.not_false, if_true, cntL_cons]
      rw [← Ctr.add_assoc, Ctr.add_comm (cntN x), Ctr.add_assoc]

theorem sortKey_lt3 (n : Node) : sortKey n = 0 ∨ sortKey n = 1 ∨ sortKey n = 2 := by
  unfold sortKey; cases n.kind <;> simp

theorem cntL_sortNodes (ns : List Node) : cntL (sortNodes ns) = cntL ns := by
  unfold sortNodes
  rw [cntL_append, cntL_append]
  rw [cntL_filter_split (fun n => sortKey n == 0) ns]
  rw [Ctr.add_assoc]
  congr 1
  -- the nodes with key ≠ 0 split into key 1 and key 2
  have hk : ∀ (q r : Node → Bool), (∀ n, ((!(sortKey n == 0)) && q n) = r n) →
      (ns.filter (fun n => !(sortKey n == 0))).filter q = ns.filter r := fun q r h => by
    rw [List.filter_filter]; congr 1; funext n; rw [Bool.and_comm]; exact h n
  have h1 := hk (fun n => sortKey n == 1) (fun n => sortKey n == 1) fun n => by
    rcases sortKey_lt3 n with h | h | h <;> simp [h]
  have h2 := hk (fun n => !(sortKey n == 1)) (fun n => sortKey n == 2) fun n => by
    rcases sortKey_lt3 n with h | h | h <;> simp [h]
  rw [cntL_filter_split (fun n => sortKey n == 1) (ns.filter (fun n => !(sortKey n == 0))), h1, h2]

#print axioms cntL_sortNodes
theorem dL_le_iff (ns : List Node) (k : Nat) : dL ns ≤ k ↔ ∀ n ∈ ns, dN n ≤ k := by
  induction ns with
  | nil => simp [dL]
  | cons x xs ih => simp only [dL, List.mem_cons, forall_eq_or_imp, Nat.max_le, ih]

theorem mem_sortNodes {n : Node} {ns : List Node} : n ∈ sortNodes ns ↔ n ∈ ns := by
  unfold sortNodes
  rcases sortKey_lt3 n with k | k | k <;> simp [k]

theorem dL_sortNodes_le (ns : List Node) (k : Nat) (h : dL ns ≤ k) : dL (sortNodes ns) ≤ k := by
  rw [dL_le_iff] at *
  intro n hn; exact h n (mem_sortNodes.mp hn)

theorem dN_children (n : Node) : dN n = 1 + dL n.children := by
  cases n; simp [dN, Node.children]

theorem dL_cons_le {x : Node} {xs : List Node} {k : Nat} (h : dL (x :: xs) ≤ k) : dL x.children + 1 ≤ k ∧ dL xs ≤ k := by
  rw [dL, Nat.max_le, dN_children, Nat.add_comm] at h
  exact h

theorem cntN_eq (n : Node) : cntN n = ({ rv := ownRv n, pat := ownPat n, conv := ownConv n } : Ctr).add (cntL n.children) := by
  cases n with
  | mk r k h ch => rw [cntN]; rfl

theorem convChain_ctr : ∀ (convs : List ConvUse) (stack : List Cx) (c : Ctr),
    (convChain convs stack c).2.2 = { c with conv := c.conv + convs.length } := by
  intro convs
  induction convs with
  | nil => intro stack c; simp [convChain]
  | cons x xs ih =>
    intro stack c
    simp only [convChain, ih, List.length_cons, Ctr.mk.injEq, true_and]
    omega

theorem preamble_ctr (node : Node) (stack0 : List Cx) (level : Nat) (c : Ctr) :
    (preamble node stack0 level c).ctr = { rv := c.rv, pat := c.pat + ownPat node, conv := c.conv + ownConv node } := by
  unfold preamble ownPat ownConv
  cases node.kind with
  | lit => rfl
  | simple name conv => cases conv <;> rfl
  | complex text convs nf =>
    cases convs with
    | nil => rfl
    | cons cu crest => exact convChain_ctr (cu :: crest) stack0 { c with pat := c.pat + 1 }

theorem cIn_eq (node : Node) (stack0 : List Cx) (level : Nat) (c : Ctr) :
    (if node.hasRoute then { (preamble node stack0 level c).ctr with rv := (preamble node stack0 level c).ctr.rv + 1 }
      else (preamble node stack0 level c).ctr) = cInOf node c := by
  rw [preamble_ctr]; unfold cInOf ownRv
  cases node.hasRoute <;> simp

theorem genNodes_ctr (fuel : Nat)
    (hA : ∀ nodes stack level fast c, dL nodes ≤ fuel → (genAst fuel nodes stack level fast c).2 = c.add (cntL nodes)) :
    ∀ nodes stack level fast c, dL nodes ≤ fuel + 1 → (genNodes fuel nodes stack level fast c).2 = c.add (cntL nodes) := by
  intro nodes
  induction nodes with
  | nil => intro stack level fast c _; rw [genNodes, cntL, Ctr.add_zero]
  | cons x xs ih =>
    intro stack level fast c h
    obtain ⟨hch, hxs⟩ := dL_cons_le h
    rw [genNodes]
    simp only
    rw [cIn_eq, hA x.children _ _ _ _ (Nat.le_of_succ_le_succ hch), ih _ _ _ _ hxs, cntL_cons, cntN_eq,
      ← Ctr.add_assoc, ← Ctr.add_assoc]
    rfl

theorem gen_ctr : ∀ (fuel : Nat) nodes stack level fast c, dL nodes ≤ fuel →
    (genAst fuel nodes stack level fast c).2 = c.add (cntL nodes)
  | 0, nodes, _, _, _, _, h => by
    cases nodes with
    | nil => rw [genAst, cntL, Ctr.add_zero]
    | cons x xs => exact absurd (dL_cons_le h).1 (Nat.not_succ_le_zero _)
  | f + 1, nodes, _, _, _, _, h => by
    rw [genAst]
    split
    · rename_i he
      rw [List.isEmpty_iff.mp he, cntL, Ctr.add_zero]
    · simp only
      rw [genNodes_ctr f (gen_ctr f) _ _ _ _ _ (dL_sortNodes_le _ _ h), cntL_sortNodes]

#print axioms gen_ctr
theorem execL_append (t : Tables) : ∀ (xs ys : List Cx) (e : Env),
    execL t e (xs ++ ys) = match execL t e xs with
      | .fall e' => execL t e' ys
      | o => o := by
  intro xs
  induction xs with
  | nil => intro ys e; simp [execL]
  | cons x xs ih =>
    intro ys e
    simp only [List.cons_append, execL]
    cases hx : exec t e x with
    | fall e' => simp only [ih]
    | ret r => rfl
    | stuck w => rfl

def isLit (n : Node) : Bool := sortKey n == 0

def kindMulti : Kind → Bool
  | .simple _ (some cu) => cu.multi
  | _ => false

mutual
def wfN : Node → Prop
  | .mk _ k _ ch => wfL ch ∧ (kindMulti k = true → ch = [])
def wfL : List Node → Prop
  | [] => True
  | n :: ns => wfN n ∧ (∀ m ∈ ns, isLit n = true → isLit m = true → n.raw ≠ m.raw) ∧ wfL ns
end

theorem wfN_children {n : Node} (h : wfN n) : wfL n.children := by
  cases n; simp only [wfN, Node.children] at h ⊢; exact h.1

theorem wfN_multi {n : Node} (h : wfN n) : kindMulti n.kind = true → n.children = [] := by
  cases n; simp only [wfN, Node.children, Node.kind] at h ⊢; exact h.2

def DistinctLits (ns : List Node) : Prop :=
  ns.Pairwise (fun a b => isLit a = true → isLit b = true → a.raw ≠ b.raw)

theorem wfL_iff (ns : List Node) : wfL ns ↔ (∀ n ∈ ns, wfN n) ∧ DistinctLits ns := by
  induction ns with
  | nil => exact ⟨fun _ => ⟨fun _ => nofun, List.Pairwise.nil⟩, fun _ => trivial⟩
  | cons x xs ih =>
    simp only [wfL, ih, DistinctLits, List.pairwise_cons, List.forall_mem_cons]
    exact ⟨fun ⟨a, b, c, d⟩ => ⟨⟨a, c⟩, b, d⟩, fun ⟨⟨a, c⟩, b, d⟩ => ⟨a, b, c, d⟩⟩

theorem distinct_sortNodes {ns : List Node} (h : DistinctLits ns) : DistinctLits (sortNodes ns) := by
  unfold sortNodes DistinctLits
  rw [List.pairwise_append, List.pairwise_append]
  refine ⟨⟨h.filter _, h.filter _, ?_⟩, h.filter _, ?_⟩
  all_goals
    intro a ha b hb _ hbl
    simp only [List.mem_filter] at hb
    simp [isLit] at hbl; simp [hbl] at hb

theorem evalStack_append (e : Env) : ∀ (a b : List Cx) (ps : Dict),
    evalStack e (a ++ b) ps = (evalStack e a ps).bind (evalStack e b)
  | [], _, _ => rfl
  | c :: a, b, ps => by
    simp only [List.cons_append, evalStack]
    cases setter e c with
    | none => rfl
    | some f => exact evalStack_append e a b (f ps)


theorem StackIdx.mono : ∀ (stack : List Cx) (n m : Nat), n ≤ m → StackIdx stack n → StackIdx stack m
  | [], _, _, _, _ => trivial
  | c :: r, n, m, hnm, h => by
    have ih := StackIdx.mono r n m hnm
    cases c with
    | setParamPath _ _ => exact ih h
    | setParamVal _ _ => exact ⟨Nat.le_trans h.1 hnm, ih h.2⟩
    | setParamsDictMatch _ => exact ⟨Nat.le_trans h.1 hnm, ih h.2⟩
    | setParamsDictGroups _ => exact ⟨Nat.le_trans h.1 hnm, ih h.2⟩
    | _ => exact h.elim

theorem StackIdx.append : ∀ (a b : List Cx) (n : Nat), StackIdx a n → StackIdx b n → StackIdx (a ++ b) n := by
  intro a
  induction a with
  | nil => intro b n _ hb; exact hb
  | cons x xs ih =>
    intro b n ha hb
    rw [List.cons_append, StackIdx_cons] at *
    exact ⟨ha.1, ih b n ha.2 hb⟩

theorem StackIdx.snoc {a : List Cx} {c : Cx} (ha : StackIdx a a.length) (hc : StackIdx [c] (a.length + 1)) :
    StackIdx (a ++ [c]) (a ++ [c]).length := by
  rw [List.length_append]
  exact StackIdx.append _ _ _ (StackIdx.mono _ _ _ (Nat.le_add_right _ _) ha) hc

theorem evalStack_snoc {e e1 : Env} {a : List Cx} {c : Cx} {f : Dict → Dict} {ps ps' : Dict}
    (hidx : StackIdx a a.length) (ha : evalStack e a ps = some ps') (hfr : Frame a.length e e1)
    (hc : setter e1 c = some f) : evalStack e1 (a ++ [c]) ps = some (f ps') := by
  rw [evalStack_append, evalStack_frame e e1 _ hfr _ _ hidx, ha, Option.bind_some]
  simp only [evalStack, hc]

theorem length_le_snoc {α} (a : List α) (x : α) : a.length ≤ (a ++ [x]).length := by
  rw [List.length_append]
  exact Nat.le_add_right _ _

theorem lookupN_filter_ne {α} (l : List (Nat × α)) (k u : Nat) (h : u ≠ k) :
    lookupN (l.filter (·.1 != k)) u = lookupN l u := by
  unfold lookupN
  rw [List.find?_filter]
  congr 2
  funext x
  by_cases hx : x.1 = u
  · simp [hx, h]
  · simp [hx]

theorem lookupN_setN_ne {α} (l : List (Nat × α)) (k u : Nat) (v : α) (h : u ≠ k) :
    lookupN (setN l k v) u = lookupN l u := by
  rw [← lookupN_filter_ne l k u h]
  unfold lookupN setN
  rw [List.find?_cons, beq_eq_false_iff_ne.mpr (fun e => h e.symm)]

theorem lookupN_setN_eq {α} (l : List (Nat × α)) (k : Nat) (v : α) : lookupN (setN l k v) k = some v := by
  unfold lookupN setN
  rw [List.find?_cons, beq_self_eq_true]
  rfl

def envConv (e : Env) (frag : String) (u : Nat) (v : String) : Env :=
  { e with fragment := frag, fieldVal := setN e.fieldVal u v }

def envConvFail (e : Env) (frag : String) (u : Nat) : Env :=
  { e with fragment := frag, fieldVal := e.fieldVal.filter (·.1 != u) }

theorem envConvFail_frame (e : Env) (frag : String) (n u : Nat) (h : n < u) :
    Frame n e (envConvFail e frag u) :=
  ⟨rfl, rfl, fun w hw => lookupN_filter_ne _ _ _ (by omega), fun _ _ => rfl, fun _ _ => rfl⟩

theorem envConv_frame (e : Env) (frag : String) (n u : Nat) (v : String) (h : n < u) :
    Frame n e (envConv e frag u v) :=
  ⟨rfl, rfl, fun w hw => lookupN_setN_ne _ _ _ _ (by omega), fun _ _ => rfl, fun _ _ => rfl⟩

/-- every `groups.pop(field)` of the converter chain finds its key (true for `re`'s groupdict: the
    template's field names are distinct named groups of the pattern) -/
def PopsOK : List ConvUse → Dict → Prop
  | [], _ => True
  | cu :: rest, g => ∃ v g', Dict.pop g cu.field = some (v, g') ∧ PopsOK rest g'

theorem execL_single (t : Tables) (e : Env) (c : Cx) : execL t e [c] = exec t e c := by
  rw [execL]
  cases exec t e c <;> rfl

theorem build_cons (l : Layer) (ls : List Layer) (inner : List Cx) :
    build (l :: ls) inner = l.pre ++ [l.wrap (build ls inner)] := rfl

theorem execL_cons_fall {t : Tables} {e e' : Env} {c : Cx} (h : exec t e c = .fall e') (cs : List Cx) :
    execL t e (c :: cs) = execL t e' cs := by
  rw [execL, h]

/-- the two outer layers of a multi-field node with converters: the pattern test, then `groups = match.groupdict()` -/
theorem exec_complex_layers (t : Tables) (e : Env) (level pi : Nat) (text seg : String) (l : Layer) (lt : List Layer)
    (hseg : e.path[level]? = some seg) (inner : List Cx) :
    execL t e (build ({ pre := [], wrap := Cx.ifPattern level pi text } ::
        { pre := Cx.prefetchGroups :: l.pre, wrap := l.wrap } :: lt) inner) =
      match t.pmatch pi seg with
      | none => .fall { e with mtch := none }
      | some g => execL t { e with mtch := some g, groups := g } (build (l :: lt) inner) := by
  rw [build_cons, List.nil_append, execL_single, exec]
  simp only [hseg]
  cases t.pmatch pi seg with
  | none => rfl
  | some g =>
    simp only
    rw [build_cons, List.cons_append, execL_cons_fall (e' := { e with mtch := some g, groups := g }) rfl, build_cons]

theorem build_nil (inner : List Cx) : build [] inner = inner := rfl

def envMatch (e : Env) (g : Dict) (u : Nat) : Env :=
  { e with mtch := some g, dictMatch := setN e.dictMatch u g }

theorem envMatch_frame (e : Env) (g : Dict) (n u : Nat) (h : n < u) : Frame n e (envMatch e g u) :=
  ⟨rfl, rfl, fun _ _ => rfl, fun w hw => lookupN_setN_ne _ _ _ _ (by omega), fun _ _ => rfl⟩

/-- semantics of the nested `fragment = groups.pop(f); field_value_i = conv(fragment); if ... is not None:` chain: it
    falls through when a converter vetoes; otherwise it runs `inner` in an environment where the extended stack
    evaluates to the old params updated by the converted fields -/
theorem chain_sem (t : Tables) : ∀ (convs : List ConvUse) (st : List Cx) (c : Ctr) (e0 : Env) (acc : Dict),
    StackIdx st st.length → PopsOK convs e0.groups →
    match applyConvs t convs c.conv e0.groups acc with
    | none => ∀ inner, ∃ e', execL t e0 (build (convChain convs st c).1 inner) = .fall e' ∧ Frame st.length e0 e'
    | some (acc', remaining, _) =>
      ∃ e1 newAcc, Frame st.length e0 e1 ∧ e1.groups = remaining ∧ acc' = acc ++ newAcc ∧
        StackIdx (convChain convs st c).2.1 (convChain convs st c).2.1.length ∧
        st.length ≤ (convChain convs st c).2.1.length ∧
        (∀ ps0 ps1, evalStack e0 st ps0 = some ps1 →
          evalStack e1 (convChain convs st c).2.1 ps0 = some (Dict.update ps1 newAcc)) ∧
        ∀ inner, execL t e0 (build (convChain convs st c).1 inner) = execL t e1 inner
  | [], st, c, e0, acc, hidx, _ => by
    simp only [applyConvs, convChain]
    exact ⟨e0, [], Frame.refl _ _, rfl, (List.append_nil _).symm, hidx, Nat.le_refl _, fun _ _ h => h, fun _ => rfl⟩
  | cu :: rest, st, c, e0, acc, hidx, ⟨v, g', hpop, hrest⟩ => by
    have hpopx : exec t e0 (.setFragField cu.field) = .fall { e0 with fragment := v, groups := g' } := by
      simp only [exec, hpop]
    have hmono := length_le_snoc st (Cx.setParamVal cu.field (st.length + 1))
    have ih := fun w => chain_sem t rest (st ++ [Cx.setParamVal cu.field (st.length + 1)]) { c with conv := c.conv + 1 }
      { e0 with fragment := v, groups := g', fieldVal := setN e0.fieldVal (st.length + 1) w }
      (acc ++ [(cu.field, w)]) (StackIdx.snoc hidx ⟨Nat.le_refl _, trivial⟩) hrest
    simp only [applyConvs, hpop, convChain, build_cons, List.singleton_append, execL_cons_fall hpopx, execL_single, exec] at ih ⊢
    generalize convChain rest (st ++ [Cx.setParamVal cu.field (st.length + 1)]) { c with conv := c.conv + 1 } = r at ih ⊢
    cases hcv : t.conv c.conv v with
    | none =>
      exact fun _ => ⟨_, rfl, rfl, rfl, fun u hu => lookupN_filter_ne _ _ _ (Nat.ne_of_lt (Nat.lt_succ_of_le hu)),
        fun _ _ => rfl, fun _ _ => rfl⟩
    | some w =>
      have hfr0 : Frame st.length e0
          { e0 with fragment := v, groups := g', fieldVal := setN e0.fieldVal (st.length + 1) w } :=
        ⟨rfl, rfl, fun u hu => lookupN_setN_ne _ _ _ _ (Nat.ne_of_lt (Nat.lt_succ_of_le hu)), fun _ _ => rfl, fun _ _ => rfl⟩
      have hs : setter { e0 with fragment := v, groups := g', fieldVal := setN e0.fieldVal (st.length + 1) w }
          (.setParamVal cu.field (st.length + 1)) = some fun ps => Dict.set ps cu.field w := by
        simp only [setter, lookupN_setN_eq, Option.map_some]
      have ih := ih w
      simp only
      cases happ : applyConvs t rest (c.conv + 1) g' (acc ++ [(cu.field, w)]) with
      | none =>
        rw [happ] at ih
        intro inner
        obtain ⟨e', hex, hfr⟩ := ih inner
        exact ⟨e', hex, hfr0.trans (hfr.mono hmono)⟩
      | some r =>
        rw [happ] at ih
        obtain ⟨e1, newAcc, hfr, hg, hacc, hsi, hle, hev, hex⟩ := ih
        refine ⟨e1, (cu.field, w) :: newAcc, hfr0.trans (hfr.mono hmono), hg, ?_, hsi, Nat.le_trans hmono hle, ?_, hex⟩
        · rw [hacc, List.append_assoc]; rfl
        · intro ps0 ps1 h0
          exact hev ps0 _ (evalStack_snoc (ps' := ps1) hidx h0 hfr0 hs)

theorem pre_sem (t : Tables) (node : Node) (stack0 : List Cx) (level : Nat) (c : Ctr) (e : Env) (ps : Dict)
    (hlen : level < e.path.length) (hpar : e.params = [])
    (hidx : StackIdx stack0 stack0.length) (hev : evalStack e stack0 [] = some ps) (body : List Cx)
    (hpop : ∀ text convs nf seg g, node.kind = .complex text convs nf → t.pmatch c.pat seg = some g → PopsOK convs g)
    (p : Pre) (hp : preamble node stack0 level c = p) :
    match matchNode t node e.path level ps c with
    | none => ∃ e', execL t e (build p.layers
                      (p.innerPre ++ body)) = .fall e' ∧ Frame stack0.length e e'
    | some (ps', multi) =>
      ∃ e1, Frame stack0.length e e1 ∧ e1.params = [] ∧
        evalStack e1 p.stack [] = some ps' ∧
        StackIdx p.stack p.stack.length ∧
        stack0.length ≤ p.stack.length ∧
        p.multi = multi ∧
        execL t e (build p.layers
          (p.innerPre ++ body)) = execL t e1 body := by
  obtain ⟨seg, hseg⟩ : ∃ seg, e.path[level]? = some seg := ⟨_, List.getElem?_eq_getElem hlen⟩
  unfold preamble at hp
  unfold matchNode
  cases hk : node.kind with
  | lit =>
    rw [hk] at hp
    subst hp
    simp only [hseg, Option.getD_some, build_cons, build_nil, List.nil_append, execL_single, exec]
    cases seg == node.raw with
    | false => exact ⟨e, rfl, Frame.refl _ _⟩
    | true => exact ⟨e, Frame.refl _ _, hpar, hev, hidx, Nat.le_refl _, rfl, rfl⟩
  | simple name conv =>
    rw [hk] at hp
    cases conv with
    | none =>
      subst hp
      simp only [hseg, Option.getD_some, build_nil, List.nil_append]
      have hs : setter e (.setParamPath name level) = some fun ps => Dict.set ps name seg := by
        simp only [setter, hseg, Option.map_some]
      exact ⟨e, Frame.refl _ _, hpar, evalStack_snoc (ps' := ps) hidx hev (Frame.refl _ _) hs, StackIdx.snoc hidx trivial, length_le_snoc _ _, trivial, rfl⟩
    | some cu =>
      subst hp
      simp only [hseg, Option.getD_some, build_cons, build_nil, List.nil_append, List.singleton_append]
      generalize hfr : (if cu.multi = true then "/".intercalate (List.drop level e.path) else seg) = frag
      have hfrag : exec t e (if cu.multi then Cx.setFragRest level else Cx.setFragPath level)
            = .fall { e with fragment := frag } := by
        rw [← hfr]
        cases cu.multi <;> simp only [exec, hseg, Bool.false_eq_true, if_false, if_true]
      rw [execL_cons_fall hfrag, execL_single, exec]
      cases hc : t.conv c.conv frag with
      | none =>
        simp only [Option.map_none]
        exact ⟨_, rfl, envConvFail_frame e frag _ _ (Nat.lt_succ_self _)⟩
      | some v =>
        have hfr := envConv_frame e frag stack0.length (stack0.length + 1) v (Nat.lt_succ_self _)
        have hs : setter (envConv e frag (stack0.length + 1) v) (.setParamVal name (stack0.length + 1))
            = some fun ps => Dict.set ps name v := by
          simp only [setter, envConv, lookupN_setN_eq, Option.map_some]
        simp only [Option.map_some]
        exact ⟨_, hfr, hpar, evalStack_snoc (ps' := ps) hidx hev hfr hs,
          StackIdx.snoc hidx ⟨Nat.le_refl _, trivial⟩, length_le_snoc _ _, trivial, rfl⟩
  | complex text convs nf =>
    rw [hk] at hp
    cases convs with
    | nil =>
      simp only [List.isEmpty_nil, if_true] at hp
      subst hp
      simp only [hseg, Option.getD_some, build_cons, build_nil, List.nil_append, execL_single, exec]
      cases hpm : t.pmatch c.pat seg with
      | none => exact ⟨_, rfl, rfl, rfl, fun _ _ => rfl, fun _ _ => rfl, fun _ _ => rfl⟩
      | some g =>
        have hfr := envMatch_frame e g stack0.length (stack0.length + 1) (Nat.lt_succ_self _)
        have hs : setter (envMatch e g (stack0.length + 1)) (.setParamsDictMatch (stack0.length + 1))
            = some fun ps => Dict.update ps g := by
          simp only [setter, envMatch, lookupN_setN_eq, Option.map_some]
        simp only [applyConvs, List.isEmpty_nil, Bool.true_or, if_true, List.singleton_append]
        rw [execL_cons_fall (e' := envMatch e g (stack0.length + 1)) rfl]
        exact ⟨_, hfr, hpar, evalStack_snoc (ps' := ps) hidx hev hfr hs,
          StackIdx.snoc hidx ⟨Nat.le_refl _, trivial⟩, length_le_snoc _ _, trivial, rfl⟩
    | cons cu crest =>
      rcases hcc : convChain (cu :: crest) stack0 { c with pat := c.pat + 1 } with ⟨ls, st, c'⟩
      obtain ⟨l, lt, rfl⟩ : ∃ l lt, ls = l :: lt := ⟨_, _, (congrArg Prod.fst hcc).symm⟩
      simp only [List.isEmpty_cons, Bool.false_eq_true, if_false, hcc] at hp
      subst hp
      simp only [hseg, Option.getD_some, exec_complex_layers t e level c.pat text seg l lt hseg]
      cases hpm : t.pmatch c.pat seg with
      | none => exact ⟨_, rfl, rfl, rfl, fun _ _ => rfl, fun _ _ => rfl, fun _ _ => rfl⟩
      | some g =>
        have hch := chain_sem t (cu :: crest) stack0 { c with pat := c.pat + 1 } { e with mtch := some g, groups := g } []
          hidx (hpop text (cu :: crest) nf seg g hk hpm)
        rw [hcc] at hch
        simp only at hch ⊢
        cases happ : applyConvs t (cu :: crest) c.conv g [] with
        | none =>
          rw [happ] at hch
          obtain ⟨e', hex, hfr⟩ := hch (_ ++ body)
          exact ⟨e', hex, hfr.path, hfr.params, hfr.fv, hfr.dm, hfr.dg⟩
        | some r =>
          obtain ⟨acc', remaining, ci'⟩ := r
          rw [happ] at hch
          obtain ⟨e1, newAcc, hfr, hg, hacc, hsi, hle, hevn, hex⟩ := hch
          have hfr' : Frame stack0.length e e1 := ⟨hfr.path, hfr.params, hfr.fv, hfr.dm, hfr.dg⟩
          have hpar1 : e1.params = [] := hfr'.params.trans hpar
          have hev1 := hevn [] ps
            ((evalStack_frame e { e with mtch := some g, groups := g } _
              ⟨rfl, rfl, fun _ _ => rfl, fun _ _ => rfl, fun _ _ => rfl⟩ _ _ hidx).trans hev)
          rw [List.nil_append] at hacc
          subst hacc
          by_cases hnf : nf > (cu :: crest).length
          · simp only [hnf, if_true, decide_true, Bool.or_true, List.singleton_append, hex]
            have hfx : Frame st.length e1 { e1 with dictGroups := setN e1.dictGroups (st.length + 1) e1.groups } :=
              ⟨rfl, rfl, fun _ _ => rfl, fun _ _ => rfl,
                fun u hu => lookupN_setN_ne _ _ _ _ (Nat.ne_of_lt (Nat.lt_succ_of_le hu))⟩
            have hs : setter { e1 with dictGroups := setN e1.dictGroups (st.length + 1) e1.groups }
                (.setParamsDictGroups (st.length + 1)) = some fun ps => Dict.update ps remaining := by
              simp only [setter, lookupN_setN_eq, Option.map_some, hg]
            rw [execL_cons_fall (e' := { e1 with dictGroups := setN e1.dictGroups (st.length + 1) e1.groups }) rfl]
            exact ⟨_, hfr'.trans (hfx.mono hle), hpar1,
              evalStack_snoc (ps' := ps.update acc') hsi hev1 hfx hs,
              StackIdx.snoc hsi ⟨Nat.le_refl _, trivial⟩, Nat.le_trans hle (length_le_snoc _ _), trivial, rfl⟩
          · simp only [hnf, if_false, decide_false, Bool.or_false, List.isEmpty_cons, List.nil_append, hex]
            exact ⟨e1, hfr', hpar1, hev1, hsi, hle, trivial, rfl⟩
theorem isLit_kind (n : Node) : isLit n = true ↔ n.kind = .lit := by
  unfold isLit sortKey; cases n.kind <;> simp

theorem matchNode_lit (t : Tables) {node : Node} (hk : node.kind = .lit) (path : List String) (level : Nat) (ps : Dict)
    (c : Ctr) : matchNode t node path level ps c = if path[level]?.getD "" == node.raw then some (ps, false) else none := by
  unfold matchNode
  rw [hk]

theorem matchNode_multi (t : Tables) (node : Node) (path : List String) (level : Nat) (ps : Dict) (c : Ctr)
    (ps' : Dict) (multi : Bool) (h : matchNode t node path level ps c = some (ps', multi)) :
    multi = kindMulti node.kind := by
  cases hk : node.kind with
  | lit =>
    rw [matchNode_lit t hk] at h
    split at h <;> cases h
    rfl
  | simple name conv =>
    cases conv with
    | none => simp only [matchNode, hk] at h; cases h; rfl
    | some cu =>
      simp only [matchNode, hk] at h
      obtain ⟨v, _, hv⟩ := Option.map_eq_some_iff.mp h
      cases hv
      rfl
  | complex text convs nf =>
    simp only [matchNode, hk] at h
    split at h
    · cases h
    · split at h <;> cases h
      rfl

theorem matchNode_lit_seg (t : Tables) (node : Node) (path : List String) (level : Nat) (ps : Dict) (c : Ctr)
    (r : Dict × Bool) (hl : isLit node = true) (h : matchNode t node path level ps c = some r) :
    path[level]?.getD "" = node.raw := by
  rw [matchNode_lit t ((isLit_kind node).mp hl)] at h
  split at h
  · rename_i heq; exact beq_iff_eq.mp heq
  · cases h

def hereOf (fuel : Nat) (t : Tables) (node : Node) (path : List String) (level : Nat) (params : Dict) (c : Ctr) :
    Option (Nat × Dict) :=
  match matchNode t node path level params c with
  | none => none
  | some (ps, multi) =>
    match findSpec fuel t node.children path (level + 1) ps (cInOf node c) with
    | some r => some r
    | none => if node.hasRoute && (multi || path.length == level + 1) then some (c.rv, ps) else none

theorem findNodes_cons (fuel : Nat) (t : Tables) (n : Node) (rest : List Node) (path : List String) (level : Nat)
    (ps : Dict) (c : Ctr) :
    findNodes fuel t (n :: rest) path level ps c =
      match hereOf fuel t n path level ps c with
      | some r => some r
      | none => findNodes fuel t rest path level ps (c.add (cntN n)) := by
  rw [findNodes]
  unfold hereOf
  rfl

theorem findNodes_nil (fuel : Nat) (t : Tables) (path : List String) (level : Nat) (ps : Dict) (c : Ctr) :
    findNodes fuel t [] path level ps c = none := by
  rw [findNodes]

def SkipAll (fuel : Nat) (t : Tables) (path : List String) (level : Nat) (ps : Dict) : List Node → Ctr → Prop
  | [], _ => True
  | m :: r, c => hereOf fuel t m path level ps c = none ∧ SkipAll fuel t path level ps r (c.add (cntN m))

/-- **first success wins, in list order**; the children that failed leave no trace in the params -/
theorem findNodes_skip (fuel : Nat) (t : Tables) (path : List String) (level : Nat) (ps : Dict) :
    ∀ (pre rest : List Node) (c : Ctr), SkipAll fuel t path level ps pre c →
      findNodes fuel t (pre ++ rest) path level ps c = findNodes fuel t rest path level ps (c.add (cntL pre)) := by
  intro pre
  induction pre with
  | nil =>
    intro rest c _
    rw [cntL, Ctr.add_zero]
    rfl
  | cons m r ih =>
    intro rest c h
    obtain ⟨h1, h2⟩ := h
    rw [List.cons_append, findNodes_cons, h1]
    simp only
    rw [ih rest _ h2, cntL_cons, Ctr.add_assoc]

theorem hereOf_lit_ne (fuel : Nat) (t : Tables) (m : Node) (path : List String) (level : Nat) (ps : Dict) (c : Ctr)
    (hk : sortKey m = 0) (hne : m.raw ≠ path[level]?.getD "") : hereOf fuel t m path level ps c = none := by
  have hlit : m.kind = .lit := (isLit_kind m).mp (by rw [isLit, hk]; rfl)
  rw [hereOf, matchNode_lit t hlit, if_neg (by rw [beq_iff_eq]; exact fun h => hne h.symm)]

theorem skipAll_lits (fuel : Nat) (t : Tables) (path : List String) (level : Nat) (ps : Dict) :
    ∀ (l : List Node) (c : Ctr), (∀ m ∈ l, sortKey m = 0 ∧ m.raw ≠ path[level]?.getD "") →
      SkipAll fuel t path level ps l c := by
  intro l
  induction l with
  | nil => intro c _; trivial
  | cons m r ih =>
    intro c h
    exact ⟨hereOf_lit_ne fuel t m path level ps c (h m (by simp)).1 (h m (by simp)).2,
      ih _ (fun x hx => h x (by simp [hx]))⟩

/-- in fast mode, once `node` has accepted the segment no later sibling can -/
theorem rest_none (t : Tables) (fuel : Nat) (path : List String) (level : Nat) (ps : Dict)
    (node : Node) (rest : List Node) (c c' : Ctr) (r : Dict × Bool)
    (hd : DistinctLits (node :: rest))
    (hf : (node :: rest).length ≤ 1 ∨ ∀ n ∈ node :: rest, isLit n = true)
    (hm : matchNode t node path level ps c = some r) :
    findNodes fuel t rest path level ps c' = none := by
  rcases hf with hlen | hall
  · cases rest with
    | nil => rw [findNodes]
    | cons y ys => simp at hlen
  · have hseg := matchNode_lit_seg t node path level ps c r (hall node List.mem_cons_self) hm
    have := findNodes_skip fuel t path level ps rest [] c' (skipAll_lits fuel t path level ps rest c' fun n hn =>
      have hnl := hall n (List.mem_cons_of_mem _ hn)
      ⟨beq_iff_eq.mp hnl, fun hc =>
        (List.pairwise_cons.mp hd).1 n hn (hall node List.mem_cons_self) hnl (hseg ▸ hc).symm⟩)
    rw [List.append_nil, findNodes_nil] at this
    exact this

theorem fastOf_true (fast : Bool) (nodes : List Node) (h : fastOf fast nodes = true) :
    fast = true ∧ (nodes.length ≤ 1 ∨ ∀ n ∈ nodes, isLit n = true) := by
  unfold fastOf at h
  split at h
  · rename_i hc
    simp only [Bool.and_eq_true, decide_eq_true_eq] at hc
    simp only [Bool.not_eq_true', List.any_eq_false] at h
    refine ⟨hc.1, Or.inr fun n hn => ?_⟩
    simpa [isVar, isLit] using h n hn
  · rename_i hc
    simp only [Bool.and_eq_true, decide_eq_true_eq, not_and] at hc
    exact ⟨h, Or.inl (Nat.le_of_not_lt (hc h))⟩

/-- what the caller is allowed to conclude from the outcome of a generated fragment; an early `return None` only happens
    below the level guard -/
def AgreeA (n level : Nat) (fast : Bool) (e : Env) (out : Out) (spec : Option (Nat × Dict)) : Prop :=
  match spec with
  | some r => out = .ret (some r)
  | none => (fast = true ∧ out = .ret none ∧ level < e.path.length) ∨ ∃ e', out = .fall e' ∧ Frame n e e'

theorem AgreeA.of_frame {n level : Nat} {fast : Bool} {e e1 : Env} {out : Out} {spec : Option (Nat × Dict)}
    (hf : Frame n e e1) (h : AgreeA n level fast e1 out spec) : AgreeA n level fast e out spec := by
  unfold AgreeA at *
  cases spec with
  | some r => exact h
  | none =>
    rcases h with h | ⟨e', h1, h2⟩
    · exact Or.inl (hf.path ▸ h)
    · exact Or.inr ⟨e', h1, hf.trans h2⟩

def okNode (t : Tables) (node : Node) (c : Ctr) : Prop :=
  ∀ text convs nf seg g, node.kind = .complex text convs nf → t.pmatch c.pat seg = some g → PopsOK convs g

mutual
def okSpec (fuel : Nat) (t : Tables) (nodes : List Node) (c : Ctr) : Prop :=
  match fuel with
  | 0 => True
  | f + 1 => okNodes f t (sortNodes nodes) c
termination_by (fuel, 0, 0)
def okNodes (fuel : Nat) (t : Tables) (nodes : List Node) (c : Ctr) : Prop :=
  match nodes with
  | [] => True
  | node :: rest => okNode t node c ∧ okSpec fuel t node.children (cInOf node c) ∧ okNodes fuel t rest (c.add (cntN node))
termination_by (fuel, 1, nodes.length)
end

def StmtA (t : Tables) (fuel : Nat) : Prop :=
  ∀ nodes stack level fast c e ps, e.params = [] → StackIdx stack stack.length → evalStack e stack [] = some ps →
    wfL nodes → dL nodes ≤ fuel → okSpec fuel t nodes c →
    AgreeA stack.length level fast e (execL t e (genAst fuel nodes stack level fast c).1)
      (findSpec fuel t nodes e.path level ps c)

def StmtN (t : Tables) (fuel : Nat) : Prop :=
  ∀ nodes stack level fast c e ps, e.params = [] → StackIdx stack stack.length → evalStack e stack [] = some ps →
    level < e.path.length → DistinctLits nodes → (∀ n ∈ nodes, wfN n) → dL nodes ≤ fuel + 1 →
    (fast = true → (nodes.length ≤ 1 ∨ ∀ n ∈ nodes, isLit n = true)) → okNodes fuel t nodes c →
    AgreeA stack.length level fast e (execL t e (genNodes fuel nodes stack level fast c).1)
      (findNodes fuel t nodes e.path level ps c)

theorem stmtA_zero (t : Tables) : StmtA t 0 := by
  intro nodes stack level fast c e ps _ _ _ _ _ _
  simp only [genAst, execL, findSpec]
  exact Or.inr ⟨e, rfl, Frame.refl _ _⟩

theorem exec_ifPathLen_gt (t : Tables) (e : Env) (n : Nat) (ch : List Cx) :
    exec t e (.ifPathLen ">" n ch) = if e.path.length > n then execL t e ch else .fall e := by
  simp only [exec, beq_self_eq_true, if_true]

theorem stmtA_succ (t : Tables) (f : Nat) (hN : StmtN t f) : StmtA t (f + 1) := by
  intro nodes stack level fast c e ps hpar hidx hev hwf hd hok
  rw [okSpec] at hok
  rw [genAst, findSpec]
  have hfall : AgreeA stack.length level fast e (.fall e) none := Or.inr ⟨e, rfl, Frame.refl _ _⟩
  by_cases hempty : nodes.isEmpty = true
  · rw [if_pos hempty, List.isEmpty_iff.mp hempty, show sortNodes [] = [] from rfl, findNodes, ite_self]
    exact hfall
  · rw [if_neg hempty]
    by_cases hlen : e.path.length > level
    · have hNb := hN (sortNodes nodes) stack level (fastOf fast (sortNodes nodes)) c e ps hpar hidx hev hlen
        (distinct_sortNodes ((wfL_iff nodes).mp hwf).2)
        (fun n hn => ((wfL_iff nodes).mp hwf).1 n (mem_sortNodes.mp hn))
        (dL_sortNodes_le _ _ hd)
        (fun hf => (fastOf_true _ _ hf).2) hok
      simp only [execL_single, exec_ifPathLen_gt, if_pos hlen, execL_append]
      generalize genNodes f (sortNodes nodes) stack level (fastOf fast (sortNodes nodes)) c = g at hNb ⊢
      unfold AgreeA at hNb
      cases hs : findNodes f t (sortNodes nodes) e.path level ps c with
      | some r =>
        rw [hs] at hNb
        rw [hNb]
        exact rfl
      | none =>
        rw [hs] at hNb
        rcases hNb with ⟨hf, hout, _⟩ | ⟨e', hout, hfr⟩
        · rw [hout]
          exact Or.inl ⟨(fastOf_true _ _ hf).1, rfl, hlen⟩
        · rw [hout]
          -- the body fell through: the trailing `return None` is there iff the level is fast and has no single-field child
          cases hc : (!(sortNodes nodes).any fun n => sortKey n == 2) && fastOf fast (sortNodes nodes) with
          | true => exact Or.inl ⟨(fastOf_true _ _ (Bool.and_eq_true_iff.mp hc).2).1, rfl, hlen⟩
          | false => exact Or.inr ⟨e', rfl, hfr⟩
    · simp only [execL_single, exec_ifPathLen_gt, if_neg hlen]
      exact hfall


theorem fast_tail {fast : Bool} {x : Node} {xs : List Node}
    (h : fast = true → ((x :: xs).length ≤ 1 ∨ ∀ n ∈ x :: xs, isLit n = true)) :
    fast = true → (xs.length ≤ 1 ∨ ∀ n ∈ xs, isLit n = true) := by
  intro hf
  rcases h hf with hl | ha
  · left; simp only [List.length_cons] at hl; omega
  · right; intro n hn; exact ha n (by simp [hn])

theorem exec_ifPathLen_eq (t : Tables) (e : Env) (n : Nat) (ch : List Cx) :
    exec t e (.ifPathLen "==" n ch) = if e.path.length == n then execL t e ch else .fall e := by
  simp only [exec, String.reduceBEq, Bool.false_eq_true, if_false, beq_iff_eq]

theorem retCode_sem (t : Tables) (node : Node) (stack : List Cx) (level : Nat) (fast multi : Bool) (ridx : Nat)
    (e : Env) (ps : Dict) (hev : evalStack e stack e.params = some ps) :
    execL t e (retCodeOf node stack level fast multi ridx) =
      if node.hasRoute && (multi || e.path.length == level + 1) then .ret (some (ridx, ps))
      else if fast then .ret none else .fall e := by
  unfold retCodeOf
  cases node.hasRoute with
  | false => cases fast <;> rfl
  | true =>
    cases multi with
    | true => exact exec_stack_ret t ridx stack e ps hev
    | false =>
      simp only [Bool.not_true, Bool.false_eq_true, if_false, Bool.true_and, Bool.false_or, List.singleton_append, execL,
        exec_ifPathLen_eq]
      cases e.path.length == level + 1 with
      | true => simp only [if_true, exec_stack_ret t ridx stack e ps hev]
      | false => cases fast <;> rfl

theorem stmtN_of_A (t : Tables) (f : Nat) (hA : StmtA t f) : StmtN t f := by
  intro nodes
  induction nodes with
  | nil =>
    intro stack level fast c e ps _ _ _ _ _ _ _ _ _
    rw [genNodes, findNodes]
    exact Or.inr ⟨e, rfl, Frame.refl _ _⟩
  | cons node rest ih =>
    intro stack0 level fast c e ps hpar hidx hev hlen hdist hwf hd hfast hok
    rw [okNodes] at hok
    obtain ⟨hok1, hok2, hok3⟩ := hok
    obtain ⟨hch, hrestd⟩ := dL_cons_le hd
    replace hch := Nat.le_of_succ_le_succ hch
    rw [genNodes, findNodes]
    simp only
    rw [cIn_eq]
    have hrv : (preamble node stack0 level c).ctr.rv = c.rv := by rw [preamble_ctr]
    generalize hp : preamble node stack0 level c = p at hrv ⊢
    have hc3 : (genAst f node.children p.stack (level + 1) fast (cInOf node c)).2 = c.add (cntN node) := by
      rw [gen_ctr f _ _ _ _ _ hch, cntN_eq]
      exact Ctr.add_assoc c { rv := ownRv node, pat := ownPat node, conv := ownConv node } (cntL node.children)
    rw [hc3, execL_append]
    have hpre := pre_sem t node stack0 level c e ps hlen hpar hidx hev
      ((genAst f node.children p.stack (level + 1) fast (cInOf node c)).1 ++ retCodeOf node p.stack level fast p.multi p.ctr.rv)
      hok1 p hp
    rw [← List.append_assoc] at hpre
    -- the IH for the remaining siblings, from any environment in the frame of `e`
    have hrest : ∀ e2, Frame stack0.length e e2 →
        AgreeA stack0.length level fast e (execL t e2 (genNodes f rest stack0 level fast (c.add (cntN node))).1)
          (findNodes f t rest e.path level ps (c.add (cntN node))) := by
      intro e2 hfr
      have := ih stack0 level fast (c.add (cntN node)) e2 ps (by rw [hfr.params, hpar]) hidx
        (by rw [evalStack_frame e e2 _ hfr _ _ hidx]; exact hev) (by rw [hfr.path]; exact hlen)
        (List.pairwise_cons.mp hdist).2 (fun n hn => hwf n (by simp [hn])) hrestd (fast_tail hfast) hok3
      rw [hfr.path] at this
      exact AgreeA.of_frame hfr this
    cases hm : matchNode t node e.path level ps c with
    | none =>
      rw [hm] at hpre
      obtain ⟨e', hex, hfr⟩ := hpre
      simp only [hex]
      exact hrest e' hfr
    | some r =>
      obtain ⟨ps', multi⟩ := r
      rw [hm] at hpre
      obtain ⟨e1, hfr1, hpar1, hev1, hidx1, hle1, hmul, hex⟩ := hpre
      simp only [hex]
      have hrn : fast = true → findNodes f t rest e.path level ps (c.add (cntN node)) = none :=
        fun hf => rest_none t f e.path level ps node rest c _ (ps', multi) hdist (hfast hf) hm
      have hAch := hA node.children p.stack (level + 1) fast (cInOf node c) e1 ps'
        hpar1 hidx1 hev1 (wfN_children (hwf node (by simp))) hch hok2
      rw [hfr1.path] at hAch
      rw [execL_append]
      unfold AgreeA at hAch
      cases hcs : findSpec f t node.children e.path (level + 1) ps' (cInOf node c) with
      | some r2 =>
        rw [hcs] at hAch
        simp only [hAch]
        exact rfl
      | none =>
        rw [hcs] at hAch
        simp only
        rcases hAch with ⟨hf, hout, hl2⟩ | ⟨e2, hout, hfr2⟩
        · -- children returned None early (fast): the node's own route cannot apply
          simp only [hout]
          have hnm : multi = false := Bool.eq_false_iff.mpr fun hmu => by
            have hk := matchNode_multi t node e.path level ps c ps' multi hm
            rw [wfN_multi (hwf node (by simp)) (by rw [← hk, hmu])] at hout
            cases f <;> simp [genAst, execL] at hout
          have hne : (e.path.length == level + 1) = false := by
            rw [hfr1.path] at hl2; simp; omega
          simp only [hnm, hne, Bool.or_self, Bool.and_false, Bool.false_eq_true, if_false]
          rw [hrn hf]
          exact Or.inl ⟨hf, rfl, hlen⟩
        · simp only [hout]
          have hfr12 : Frame stack0.length e e2 := hfr1.trans (hfr2.mono hle1)
          have hev2 : evalStack e2 p.stack e2.params = some ps' := by
            rw [hfr2.params, hpar1, evalStack_frame e1 e2 _ hfr2 _ _ hidx1]; exact hev1
          rw [retCode_sem t node _ level fast _ _ e2 ps' hev2, hfr12.path, hmul, hrv]
          cases node.hasRoute && (multi || e.path.length == level + 1) with
          | true => exact rfl
          | false =>
            cases hf : fast with
            | true =>
              simp only [Bool.false_eq_true, if_false, if_true]
              rw [hrn hf]
              exact Or.inl ⟨rfl, rfl, hlen⟩
            | false =>
              have := hrest e2 hfr12
              rw [hf] at this
              exact this


theorem stmtA (t : Tables) : ∀ f : Nat, StmtA t f
  | 0 => stmtA_zero t
  | f + 1 => stmtA_succ t f (stmtN_of_A t f (stmtA t f))

/-- **C01 `compile_correct`**: for every table of runtime-owned functions, every well-formed tree and
    every path, running the generated finder equals the plain depth-first walk of the template tree. -/
theorem compile_correct (t : Tables) (roots : List Node) (path : List String) (hwf : wfL roots)
    (hok : okSpec (dL roots + 1) t roots {}) :
    runFinder t roots path = .ret (runSpec t roots path) := by
  unfold runFinder runSpec
  have h := stmtA t (dL roots + 1) roots [] 0 true {} { path := path } [] rfl trivial rfl hwf (by omega) hok
  simp only at h ⊢
  unfold AgreeA at h
  cases hs : findSpec (dL roots + 1) t roots path 0 [] {} with
  | some r =>
    rw [hs] at h
    simp only [h]
  | none =>
    rw [hs] at h
    rcases h with ⟨_, hout, _⟩ | ⟨e', hout, _⟩
    · simp only [hout]
    · simp only [hout]

#print axioms compile_correct
end Rt
