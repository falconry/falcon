import FalconModel.WirePath
import FalconModel.WireProofs
import FalconModel.Utf8Proofs
import FalconModel.HeaderParsersProofs
/-! C06, request side, part 2: WSGI and ASGI agree on the request target and the connection attributes
    (`FalconModel/WirePath.lean` has the model, namespace `Wq`).

    One `*_agree` theorem per attribute, each under exactly the hypotheses it needs (`path_agree`, `scheme_agree` need none), and
    `request_view_agree` for the whole record under `wfConn`; the exclusions of the domain are necessary (`*_witness`, by
    evaluation) and, for the method / query string / mount point / client address, exact (`*_agree_iff`). -/
namespace Wq
open Wr (Str Dict dget lit chars pyUpper keys)

theorem leadInfo_pos (b : UInt8) (k lo hi : Nat) (h : U8.leadInfo b = some (k, lo, hi)) : 1 ≤ k := by
  have ht := U8.lead_table b.toNat b.toNat_lt
  rw [Nat.toUInt8, UInt8.ofNat_toNat, h] at ht
  simp only [Option.all_some, decide_eq_true_eq] at ht
  exact ht.1

/-- a successful step of the strict decoder is the step of the lenient one -/
theorem strictFuel_cons {f : Nat} {b : UInt8} {rest : Bytes} {t : Str} (h : strictFuel (f + 1) (b :: rest) = some t) :
    ∃ cp rest' t', t = cp :: t' ∧ strictFuel f rest' = some t' ∧ U8.decodeFuel (f + 1) (b :: rest) = cp :: U8.decodeFuel f rest'
      ∧ ((b.toNat < 0x80 ∧ rest' = rest) ∨ rest'.length < rest.length) := by
  simp only [strictFuel] at h
  simp only [U8.decodeFuel]
  split at h
  · rename_i hb
    obtain ⟨t', hr, rfl⟩ := Option.map_eq_some_iff.1 h
    exact ⟨_, rest, t', rfl, hr, by simp only [hb, if_true], Or.inl ⟨hb, rfl⟩⟩
  · rename_i hb
    split at h
    · exact absurd h (by simp)
    · rename_i k lo hi hl
      split at h
      · rename_i cp rest' hc
        obtain ⟨t', hr, rfl⟩ := Option.map_eq_some_iff.1 h
        refine ⟨cp, rest', t', rfl, hr, by simp only [hb, if_false, hl, hc], Or.inr ?_⟩
        obtain ⟨k', rfl⟩ : ∃ k', k = k' + 1 := ⟨k - 1, by have := leadInfo_pos b k lo hi hl; omega⟩
        obtain ⟨c0, t0, rfl, _, _, hc'⟩ := U8.conts_some k' _ lo hi cp rest rest' hc
        have hlen := U8.conts_length k' (U8.leadBits b (k' + 1) * 64 + c0.toNat % 64) 0x80 0xBF t0
        rw [hc'] at hlen
        simp only [List.length_cons]
        exact Nat.lt_succ_of_le hlen
      · exact absurd h (by simp)

theorem strictFuel_replace : ∀ (f : Nat) (bs : Bytes) (t : Str), strictFuel f bs = some t → U8.decodeFuel f bs = t
  | 0, _, _, h => by simp [strictFuel] at h; simp [U8.decodeFuel, h]
  | _ + 1, [], _, h => by simp [strictFuel] at h; simp [U8.decodeFuel, h]
  | f + 1, b :: rest, _, h => by
    obtain ⟨cp, rest', t', rfl, h', hd, _⟩ := strictFuel_cons h
    rw [hd, strictFuel_replace f rest' t' h']

theorem decodeStrict_replace (bs : Bytes) (t : Str) (h : decodeStrict bs = some t) : U8.decodeReplace bs = t :=
  strictFuel_replace _ bs t h

theorem strictFuel_length : ∀ (f : Nat) (bs : Bytes) (t : Str), strictFuel f bs = some t →
    t.length ≤ bs.length ∧ (t.length = bs.length → ∀ b ∈ bs, b.toNat < 128)
  | 0, bs, _, h => by simp [strictFuel] at h; subst h; cases bs <;> simp
  | _ + 1, [], _, h => by simp [strictFuel] at h; subst h; simp
  | f + 1, b :: rest, _, h => by
    obtain ⟨cp, rest', t', rfl, h', _, hstep⟩ := strictFuel_cons h
    obtain ⟨h1, h2⟩ := strictFuel_length f rest' t' h'
    simp only [List.length_cons, Nat.add_right_cancel_iff, List.mem_cons, forall_eq_or_imp]
    rcases hstep with ⟨hb, rfl⟩ | hlt
    · exact ⟨by omega, fun hl => ⟨hb, h2 hl⟩⟩
    · exact ⟨by omega, fun hl => by omega⟩

theorem strictFuel_ascii (f : Nat) (bs : Bytes) (hl : bs.length < f) (ha : ∀ b ∈ bs, b.toNat < 128) :
    strictFuel f bs = some (latin1 bs) := by
  fun_induction strictFuel f bs <;> simp_all [latin1]

theorem decodeStrict_ascii (bs : Bytes) (h : ∀ b ∈ bs, b.toNat < 128) : decodeStrict bs = some (latin1 bs) :=
  strictFuel_ascii _ bs (by omega) h

theorem decodeStrict_latin1_iff (bs : Bytes) : decodeStrict bs = some (latin1 bs) ↔ ∀ b ∈ bs, b.toNat < 128 :=
  ⟨fun h => (strictFuel_length _ bs _ h).2 (by simp [latin1]), decodeStrict_ascii bs⟩

theorem latin1Enc_latin1 (bs : Bytes) : latin1Enc? (latin1 bs) = some bs := by
  simp [latin1Enc?, latin1, Nat.toUInt8, Function.comp_def]
  exact fun b _ => b.toNat_lt

theorem isAscii_latin1 (bs : Bytes) : isAscii (latin1 bs) = true ↔ ∀ b ∈ bs, b.toNat < 128 := by
  simp [isAscii, latin1]

theorem encodeCp_length (c : Nat) : 1 ≤ (U8.encodeCp c).length ∧ ((U8.encodeCp c).length = 1 → c < 128) := by
  unfold U8.encodeCp
  repeat' split
  all_goals simp_all

theorem encode_length : ∀ (s : Str), s.length ≤ (U8.encode s).length ∧ ((U8.encode s).length = s.length → isAscii s = true)
  | [] => by simp [U8.encode, isAscii]
  | c :: r => by
    obtain ⟨h1, h2⟩ := encode_length r
    obtain ⟨g1, g2⟩ := encodeCp_length c
    simp only [U8.encode, isAscii, List.flatMap_cons, List.length_append, List.length_cons, List.all_cons, Bool.and_eq_true,
      decide_eq_true_eq] at h1 h2 ⊢
    exact ⟨by omega, fun hl => ⟨g2 (by omega), h2 (by omega)⟩⟩

theorem latin1_encode_ascii (s : Str) (h : isAscii s = true) : latin1 (U8.encode s) = s := by
  induction s with
  | nil => rfl
  | cons c r ih =>
    simp only [isAscii, List.all_cons, Bool.and_eq_true, decide_eq_true_eq] at h ih
    simp only [U8.encode, latin1] at ih ⊢
    simp [U8.encodeCp_ascii c h.1, ih h.2, U8.toNat_toUInt8 c (by omega)]

theorem dget_filter (p : Str → Bool) (d : Dict) (k : Str) :
    dget (d.filter fun kv => p kv.1) k = if p k then dget d k else none := by
  induction d with
  | nil => simp [dget]
  | cons kv t ih =>
    by_cases hk : kv.1 = k
    · subst hk; cases hp : p kv.1 <;> simp [hp, dget, ih]
    · cases hp : p kv.1 <;> simp [hp, dget, hk, ih]

theorem dget_fold_envStep (k : Str) (hk : Wr.plainKey k) : ∀ (hs : List (Str × Str)) (d : Dict),
    dget (hs.foldl Wr.envStep d) k = dget d k
  | [], _ => rfl
  | h :: hs, d => by
    simp only [List.foldl_cons]
    rw [dget_fold_envStep k hk hs]
    unfold Wr.envStep
    rw [Wr.dget_dJoin]
    have : Wr.envKey h.1 ≠ k := fun e => Wr.envKey_not_plain h.1 (e ▸ hk)
    simp [this]

theorem dget_environ_plain (r : Wr.HReq) (k : Str) (hk : Wr.plainKey k) :
    dget (Wr.toEnviron r) k = match dget (Wr.baseEnv r) k with | some v => some v | none => dget (Wr.tailEnv r) k := by
  unfold Wr.toEnviron
  rw [Wr.dget_append, dget_fold_envStep k hk]
  cases dget (Wr.baseEnv r) k <;> rfl

theorem dget_toEnviron_plain (c : Conn) (l : Lib) (k : Str) (hk : Wr.plainKey k) :
    dget (toEnviron c l) k = if omitted c l k then none else
      match dget (Wr.baseEnv (toHReq c)) k with | some v => some v | none => dget (Wr.tailEnv (toHReq c)) k := by
  unfold toEnviron
  rw [dget_filter (fun k => !omitted c l k), dget_environ_plain _ k hk]
  cases omitted c l k <;> simp

theorem plain_of_omitted {c : Conn} {l : Lib} {k : Str} (h : omitted c l k = true) : Wr.plainKey k := by
  simp only [omitted, Bool.or_eq_true, Bool.and_eq_true, beq_iff_eq] at h
  rcases h with ⟨_, rfl⟩ | ⟨_, rfl⟩ <;> decide +kernel

theorem env_base (c : Conn) (l : Lib) {k v : Str} (hm : (k, v) ∈ Wr.baseEnv (toHReq c)) :
    dget (toEnviron c l) k = if omitted c l k then none else some v := by
  rw [dget_toEnviron_plain c l k (Wr.baseEnv_plain _ k (List.mem_map.2 ⟨_, hm, rfl⟩)),
    Wr.dget_of_mem (Wr.baseEnv_keys _).1 hm]

theorem env_base_some (c : Conn) (l : Lib) {k v : Str} (hm : (k, v) ∈ Wr.baseEnv (toHReq c))
    (hk : (k == SCRIPT_NAME || k == QUERY_STRING) = false) : dget (toEnviron c l) k = some v := by
  simp only [Bool.or_eq_false_iff] at hk
  rw [env_base c l hm]
  simp [omitted, hk.1, hk.2]

-- `i` below is the position in `Wr.baseEnv`: REQUEST_METHOD, SCRIPT_NAME, PATH_INFO, QUERY_STRING, SERVER_NAME, SERVER_PORT,
-- SERVER_PROTOCOL, wsgi.version, wsgi.url_scheme, …
theorem env_REQUEST_METHOD (c : Conn) (l : Lib) : dget (toEnviron c l) REQUEST_METHOD = some c.method :=
  env_base_some c l (List.mem_of_getElem? (i := 0) rfl) (by decide +kernel)
theorem env_PATH_INFO (c : Conn) (l : Lib) : dget (toEnviron c l) PATH_INFO = some (latin1 (Probe.decode (rawPath c))) :=
  env_base_some c l (List.mem_of_getElem? (i := 2) rfl) (by decide +kernel)
theorem env_SERVER_NAME (c : Conn) (l : Lib) : dget (toEnviron c l) SERVER_NAME = some c.server.1 :=
  env_base_some c l (List.mem_of_getElem? (i := 4) rfl) (by decide +kernel)
theorem env_SERVER_PORT (c : Conn) (l : Lib) : dget (toEnviron c l) SERVER_PORT = some (natStr c.server.2) :=
  env_base_some c l (List.mem_of_getElem? (i := 5) rfl) (by decide +kernel)
theorem env_URL_SCHEME (c : Conn) (l : Lib) : dget (toEnviron c l) URL_SCHEME = some c.scheme :=
  env_base_some c l (List.mem_of_getElem? (i := 8) rfl) (by decide +kernel)
theorem env_SCRIPT_NAME (c : Conn) (l : Lib) :
    dget (toEnviron c l) SCRIPT_NAME = if l.omitScriptName && c.rootPath.isEmpty then none else some (latin1 (U8.encode c.rootPath)) := by
  rw [env_base c l (k := SCRIPT_NAME) (v := latin1 (U8.encode c.rootPath)) (List.mem_of_getElem? (i := 1) rfl)]
  have h : (SCRIPT_NAME == QUERY_STRING) = false := by decide +kernel
  simp [omitted, h]
theorem env_QUERY_STRING (c : Conn) (l : Lib) :
    dget (toEnviron c l) QUERY_STRING = if l.omitQueryString && (rawQuery c).isEmpty then none else some (latin1 (rawQuery c)) := by
  rw [env_base c l (k := QUERY_STRING) (v := latin1 (rawQuery c)) (List.mem_of_getElem? (i := 3) rfl)]
  have h : (QUERY_STRING == SCRIPT_NAME) = false := by decide +kernel
  simp [omitted, h]
theorem env_REMOTE_ADDR (c : Conn) (l : Lib) : dget (toEnviron c l) REMOTE_ADDR = c.client.map (·.1) := by
  cases h : c.client with
  | some a =>
    have hm : (REMOTE_ADDR, a.1) ∈ Wr.baseEnv (toHReq c) := by
      unfold Wr.baseEnv toHReq
      rw [h]
      exact List.mem_of_getElem? (i := 14) rfl
    exact env_base_some c l hm (by decide +kernel)
  | none =>
    have hb : dget (Wr.baseEnv (toHReq c)) REMOTE_ADDR = none :=
      (Wr.dget_none_iff _ _).2 ((Wr.baseEnv_keys _).2.2 (by simp [toHReq, h]))
    have ht : dget (Wr.tailEnv (toHReq c)) REMOTE_ADDR = none := by
      unfold Wr.tailEnv
      split
      · exact if_neg (by decide +kernel)
      · rfl
    rw [dget_toEnviron_plain c l _ (by decide +kernel), hb, ht]
    cases omitted c l REMOTE_ADDR <;> rfl

theorem env_hdrKey (c : Conn) (l : Lib) {k : Str} (hk : ¬ Wr.plainKey k) :
    dget (toEnviron c l) k = dget (Wr.headerEnv c.headers) k := by
  unfold toEnviron
  rw [dget_filter (fun k => !omitted c l k), Bool.eq_false_iff.2 fun h => hk (plain_of_omitted h), Wr.dget_toEnviron_hdr _ hk]
  rfl

theorem env_HTTP_HOST (c : Conn) (l : Lib) : dget (toEnviron c l) HTTP_HOST = dget (Wr.headerEnv c.headers) HTTP_HOST :=
  env_hdrKey c l (by decide +kernel)

theorem hdr_store (c : Conn) (l : Lib) (hwf : Wr.wfReq (toHReq c) = true) {k K : Str}
    (hk : Wr.nameOK k = true ∧ Wr.pyLower k = k ∧ Wr.envKey k = K) :
    dget (Wr.headerEnv c.headers) K = dget (Wr.asgiStore (toScope c l).headers) k := by
  obtain ⟨hn, hlow, rfl⟩ := hk
  have := Wr.raw_header_agree (toHReq c) hwf k hn
  rwa [Wr.dget_toEnviron_hdr _ (Wr.envKey_not_plain k), hlow] at this

theorem hdr_HOST (c : Conn) (l : Lib) (hwf : Wr.wfReq (toHReq c) = true) :
    dget (Wr.headerEnv c.headers) HTTP_HOST = dget (Wr.asgiStore (toScope c l).headers) hostLow :=
  hdr_store c l hwf (by decide +kernel)

theorem method_agree_iff (c : Conn) (l : Lib) :
    wsgiMethod (toEnviron c l) = .ok (asgiMethod (toScope c l)) ↔ wfMethod c = true := by
  unfold wsgiMethod asgiMethod toScope wfMethod
  rw [env_REQUEST_METHOD]
  simp only [Out.ok.injEq, decide_eq_true_eq]
  exact eq_comm

theorem method_agree (c : Conn) (l : Lib) (h : wfMethod c = true) :
    wsgiMethod (toEnviron c l) = .ok (asgiMethod (toScope c l)) := (method_agree_iff c l).2 h

/-- the WSGI constructor undoes the Latin-1 tunnel exactly -/
theorem wsgiPath_eq (c : Conn) (l : Lib) (strip : Bool) :
    wsgiPath (toEnviron c l) strip =
      .ok (stripSlash strip (if (Probe.decode (rawPath c)).isEmpty then [47] else U8.decodeReplace (Probe.decode (rawPath c)))) := by
  unfold wsgiPath
  rw [env_PATH_INFO]
  cases hbs : Probe.decode (rawPath c) with
  | nil => simp [latin1, isAscii]
  | cons b rest =>
    have hne : (latin1 (b :: rest)).isEmpty = false := rfl
    by_cases ha : isAscii (latin1 (b :: rest)) = true
    · simp [hne, ha, U8.decodeReplace_ascii _ ((isAscii_latin1 _).1 ha)]
      rfl
    · simp [hne, ha, latin1Enc_latin1]

theorem decodeReplace_isEmpty (bs : Bytes) : (U8.decodeReplace bs).isEmpty = bs.isEmpty := by
  cases bs with
  | nil => rfl
  | cons b rest => rw [U8.decodeReplace_cons]; rfl

/-- **path**: for EVERY raw request-target (any bytes, any percent-escapes, also ones that decode to invalid UTF-8), both values
    of `strip_url_path_trailing_slash` and every liberty of the servers, `falcon.Request(environ).path` = `falcon.asgi.Request(scope).path` -/
theorem path_agree (c : Conn) (l : Lib) (strip : Bool) :
    wsgiPath (toEnviron c l) strip = .ok (asgiPath (toScope c l) strip) := by
  rw [wsgiPath_eq, ← decodeReplace_isEmpty]
  rfl

/-- an ASGI server that decodes the path STRICTLY (and answers 400 itself otherwise) hands over the same `scope['path']` whenever
    it calls the application at all: the agreement then holds on its (smaller) domain -/
theorem strict_server_path_agree (c : Conn) (l : Lib) (p : Str) (h : strictScopePath c = some p) : (toScope c l).path = p :=
  decodeStrict_replace _ _ h

theorem stripSlash_ne_nil (on : Bool) (p : Str) (h : p ≠ []) : stripSlash on p ≠ [] := by
  match p with
  | [_] => cases on <;> simp [stripSlash]
  | _ :: _ :: _ =>
    unfold stripSlash
    split <;> simp

/-- `req.path` is never empty on either stack (an empty path becomes "/", "/" is never stripped) -/
theorem path_ne_nil (c : Conn) (l : Lib) (strip : Bool) : asgiPath (toScope c l) strip ≠ [] := by
  unfold asgiPath
  apply stripSlash_ne_nil
  split
  · exact List.cons_ne_nil _ _
  · rename_i h; exact fun e => h (e ▸ rfl)

/-- a key read with the default "" gives the value, whether or not the server leaves the key out while the value is empty -/
theorem default_of_omitted {α : Type} (b : Bool) (s : List α) (v : Str) (hv : s = [] → v = []) :
    (match (if b && s.isEmpty then none else some v) with | some x => x | none => []) = v := by
  cases b <;> cases s <;> simp_all

theorem wsgiRootPath_eq (c : Conn) (l : Lib) : wsgiRootPath (toEnviron c l) = latin1 (U8.encode c.rootPath) := by
  unfold wsgiRootPath
  rw [env_SCRIPT_NAME]
  exact default_of_omitted _ c.rootPath _ fun h => by rw [h]; rfl

theorem asgiRootPath_eq (c : Conn) (l : Lib) : asgiRootPath (toScope c l) = c.rootPath :=
  default_of_omitted l.omitRootPath c.rootPath c.rootPath id

theorem root_path_agree (c : Conn) (l : Lib) (h : wfRoot c = true) :
    wsgiRootPath (toEnviron c l) = asgiRootPath (toScope c l) := by
  rw [wsgiRootPath_eq, asgiRootPath_eq, latin1_encode_ascii _ h]

/-- **the mount-point domain is exact**: `root_path` / `app` agree if and only if the mount point is ASCII -/
theorem root_path_agree_iff (c : Conn) (l : Lib) :
    wsgiRootPath (toEnviron c l) = asgiRootPath (toScope c l) ↔ wfRoot c = true := by
  refine ⟨fun h => ?_, root_path_agree c l⟩
  rw [wsgiRootPath_eq, asgiRootPath_eq] at h
  have := congrArg List.length h
  simp only [latin1, List.length_map] at this
  exact (encode_length c.rootPath).2 this

theorem mem_partQ_snd (t : Bytes) (b : UInt8) (h : b ∈ (partQ t).2) : b ∈ t := by
  fun_induction partQ t <;> simp_all

theorem rawQuery_ascii (c : Conn) (h : wfTarget c = true) : ∀ b ∈ rawQuery c, b.toNat < 128 := by
  intro b hb
  simp only [wfTarget, List.all_eq_true, decide_eq_true_eq] at h
  exact h b (mem_partQ_snd _ _ hb)

theorem wsgiQueryString_eq (c : Conn) (l : Lib) : wsgiQueryString (toEnviron c l) = latin1 (rawQuery c) := by
  unfold wsgiQueryString
  rw [env_QUERY_STRING]
  exact default_of_omitted _ (rawQuery c) _ fun h => by rw [h]; rfl

theorem wsgiParams_eq (c : Conn) (l : Lib) (kb csv : Bool) :
    wsgiParams (toEnviron c l) kb csv = paramsOf (latin1 (rawQuery c)) kb csv := by
  have : ∀ env : Dict, wsgiParams env kb csv = paramsOf (wsgiQueryString env) kb csv := by
    intro env; unfold wsgiParams wsgiQueryString; cases dget env QUERY_STRING <;> rfl
  rw [this, wsgiQueryString_eq]

/-- **the query-string domain is exact**: `falcon.asgi.Request.query_string` equals `falcon.Request.query_string` if and only if the raw
    query contains no non-ASCII byte -/
theorem query_string_agree_iff (c : Conn) (l : Lib) :
    asgiQueryString (toScope c l) = some (wsgiQueryString (toEnviron c l)) ↔ ∀ b ∈ rawQuery c, b.toNat < 128 := by
  rw [wsgiQueryString_eq]
  exact decodeStrict_latin1_iff (rawQuery c)

theorem query_string_agree (c : Conn) (l : Lib) (h : wfTarget c = true) :
    asgiQueryString (toScope c l) = some (wsgiQueryString (toEnviron c l)) :=
  (query_string_agree_iff c l).2 (rawQuery_ascii c h)

theorem params_agree (c : Conn) (l : Lib) (h : wfTarget c = true) (kb csv : Bool) :
    asgiParams (toScope c l) kb csv = some (wsgiParams (toEnviron c l) kb csv) := by
  unfold asgiParams
  rw [query_string_agree c l h, wsgiParams_eq, wsgiQueryString_eq]; rfl

/-- `req.params` of both request classes is `parse_query_string` of C08 on the raw query bytes, so every `Qs.*` / `Gt.*` theorem about the raw query
    string (reference reading, last value wins, …) holds for it -/
theorem params_closed_form (c : Conn) (l : Lib) (h : wfTarget c = true) (kb csv : Bool) :
    wsgiParams (toEnviron c l) kb csv = (if (rawQuery c).isEmpty then [] else Qs.parseQS (rawQuery c) kb csv) := by
  rw [wsgiParams_eq]
  unfold paramsOf
  have : U8.encode (latin1 (rawQuery c)) = rawQuery c := U8.encode_map_toNat _ (rawQuery_ascii c h)
  rw [this]
  simp [latin1]

theorem asgiScheme_eq (c : Conn) (l : Lib) : asgiScheme (toScope c l) = c.scheme := by
  unfold asgiScheme toScope
  by_cases h : c.scheme = HTTP
  · cases l.omitScheme <;> simp [h]
  · simp [h]

/-- **scheme**: `wsgi.url_scheme` vs `scope['scheme']` with its default "http" (a server may leave the key out only then) -/
theorem scheme_agree (c : Conn) (l : Lib) : wsgiScheme (toEnviron c l) = .ok (asgiScheme (toScope c l)) := by
  unfold wsgiScheme
  rw [env_URL_SCHEME, asgiScheme_eq]

theorem asgiServer_given (c : Conn) (l : Lib) (hl : l.server = .given) : asgiServer (toScope c l) = c.server := by
  unfold asgiServer toScope; simp [hl]

theorem wsgiHost_eq (c : Conn) (l : Lib) :
    wsgiHost (toEnviron c l) =
      match dget (Wr.headerEnv c.headers) HTTP_HOST with
      | some h => ofAcc (Hp.reqHost (some (chars h)) [])
      | none => .ok (chars c.server.1) := by
  unfold wsgiHost
  rw [env_HTTP_HOST, env_SERVER_NAME]
  cases dget (Wr.headerEnv c.headers) HTTP_HOST <;> rfl

/-- **host**: Host header (parse_host, HTTPInvalidHeader on a bad port) or SERVER_NAME vs scope['server'][0] -/
theorem host_agree (c : Conn) (l : Lib) (hreq : Wr.wfReq (toHReq c) = true) (hl : l.server = .given) :
    wsgiHost (toEnviron c l) = asgiHost (toScope c l) (Wr.asgiStore (toScope c l).headers) := by
  rw [wsgiHost_eq, hdr_HOST c l hreq]
  unfold asgiHost
  rw [asgiServer_given c l hl]
  rfl

theorem pyInt_natStr (n : Nat) : Hp.pyInt (chars (natStr n)) = some (n : Int) := by
  have : chars (natStr n) = Nat.toDigits 10 n := by simp [chars, natStr, List.map_map, Function.comp_def]
  rw [this]; exact Hp.pyInt_toDigits n

theorem natStr_inj {a b : Nat} (h : natStr a = natStr b) : a = b := by
  have := pyInt_natStr a
  rw [h, pyInt_natStr b] at this
  have e : (b : Int) = (a : Int) := by simpa using this
  omega

theorem wsgiPort_eq (c : Conn) (l : Lib) :
    wsgiPort (toEnviron c l) =
      match dget (Wr.headerEnv c.headers) HTTP_HOST with
      | some h => ofAcc (Hp.reqPort (some (chars h)) (c.scheme != HTTP) 0)
      | none => .ok (some (c.server.2 : Int)) := by
  unfold wsgiPort
  rw [env_HTTP_HOST, env_URL_SCHEME, env_SERVER_PORT]
  cases dget (Wr.headerEnv c.headers) HTTP_HOST with
  | some h => rfl
  | none => simp only [pyInt_natStr]

theorem wsgiNetloc_eq (c : Conn) (l : Lib) :
    wsgiNetloc (toEnviron c l) =
      match dget (Wr.headerEnv c.headers) HTTP_HOST with
      | some h => .ok h
      | none =>
        if c.scheme == HTTPS then (if natStr c.server.2 != lit "443" then .ok (c.server.1 ++ 58 :: natStr c.server.2) else .ok c.server.1)
        else (if natStr c.server.2 != lit "80" then .ok (c.server.1 ++ 58 :: natStr c.server.2) else .ok c.server.1) := by
  unfold wsgiNetloc
  rw [env_HTTP_HOST, env_URL_SCHEME, env_SERVER_PORT, env_SERVER_NAME]
  cases dget (Wr.headerEnv c.headers) HTTP_HOST <;> rfl

/-- on the "http" scope the two tests for a secure scheme coincide: `scheme != 'http'` (WSGI `port`), `scheme == 'https'` (WSGI
    `netloc`), `scheme in ('https', 'wss')` (ASGI) -/
theorem secure_eq (c : Conn) (l : Lib) (hs : wfScheme c = true) :
    secure (toScope c l) = (c.scheme == HTTPS) ∧ (c.scheme != HTTP) = (c.scheme == HTTPS) := by
  unfold secure
  rw [asgiScheme_eq]
  simp only [wfScheme, Bool.or_eq_true, beq_iff_eq] at hs
  rcases hs with h | h <;> rw [h] <;> decide

/-- **port**: the port of the Host header, else the scheme's default (80 / 443), else SERVER_PORT (a decimal string, through
    `int()`) vs scope['server'][1] (an int) -/
theorem port_agree (c : Conn) (l : Lib) (hreq : Wr.wfReq (toHReq c) = true) (hs : wfScheme c = true) (hl : l.server = .given) :
    wsgiPort (toEnviron c l) = asgiPort (toScope c l) (Wr.asgiStore (toScope c l).headers) := by
  obtain ⟨h1, h2⟩ := secure_eq c l hs
  rw [wsgiPort_eq, hdr_HOST c l hreq, h2]
  unfold asgiPort
  rw [asgiServer_given c l hl, h1]
  rfl

theorem natStr_bne (n m : Nat) : (natStr n != natStr m) = (n != m) := by
  by_cases e : n = m
  · simp [e]
  · rw [bne_iff_ne.2 e, bne_iff_ne.2 fun h => e (natStr_inj h)]

/-- **netloc**: the Host header verbatim, else name[:port] with the port left out when it is the scheme's default - compared as a
    string on WSGI (`port != '443'`) and as an int on ASGI (`port != 443`) -/
theorem netloc_agree (c : Conn) (l : Lib) (hreq : Wr.wfReq (toHReq c) = true) (hs : wfScheme c = true) (hl : l.server = .given) :
    wsgiNetloc (toEnviron c l) = .ok (asgiNetloc (toScope c l) (Wr.asgiStore (toScope c l).headers)) := by
  rw [wsgiNetloc_eq, hdr_HOST c l hreq]
  unfold asgiNetloc
  rw [asgiServer_given c l hl]
  cases dget (Wr.asgiStore (toScope c l).headers) hostLow with
  | some h => rfl
  | none =>
    simp only [(secure_eq c l hs).1]
    rw [show lit "443" = natStr 443 by decide, show lit "80" = natStr 80 by decide, natStr_bne, natStr_bne]
    cases (c.scheme == HTTPS) <;> cases (c.server.2 != 443) <;> cases (c.server.2 != 80) <;> rfl

/-- `[client] if client else []` (ASGI) against `[remote_addr]` (WSGI) is the only difference, and it shows only on an empty route -/
theorem finishRoute_agree_iff (route : List Hp.Str) (remote : Hp.Str) :
    Fw.finishRoute true route remote = Fw.finishRoute false route remote ↔ (remote ≠ [] ∨ route ≠ []) := by
  cases route <;> cases remote <;> simp [Fw.finishRoute]

theorem getLast?_finishRoute (asgi : Bool) (route : List Hp.Str) (remote : Hp.Str) :
    (Fw.finishRoute asgi route remote).getLast? = if asgi ∧ remote = [] ∧ route = [] then none else some remote := by
  unfold Fw.finishRoute
  by_cases he : route = []
  · subst he; cases asgi <;> cases remote <;> simp
  · by_cases hl : route.getLast? = some remote <;> simp [he, hl]

theorem chars_ne_nil {s : Str} (h : s.isEmpty = false) : chars s ≠ [] := by
  cases s with
  | nil => simp at h
  | cons a r => simp [chars]

def clientAddr (c : Conn) : Str :=
  match c.client with
  | some a => a.1
  | none => LOOPBACK

/-- the client address both stacks append to the route: REMOTE_ADDR vs scope['client'][0], both defaulting to 127.0.0.1 -/
theorem client_agree (c : Conn) (l : Lib) :
    asgiClient (toScope c l) = .ok (clientAddr c) := by
  unfold asgiClient toScope clientAddr
  cases c.client <;> cases l.clientNull <;> simp

theorem wsgiRemoteAddr_eq (c : Conn) (l : Lib) :
    wsgiRemoteAddr (toEnviron c l) = chars (clientAddr c) := by
  unfold wsgiRemoteAddr clientAddr
  rw [env_REMOTE_ADDR]
  cases c.client <;> rfl

theorem wsgiAccessRoute_hdr (c : Conn) (l : Lib) :
    wsgiAccessRoute (toEnviron c l) =
      Fw.accessRoute false ((dget (Wr.headerEnv c.headers) HTTP_FORWARDED).map chars) ((dget (Wr.headerEnv c.headers) HTTP_XFF).map chars)
        ((dget (Wr.headerEnv c.headers) HTTP_XRI).map chars) (chars (clientAddr c)) := by
  unfold wsgiAccessRoute
  rw [env_hdrKey c l (by decide +kernel), env_hdrKey c l (by decide +kernel), env_hdrKey c l (by decide +kernel), wsgiRemoteAddr_eq]

theorem remote_ne_nil_iff (c : Conn) : chars (clientAddr c) ≠ [] ↔ wfClient c = true := by
  unfold wfClient clientAddr
  cases c.client with
  | none => exact iff_of_true (by decide) rfl
  | some a => cases a.1 <;> simp [chars]

def hdrRoute (c : Conn) (l : Lib) : List Hp.Str :=
  let store := Wr.asgiStore (toScope c l).headers
  Fw.routeBase ((dget store fwdLow).map chars) ((dget store xffLow).map chars) ((dget store xriLow).map chars)

theorem asgiAccessRoute_eq (c : Conn) (l : Lib) :
    asgiAccessRoute (toScope c l) (Wr.asgiStore (toScope c l).headers)
      = .ok (Fw.finishRoute true (hdrRoute c l) (chars (clientAddr c))) := by
  unfold asgiAccessRoute asgiAccessRouteOf
  rw [client_agree c l]; rfl

theorem wsgiAccessRoute_eq (c : Conn) (l : Lib) (hreq : Wr.wfReq (toHReq c) = true) :
    wsgiAccessRoute (toEnviron c l) = Fw.finishRoute false (hdrRoute c l) (chars (clientAddr c)) := by
  rw [wsgiAccessRoute_hdr, hdr_store c l hreq (k := fwdLow) (K := HTTP_FORWARDED) (by decide +kernel),
    hdr_store c l hreq (k := xffLow) (K := HTTP_XFF) (by decide +kernel),
    hdr_store c l hreq (k := xriLow) (K := HTTP_XRI) (by decide +kernel)]
  rfl

/-- **the exact condition for access_route** (on the header domain of `Wr`): the two access routes are equal IF AND ONLY IF the client
    address is non-empty or the forwarding headers contribute at least one entry (`[client] if client else []` is the only difference
    left, and it shows only when both are empty) - in particular for every unknown client, reported by omission or as None -/
theorem access_route_agree_iff (c : Conn) (l : Lib) (hreq : Wr.wfReq (toHReq c) = true) :
    asgiAccessRoute (toScope c l) (Wr.asgiStore (toScope c l).headers) = .ok (wsgiAccessRoute (toEnviron c l))
      ↔ (wfClient c = true ∨ hdrRoute c l ≠ []) := by
  rw [asgiAccessRoute_eq, wsgiAccessRoute_eq c l hreq, Out.ok.injEq, finishRoute_agree_iff, remote_ne_nil_iff]

/-- **access_route**: the route built from Forwarded / X-Forwarded-For / X-Real-IP (same header values on both stacks, `Fw.accessRoute`
    of C09) completed with REMOTE_ADDR (WSGI) / scope['client'][0] (ASGI) -/
theorem access_route_agree (c : Conn) (l : Lib) (hreq : Wr.wfReq (toHReq c) = true) (hc : wfClient c = true) :
    asgiAccessRoute (toScope c l) (Wr.asgiStore (toScope c l).headers) = .ok (wsgiAccessRoute (toEnviron c l)) :=
  (access_route_agree_iff c l hreq).2 (Or.inl hc)

/-- `route[-1]` is the client address, and an IndexError exactly when the ASGI route is empty; the header lines play no other part -/
theorem asgiRemoteAddr_eq_iff (c : Conn) (l : Lib) :
    asgiRemoteAddr (toScope c l) (Wr.asgiStore (toScope c l).headers) = .ok (wsgiRemoteAddr (toEnviron c l))
      ↔ (wfClient c = true ∨ hdrRoute c l ≠ []) := by
  have h := asgiAccessRoute_eq c l
  unfold asgiAccessRoute at h
  unfold asgiRemoteAddr asgiRemoteAddrOf
  rw [h, wsgiRemoteAddr_eq]
  simp only [getLast?_finishRoute, true_and]
  rw [← remote_ne_nil_iff]
  by_cases h1 : chars (clientAddr c) = [] <;> by_cases h2 : hdrRoute c l = [] <;> simp [h1, h2]

/-- the condition of `access_route_agree_iff` is exact for remote_addr too -/
theorem remote_addr_agree_iff (c : Conn) (l : Lib) (hreq : Wr.wfReq (toHReq c) = true) :
    asgiRemoteAddr (toScope c l) (Wr.asgiStore (toScope c l).headers) = .ok (wsgiRemoteAddr (toEnviron c l))
      ↔ (wfClient c = true ∨ hdrRoute c l ≠ []) :=
  asgiRemoteAddr_eq_iff c l

/-- **remote_addr**: `env['REMOTE_ADDR']` (default 127.0.0.1) vs the LAST element of the ASGI access_route -/
theorem remote_addr_agree (c : Conn) (l : Lib) (hc : wfClient c = true) :
    asgiRemoteAddr (toScope c l) (Wr.asgiStore (toScope c l).headers) = .ok (wsgiRemoteAddr (toEnviron c l)) :=
  (asgiRemoteAddr_eq_iff c l).2 (Or.inl hc)

/-- **WSGI and ASGI describe the same request line and connection.**  For every wire request of the domain `wfConn`
    (ASCII request-target, upper-case method, scheme http/https, ASCII mount point, non-empty client address if any, header
    names ASCII without `_` and no repeated singleton header; the ASGI server tells its own address), every liberty the two specs leave to the servers (`Lib`) and all eight settings of the request options:
    method, path, query_string, params, root_path (= app), scheme, host, port, netloc, remote_addr and access_route of
    `falcon.Request(environ)` and `falcon.asgi.Request(scope)` are the same values / the same HTTPInvalidHeader. -/
theorem request_view_agree (c : Conn) (l : Lib) (o : Opts) (h : wfConn c l = true) :
    wsgiView (toEnviron c l) o = asgiView (toScope c l) o := by
  simp only [wfConn, Bool.and_eq_true] at h
  obtain ⟨⟨⟨⟨⟨⟨ht, hm⟩, hs⟩, hr⟩, hc⟩, hl⟩, hreq⟩ := h
  simp only [wfLib, decide_eq_true_eq] at hl
  unfold wsgiView asgiView
  simp only
  rw [method_agree c l hm, path_agree, query_string_agree c l ht, params_agree c l ht, root_path_agree c l hr, scheme_agree,
      host_agree c l hreq hl, port_agree c l hreq hs hl, netloc_agree c l hreq hs hl, remote_addr_agree c l hc,
      access_route_agree c l hreq hc]

example : wfConn sampleConn {} = true := by decide +kernel
example : wfConn sampleConn { omitScheme := true, omitRootPath := true, omitQueryString := true, omitScriptName := true } = true := by decide +kernel
example : asgiPath (toScope sampleConn {}) false = lit "/café/" ++ [0xFFFD, 0xFFFD] ++ lit "/a/b/" := by decide +kernel
example : wsgiPath (toEnviron sampleConn {}) true = .ok (lit "/café/" ++ [0xFFFD, 0xFFFD] ++ lit "/a/b") := by rw [wsgiPath_eq]; decide +kernel
example : wsgiQueryString (toEnviron sampleConn {}) = lit "a=1&a=%C3%A9&k=&x=1,2" := by rw [wsgiQueryString_eq]; decide +kernel
example : (wsgiParams (toEnviron sampleConn {}) true true ==
    [(lit "a", .many [lit "1", lit "é"]), (lit "k", .one []), (lit "x", .many [lit "1", lit "2"])]) = true := by rw [wsgiParams_eq]; decide +kernel
example : (asgiParams (toScope sampleConn {}) false false == some [(lit "a", .many [lit "1", lit "é"]), (lit "x", .one (lit "1,2"))]) = true := by decide +kernel
example : wsgiHost (toEnviron sampleConn {}) = .ok "falconframework.org".toList := by rw [wsgiHost_eq]; decide +kernel
example : asgiPort (toScope sampleConn {}) (Wr.asgiStore (toScope sampleConn {}).headers) = .ok (some 8443) := by decide +kernel
example : wsgiNetloc (toEnviron sampleConn {}) = .ok (lit "falconframework.org:8443") := by rw [wsgiNetloc_eq]; decide +kernel
example : asgiAccessRoute (toScope sampleConn {}) (Wr.asgiStore (toScope sampleConn {}).headers)
    = .ok ["1.1.1.1".toList, "2.2.2.2".toList, "192.0.2.7".toList] := by decide +kernel
example : wsgiRootPath (toEnviron sampleConn {}) = lit "/app" := by rw [wsgiRootPath_eq]; decide +kernel

def c0 : Conn := mkConn "GET" "/" "http" ("srv", 8080) none "" []

/-- a lower-case method token: WSGI hands it over as sent, ASGI upper-cased (everything else is inside the domain) -/
theorem method_case_witness :
    let c := { c0 with method := lit "get" }
    wsgiMethod (toEnviron c {}) = .ok (lit "get") ∧ asgiMethod (toScope c {}) = lit "GET"
    ∧ wfMethod c = false ∧ wfTarget c = true ∧ wfScheme c = true ∧ wfRoot c = true ∧ wfClient c = true ∧ wfLib {} = true
    ∧ Wr.wfReq (toHReq c) = true := by decide +kernel

/-- a scheme other than http / https: the default port of a port-less Host header is 443 on WSGI (`!= 'http'`) and 80 on ASGI
    (`in ('https', 'wss')` fails) -/
theorem scheme_port_witness :
    let c := mkConn "GET" "/" "ftp" ("srv", 8080) none "" [("Host", "h")]
    wsgiPort (toEnviron c {}) = .ok (some 443) ∧ asgiPort (toScope c {}) (Wr.asgiStore (toScope c {}).headers) = .ok (some 80)
    ∧ wfScheme c = false ∧ wfTarget c = true ∧ wfMethod c = true ∧ wfRoot c = true ∧ wfClient c = true ∧ Wr.wfReq (toHReq c) = true := by
  dsimp only
  rw [wsgiPort_eq]
  decide +kernel
/-- a scheme other than http / https: "wss" is secure for the ASGI `netloc` only -/
theorem scheme_netloc_witness :
    let c := mkConn "GET" "/" "wss" ("srv", 443) none "" []
    wsgiNetloc (toEnviron c {}) = .ok (lit "srv:443") ∧ asgiNetloc (toScope c {}) (Wr.asgiStore (toScope c {}).headers) = lit "srv"
    ∧ wfScheme c = false := by
  dsimp only
  rw [wsgiNetloc_eq]
  decide +kernel

/-- raw (unescaped) non-ASCII bytes in the query: WSGI reads them as Latin-1, ASGI as UTF-8 -/
theorem raw_query_witness :
    let c := withTarget c0 [47, 63, 113, 61, 0xC3, 0xA9]
    wsgiQueryString (toEnviron c {}) = [113, 61, 0xC3, 0xA9] ∧ asgiQueryString (toScope c {}) = some [113, 61, 0xE9]
    ∧ wfTarget c = false := by
  dsimp only
  rw [wsgiQueryString_eq]
  decide +kernel
/-- ASGI reads the raw query as STRICT UTF-8: the constructor raises UnicodeDecodeError where the WSGI one succeeds -/
theorem raw_query_raises_witness :
    let c := withTarget c0 [47, 63, 113, 61, 0xFF]
    wsgiQueryString (toEnviron c {}) = [113, 61, 0xFF] ∧ asgiQueryString (toScope c {}) = none
    ∧ (asgiParams (toScope c {}) true false).isNone = true := by
  dsimp only
  rw [wsgiQueryString_eq]
  decide +kernel
/-- the same raw bytes in the PATH are harmless (path_agree needs no hypothesis) -/
example : let c := withTarget c0 [47, 0xC3, 0xA9, 0xFF]
    wsgiPath (toEnviron c {}) false = .ok [47, 0xE9, 0xFFFD] ∧ asgiPath (toScope c {}) false = [47, 0xE9, 0xFFFD] := by
  dsimp only
  rw [wsgiPath_eq]
  decide +kernel

/-- a non-ASCII mount point: falcon returns SCRIPT_NAME without undoing the Latin-1 tunnel -/
theorem root_path_witness :
    let c := { c0 with rootPath := [47, 0xE9] }
    wsgiRootPath (toEnviron c {}) = [47, 0xC3, 0xA9] ∧ asgiRootPath (toScope c {}) = [47, 0xE9] ∧ wfRoot c = false := by
  dsimp only
  rw [wsgiRootPath_eq]
  decide +kernel

/-- an empty client address: `[client] if client else []` makes the ASGI route empty and `route[-1]` an IndexError -/
theorem empty_client_witness :
    let c := { c0 with client := some ([], 0) }
    wsgiRemoteAddr (toEnviron c {}) = [] ∧ wsgiAccessRoute (toEnviron c {}) = [[]]
    ∧ asgiAccessRoute (toScope c {}) (Wr.asgiStore (toScope c {}).headers) = .ok []
    ∧ asgiRemoteAddr (toScope c {}) (Wr.asgiStore (toScope c {}).headers) = .exc ∧ wfClient c = false := by
  dsimp only
  rw [wsgiRemoteAddr_eq, wsgiAccessRoute_hdr]
  decide +kernel

/-- REGRESSION witness (finding F36, fixed by 9e26a7e): with `scope['client'] = None` the code before the fix (`except KeyError` only:
    `asgiClientPinned`) raised TypeError from remote_addr / access_route where WSGI without REMOTE_ADDR answers 127.0.0.1; the repaired
    code (`asgiClient`) answers 127.0.0.1 like for a missing key, and the request is inside the domain -/
theorem client_none_regression_witness :
    let s := toScope c0 { clientNull := true }
    wsgiRemoteAddr (toEnviron c0 { clientNull := true }) = "127.0.0.1".toList
    ∧ asgiRemoteAddrOf (asgiClientPinned s) (Wr.asgiStore s.headers) = .exc
    ∧ asgiAccessRouteOf (asgiClientPinned s) (Wr.asgiStore s.headers) = .exc
    ∧ asgiRemoteAddr s (Wr.asgiStore s.headers) = .ok "127.0.0.1".toList
    ∧ asgiAccessRoute s (Wr.asgiStore s.headers) = .ok ["127.0.0.1".toList]
    ∧ wfConn c0 { clientNull := true } = true := by
  dsimp only
  rw [wsgiRemoteAddr_eq]
  decide +kernel

/-- an ASGI server that does not tell its own address (`server` missing or None), no Host header: falcon invents localhost:80 -/
theorem server_missing_witness :
    wsgiHost (toEnviron c0 { server := .missing }) = .ok "srv".toList
    ∧ asgiHost (toScope c0 { server := .missing }) (Wr.asgiStore (toScope c0 { server := .missing }).headers) = .ok "localhost".toList
    ∧ wsgiPort (toEnviron c0 { server := .null }) = .ok (some 8080)
    ∧ asgiPort (toScope c0 { server := .null }) (Wr.asgiStore (toScope c0 { server := .null }).headers) = .ok (some 80)
    ∧ wsgiNetloc (toEnviron c0 { server := .null }) = .ok (lit "srv:8080")
    ∧ asgiNetloc (toScope c0 { server := .null }) (Wr.asgiStore (toScope c0 { server := .null }).headers) = lit "localhost"
    ∧ wfLib { server := .missing } = false ∧ wfLib { server := .null } = false := by
  rw [wsgiHost_eq, wsgiPort_eq, wsgiNetloc_eq]
  decide +kernel

/-- a repeated Host header (`Wr.wfReq` fails): comma-joined on WSGI, the last one on ASGI -/
theorem repeated_host_witness :
    let c := mkConn "GET" "/" "http" ("srv", 8080) none "" [("Host", "a"), ("host", "b:81")]
    wsgiHost (toEnviron c {}) = .ok "a,b".toList ∧ asgiHost (toScope c {}) (Wr.asgiStore (toScope c {}).headers) = .ok "b".toList
    ∧ wsgiNetloc (toEnviron c {}) = .ok (lit "a,b:81") ∧ asgiNetloc (toScope c {}) (Wr.asgiStore (toScope c {}).headers) = lit "b:81"
    ∧ Wr.wfReq (toHReq c) = false := by
  dsimp only
  rw [wsgiHost_eq, wsgiNetloc_eq]
  decide +kernel

/-- `_` in a field name (`Wr.wfReq` fails): CGI reads X_Forwarded_For as X-Forwarded-For -/
theorem underscore_route_witness :
    let c := mkConn "GET" "/" "http" ("srv", 8080) none "" [("X_Forwarded_For", "7.7.7.7")]
    wsgiAccessRoute (toEnviron c {}) = ["7.7.7.7".toList, "127.0.0.1".toList]
    ∧ asgiAccessRoute (toScope c {}) (Wr.asgiStore (toScope c {}).headers) = .ok ["127.0.0.1".toList]
    ∧ Wr.wfReq (toHReq c) = false := by
  dsimp only
  rw [wsgiAccessRoute_hdr]
  decide +kernel

/-- a strict ASGI server refuses `/%ff` itself (no scope, the application is not called); the lenient one and WSGI agree on U+FFFD -/
theorem strict_server_witness :
    let c := mkConn "GET" "/%ff" "http" ("srv", 8080) none "" []
    strictScopePath c = none ∧ asgiPath (toScope c {}) false = [47, 0xFFFD] ∧ wsgiPath (toEnviron c {}) false = .ok [47, 0xFFFD]
    ∧ strictScopePath sampleConn = none ∧ strictScopePath (mkConn "GET" "/caf%C3%A9" "http" ("srv", 8080) none "" []) = some (lit "/café") := by
  dsimp only
  rw [wsgiPath_eq]
  decide +kernel
end Wq
