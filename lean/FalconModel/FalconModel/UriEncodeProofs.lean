import FalconModel.UriEncode
/-! C10 proofs: RFC 3986 output grammar of the encoders, decode∘encode = id for both allowed sets (with the '+' witness),
    the check-escaped encoders fix every fully escaped string and are idempotent, `parse_host` on the valid authority forms. -/
namespace Uri
open Probe

/-- upper-case hex digit -/
def upperHex (c : UInt8) : Bool := (48 ≤ c.toNat && c.toNat ≤ 57) || (65 ≤ c.toNat && c.toNat ≤ 70)

/-- the grammar `( allowed | "%" H H )*` for a class `H` of hex digits; a '%' never counts as an allowed character -/
def gram (allowed hexp : UInt8 → Bool) : List UInt8 → Bool
  | [] => true
  | c :: r =>
    if c == 37 then
      match r with
      | a :: b :: r' => hexp a && hexp b && gram allowed hexp r'
      | _ => false
    else allowed c && gram allowed hexp r

/-- the output grammar `( allowed | "%" UPPERHEX UPPERHEX )*` -/
def wfEsc (allowed : UInt8 → Bool) : List UInt8 → Bool := gram allowed upperHex
/-- "already fully escaped": `( allowed | "%" HEXDIG HEXDIG )*`, hex digits of either case -/
def escaped (allowed : UInt8 → Bool) : List UInt8 → Bool := gram allowed isHex

theorem gram_ne (allowed hexp : UInt8 → Bool) (c : UInt8) (r : List UInt8) (h : (c == 37) = false) :
    gram allowed hexp (c :: r) = (allowed c && gram allowed hexp r) := by
  conv => lhs; unfold gram
  simp [h]
theorem gram_pct3 (allowed hexp : UInt8 → Bool) (a b : UInt8) (r : List UInt8) :
    gram allowed hexp (37 :: a :: b :: r) = (hexp a && hexp b && gram allowed hexp r) := by
  conv => lhs; unfold gram
  simp
theorem gram_pct1 (allowed hexp : UInt8 → Bool) : gram allowed hexp [37] = false := by
  unfold gram; simp
theorem gram_pct2 (allowed hexp : UInt8 → Bool) (a : UInt8) : gram allowed hexp [37, a] = false := by
  unfold gram; simp

theorem upperHex_iff (c : UInt8) : upperHex c = true ↔ (48 ≤ c.toNat ∧ c.toNat ≤ 57) ∨ (65 ≤ c.toNat ∧ c.toNat ≤ 70) := by
  simp only [upperHex, Bool.or_eq_true, Bool.and_eq_true, decide_eq_true_eq]

theorem upperHex_hexDigit (n : Nat) (h : n < 16) : upperHex (hexDigit n) = true := by
  rw [upperHex_iff]
  by_cases h10 : n < 10
  · rw [hexDigit_lo n h10]; omega
  · rw [hexDigit_hi n h10 h]; omega

theorem allowed_ne_pct {allowed : UInt8 → Bool} (h37 : allowed 37 = false) {c : UInt8} (hc : allowed c = true) : c ≠ 37 := by
  intro h; subst h; rw [h37] at hc; exact Bool.noConfusion hc

theorem encByte_charset (allowed : UInt8 → Bool) (x c : UInt8) (h : c ∈ encByte allowed x) :
    allowed c = true ∨ c = 37 ∨ upperHex c = true := by
  unfold encByte at h
  split at h
  · rename_i ha
    rw [List.mem_singleton.mp h]; exact Or.inl ha
  · simp only [List.mem_cons, List.not_mem_nil, or_false] at h
    rcases h with h | h | h
    · exact Or.inr (Or.inl h)
    · exact Or.inr (Or.inr (h ▸ upperHex_hexDigit _ (Nat.div_lt_of_lt_mul x.toNat_lt)))
    · exact Or.inr (Or.inr (h ▸ upperHex_hexDigit _ (Nat.mod_lt _ (by decide))))

/-- **`encode_charset`**: every output byte is an allowed character, '%', or an upper-case hex digit -/
theorem encodeWith_charset (allowed : UInt8 → Bool) (bs : List UInt8) :
    ∀ c ∈ encodeWith allowed bs, allowed c = true ∨ c = 37 ∨ upperHex c = true := by
  intro c hc
  unfold encodeWith at hc
  split at hc
  · rename_i hall
    exact Or.inl (List.all_eq_true.mp hall c hc)
  · obtain ⟨x, _, hx⟩ := List.mem_flatMap.mp hc
    exact encByte_charset allowed x c hx

theorem wfEsc_cons_allowed {allowed : UInt8 → Bool} (h37 : allowed 37 = false) (c : UInt8) (r : List UInt8)
    (hc : allowed c = true) : wfEsc allowed (c :: r) = wfEsc allowed r := by
  unfold wfEsc
  rw [gram_ne _ _ _ _ (beq_false_of_ne (allowed_ne_pct h37 hc)), hc, Bool.true_and]

theorem wfEsc_flatMap {allowed : UInt8 → Bool} (h37 : allowed 37 = false) (bs : List UInt8) :
    wfEsc allowed (bs.flatMap (encByte allowed)) = true := by
  induction bs with
  | nil => rfl
  | cons c cs ih =>
    rw [List.flatMap_cons, encByte]
    split
    · rename_i hc
      rw [List.singleton_append, wfEsc_cons_allowed h37 _ _ hc]; exact ih
    · unfold wfEsc at ih ⊢
      rw [List.cons_append, List.cons_append, List.cons_append, List.nil_append, gram_pct3, ih,
        upperHex_hexDigit _ (Nat.div_lt_of_lt_mul c.toNat_lt), upperHex_hexDigit _ (Nat.mod_lt _ (by decide))]
      rfl

theorem wfEsc_of_all {allowed : UInt8 → Bool} (h37 : allowed 37 = false) (bs : List UInt8)
    (hall : bs.all allowed = true) : wfEsc allowed bs = true := by
  induction bs with
  | nil => rfl
  | cons c cs ih =>
    rw [List.all_cons, Bool.and_eq_true] at hall
    rw [wfEsc_cons_allowed h37 _ _ hall.1]; exact ih hall.2

/-- **`encode_grammar`**: the output is a sequence of allowed characters and upper-case `%XX` triplets (no stray '%') -/
theorem encodeWith_wf {allowed : UInt8 → Bool} (h37 : allowed 37 = false) (bs : List UInt8) :
    wfEsc allowed (encodeWith allowed bs) = true := by
  unfold encodeWith
  split
  · rename_i hall; exact wfEsc_of_all h37 bs hall
  · exact wfEsc_flatMap h37 bs

theorem decode_encByte {allowed : UInt8 → Bool} (h37 : allowed 37 = false) (c : UInt8) (rest : List UInt8) :
    decode (encByte allowed c ++ rest) = c :: decode rest := by
  unfold encByte
  split
  · rename_i hu
    exact decode_cons_unres _ _ (allowed_ne_pct h37 hu)
  · exact decode_pct_hex c rest

theorem decode_flatMap_encByte {allowed : UInt8 → Bool} (h37 : allowed 37 = false) (bs : List UInt8) :
    decode (bs.flatMap (encByte allowed)) = bs := by
  induction bs with
  | nil => rfl
  | cons c cs ih => rw [List.flatMap_cons, decode_encByte h37, ih]

theorem decode_of_noPct (bs : List UInt8) (hno : ∀ c ∈ bs, c ≠ 37) : decode bs = bs := by
  have := decode_noPct_prefix bs [] hno
  rwa [List.append_nil, decode, List.append_nil] at this

/-- reference decoder after any encoder whose allowed set excludes '%' -/
theorem decode_encodeWith {allowed : UInt8 → Bool} (h37 : allowed 37 = false) (bs : List UInt8) :
    decode (encodeWith allowed bs) = bs := by
  unfold encodeWith
  split
  · rename_i hall
    exact decode_of_noPct bs (fun c hc => allowed_ne_pct h37 (List.all_eq_true.mp hall c hc))
  · exact decode_flatMap_encByte h37 bs

theorem map_plus_id (l : List UInt8) (h : ∀ c ∈ l, c ≠ 43) : l.map (fun c => if c == 43 then 32 else c) = l := by
  conv => rhs; rw [← List.map_id l]
  exact List.map_congr_left (fun c hc => if_neg (by simpa using h c hc))

/-- the implementation's decode (all three paths, '+' handling on or off) undoes any encoder that escapes '%' and '+' -/
theorem decodePlus_encodeWith {allowed : UInt8 → Bool} (h37 : allowed 37 = false) (h43 : allowed 43 = false)
    (plus : Bool) (bs : List UInt8) : decodePlus plus (encodeWith allowed bs) = bs := by
  unfold decodePlus
  have hno : ∀ c ∈ encodeWith allowed bs, c ≠ 43 := by
    intro c hc h; subst h
    rcases encodeWith_charset allowed bs _ hc with h | h | h
    · rw [h43] at h; exact Bool.noConfusion h
    · exact absurd h (by decide)
    · exact absurd h (by decide)
  cases plus
  · rw [if_neg Bool.false_ne_true, decodeImpl_eq_ref, decode_encodeWith h37]
  · rw [if_pos rfl, map_plus_id _ hno, decodeImpl_eq_ref, decode_encodeWith h37]

theorem unreserved_iff (c : UInt8) : unreserved c = true ↔
    (65 ≤ c.toNat ∧ c.toNat ≤ 90) ∨ (97 ≤ c.toNat ∧ c.toNat ≤ 122) ∨ (48 ≤ c.toNat ∧ c.toNat ≤ 57) ∨
      c.toNat = 45 ∨ c.toNat = 46 ∨ c.toNat = 95 ∨ c.toNat = 126 := by
  simp only [unreserved, Bool.or_eq_true, Bool.and_eq_true, decide_eq_true_eq, beq_iff_eq, or_assoc]

theorem mem_map_toUInt8 (l : List Nat) (hl : ∀ n ∈ l, n < 256) (c : UInt8) : c ∈ l.map Nat.toUInt8 ↔ c.toNat ∈ l := by
  rw [List.mem_map]
  constructor
  · rintro ⟨n, hn, rfl⟩
    rwa [show n.toUInt8.toNat = n from Nat.mod_eq_of_lt (hl n hn)]
  · exact fun h => ⟨c.toNat, h, UInt8.ofNat_toNat⟩

theorem unreservedTab_eq : unreservedTab =
    (List.range' 65 26 ++ List.range' 97 26 ++ List.range' 48 10 ++ [45, 46, 95, 126]).map Nat.toUInt8 := by decide +kernel

/-- the literal `_UNRESERVED` is the RFC 3986 unreserved set, given by ranges -/
theorem allowedValue_eq_unreserved (c : UInt8) : allowedValue c = unreserved c := by
  rw [Bool.eq_iff_iff, unreserved_iff, allowedValue, List.contains_iff_mem, unreservedTab_eq, mem_map_toUInt8 _ (by decide +kernel)]
  simp only [List.mem_append, List.mem_range'_1, List.mem_cons, List.not_mem_nil, or_false, or_assoc, Nat.reduceAdd,
    show ∀ n m : Nat, n < m + 1 ↔ n ≤ m from fun _ _ => Nat.lt_succ_iff]

theorem allowedValue_iff (c : UInt8) : allowedValue c = true ↔
    (65 ≤ c.toNat ∧ c.toNat ≤ 90) ∨ (97 ≤ c.toNat ∧ c.toNat ≤ 122) ∨ (48 ≤ c.toNat ∧ c.toNat ≤ 57) ∨
      c.toNat = 45 ∨ c.toNat = 46 ∨ c.toNat = 95 ∨ c.toNat = 126 := by
  rw [allowedValue_eq_unreserved, unreserved_iff]

theorem allowedValue_sub_uri (c : UInt8) (h : allowedValue c = true) : allowedUri c = true := by
  rw [allowedUri, List.contains_append, Bool.or_eq_true]
  exact Or.inl h

/-- every character `encode` leaves alone is visible ASCII other than `"`, `%`, `<`, `>` and `\` -/
theorem allowedUri_range (c : UInt8) (h : allowedUri c = true) :
    33 ≤ c.toNat ∧ c.toNat ≤ 126 ∧ c.toNat ≠ 34 ∧ c.toNat ≠ 37 ∧ c.toNat ≠ 60 ∧ c.toNat ≠ 62 ∧ c.toNat ≠ 92 := by
  have : ∀ x ∈ unreservedTab ++ delimTab, 33 ≤ x.toNat ∧ x.toNat ≤ 126 ∧ x.toNat ≠ 34 ∧ x.toNat ≠ 37 ∧ x.toNat ≠ 60 ∧
      x.toNat ≠ 62 ∧ x.toNat ≠ 92 := by decide +kernel
  exact this c (List.contains_iff_mem.mp h)

theorem allowedValue_pct : allowedValue 37 = false := by rw [allowedValue_eq_unreserved]; rfl
theorem allowedValue_plus : allowedValue 43 = false := by rw [allowedValue_eq_unreserved]; rfl
theorem allowedUri_pct : allowedUri 37 = false := by
  cases h : allowedUri 37 with
  | false => rfl
  | true => exact absurd rfl (allowedUri_range 37 h).2.2.2.1

/-- **`decode(encode_value(s)) = s`** with the default `unquote_plus=True` (and also with `False`) -/
theorem decode_encode_value (plus : Bool) (bs : List UInt8) : decodePlus plus (encodeValue bs) = bs :=
  decodePlus_encodeWith allowedValue_pct allowedValue_plus plus bs

/-- **`decode(encode(s), unquote_plus=False) = s`** -/
theorem decode_encode_uri (bs : List UInt8) : decodePlus false (encode bs) = bs := by
  unfold decodePlus encode
  rw [if_neg Bool.false_ne_true, decodeImpl_eq_ref, decode_encodeWith allowedUri_pct]

/-- why whole-URI encoding needs `unquote_plus=False`: '+' is a delimiter and is not escaped (`"a+b"`) -/
theorem decode_encode_uri_plus_witness : decodePlus true (encode [97, 43, 98]) ≠ [97, 43, 98] := by decide +kernel

/-- value encoding emits unreserved characters and upper-case escapes only -/
theorem encodeValue_grammar (bs : List UInt8) : wfEsc allowedValue (encodeValue bs) = true :=
  encodeWith_wf allowedValue_pct bs
theorem encode_grammar (bs : List UInt8) : wfEsc allowedUri (encode bs) = true :=
  encodeWith_wf allowedUri_pct bs

theorem splitPct_cons_ne (c : UInt8) (r : List UInt8) (hc : (c == 37) = false) :
    splitPct (c :: r) = (c :: (splitPct r).headD []) :: (splitPct r).tail := by
  rw [splitPct, hc]
  cases splitPct r <;> rfl

theorem isHex_iff (c : UInt8) : isHex c = true ↔
    (48 ≤ c.toNat ∧ c.toNat ≤ 57) ∨ (65 ≤ c.toNat ∧ c.toNat ≤ 70) ∨ (97 ≤ c.toNat ∧ c.toNat ≤ 102) := by
  unfold isHex hexVal?
  split
  · rename_i h; exact iff_of_true rfl (Or.inl h)
  · split
    · rename_i h; exact iff_of_true rfl (Or.inr (Or.inl h))
    · split
      · rename_i h; exact iff_of_true rfl (Or.inr (Or.inr h))
      · rename_i h1 h2 h3; exact iff_of_false Bool.false_ne_true (fun h => h.elim h1 (fun h => h.elim h2 h3))

theorem isHex_ne_pct (a : UInt8) (h : isHex a = true) : (a == 37) = false := by
  refine beq_false_of_ne (fun e => ?_)
  subst e; cases h

/-- the tokens after each '%' of a fully escaped string start with two hex digits -/
theorem escaped_tokens {allowed : UInt8 → Bool} (hhex : ∀ c, isHex c = true → allowed c = true) (bs : List UInt8)
    (he : escaped allowed bs = true) :
    bs.all (fun c => allowed c || c == 37) = true ∧ (splitPct bs).tail.all tokOk = true := by
  unfold escaped at he
  fun_induction gram allowed isHex bs with
  | case1 => exact ⟨rfl, rfl⟩
  | case2 c hc a b r' ih =>
    simp only [Bool.and_eq_true] at he
    obtain ⟨⟨ha, hb⟩, hr⟩ := he
    obtain rfl : c = 37 := eq_of_beq hc
    rw [splitPct, if_pos hc, List.tail_cons, splitPct_cons_ne a _ (isHex_ne_pct a ha), splitPct_cons_ne b _ (isHex_ne_pct b hb)]
    simp only [List.all_cons, List.headD_cons, List.tail_cons, tokOk, ha, hb, hhex a ha, hhex b hb, ih hr, beq_self_eq_true,
      Bool.or_true, Bool.true_or, Bool.and_self, and_self]
  | case3 => cases he
  | case4 c r hc ih =>
    rw [Bool.and_eq_true] at he
    rw [splitPct_cons_ne c r (Bool.not_eq_true _ ▸ hc), List.tail_cons, List.all_cons, he.1]
    exact ih he.2

theorem hex_allowedValue (c : UInt8) (h : isHex c = true) : allowedValue c = true := by
  rw [allowedValue_iff]
  rcases (isHex_iff c).mp h with h | h | h
  · exact Or.inr (Or.inr (Or.inl h))
  · exact Or.inl ⟨h.1, Nat.le_trans h.2 (by decide)⟩
  · exact Or.inr (Or.inl ⟨h.1, Nat.le_trans h.2 (by decide)⟩)

theorem hex_allowedUri (c : UInt8) (h : isHex c = true) : allowedUri c = true :=
  allowedValue_sub_uri c (hex_allowedValue c h)

/-- a fully escaped string passes the heuristic -/
theorem escaped_looksEscaped {allowed : UInt8 → Bool} (hhex : ∀ c, isHex c = true → allowed c = true) (bs : List UInt8)
    (he : escaped allowed bs = true) : looksEscaped allowed bs = true := by
  have := escaped_tokens hhex bs he
  unfold looksEscaped; rw [this.1, this.2]; rfl

/-- **`checkEscaped_fixpoint_on_escaped`**: an already fully escaped string is returned unchanged -/
theorem encodeCheck_fixpoint {allowed : UInt8 → Bool} (hhex : ∀ c, isHex c = true → allowed c = true) (bs : List UInt8)
    (he : escaped allowed bs = true) : encodeCheck allowed bs = bs := by
  unfold encodeCheck
  split
  · rfl
  · rw [escaped_looksEscaped hhex bs he]; rfl

theorem gram_mono (allowed : UInt8 → Bool) {h1 h2 : UInt8 → Bool} (hm : ∀ c, h1 c = true → h2 c = true) (bs : List UInt8)
    (he : gram allowed h1 bs = true) : gram allowed h2 bs = true := by
  fun_induction gram allowed h1 bs with
  | case1 => rfl
  | case2 c hc a b r' ih =>
    obtain rfl : c = 37 := eq_of_beq hc
    rw [gram_pct3]
    simp only [Bool.and_eq_true] at he ⊢
    exact ⟨⟨hm a he.1.1, hm b he.1.2⟩, ih he.2⟩
  | case3 => cases he
  | case4 c r hc ih =>
    rw [gram_ne _ _ _ _ (Bool.not_eq_true _ ▸ hc)]
    rw [Bool.and_eq_true] at he ⊢
    exact ⟨he.1, ih he.2⟩

theorem upperHex_isHex (c : UInt8) (h : upperHex c = true) : isHex c = true := by
  rw [isHex_iff]
  rcases (upperHex_iff c).mp h with h | h
  · exact Or.inl h
  · exact Or.inr (Or.inl h)

theorem wfEsc_escaped (allowed : UInt8 → Bool) (bs : List UInt8) (h : wfEsc allowed bs = true) : escaped allowed bs = true :=
  gram_mono allowed upperHex_isHex bs h

/-- **`checkEscaped_idempotent`** -/
theorem encodeCheck_idem {allowed : UInt8 → Bool} (h37 : allowed 37 = false) (hhex : ∀ c, isHex c = true → allowed c = true)
    (bs : List UInt8) : encodeCheck allowed (encodeCheck allowed bs) = encodeCheck allowed bs := by
  by_cases h1 : bs.all allowed = true
  · have e : encodeCheck allowed bs = bs := if_pos h1
    rw [e, e]
  · by_cases h2 : looksEscaped allowed bs = true
    · have e : encodeCheck allowed bs = bs := by rw [encodeCheck, if_neg h1, if_pos h2]
      rw [e, e]
    · have e : encodeCheck allowed bs = bs.flatMap (encByte allowed) := by rw [encodeCheck, if_neg h1, if_neg h2]
      rw [e]
      exact encodeCheck_fixpoint hhex _ (wfEsc_escaped _ _ (wfEsc_flatMap h37 bs))

/-- every byte a check-escaped encoder returns is an allowed character, '%', or an upper-case hex digit -/
theorem encodeCheck_charset (allowed : UInt8 → Bool) (bs : List UInt8) :
    ∀ c ∈ encodeCheck allowed bs, allowed c = true ∨ c = 37 ∨ upperHex c = true := by
  intro c hc
  unfold encodeCheck at hc
  by_cases h1 : bs.all allowed = true
  · rw [if_pos h1] at hc
    exact Or.inl (List.all_eq_true.mp h1 c hc)
  · rw [if_neg h1] at hc
    by_cases h2 : looksEscaped allowed bs = true
    · rw [if_pos h2] at hc
      have ha : bs.all (fun c => allowed c || c == 37) = true := (Bool.and_eq_true_iff.mp h2).1
      exact (Bool.or_eq_true_iff.mp (List.all_eq_true.mp ha c hc)).elim Or.inl (fun h => Or.inr (Or.inl (eq_of_beq h)))
    · rw [if_neg h2] at hc
      obtain ⟨x, _, hx⟩ := List.mem_flatMap.mp hc
      exact encByte_charset allowed x c hx

/-- the two check-escaped encoders of `uri.py`: an escaped input is returned unchanged, and encoding twice is encoding once -/
theorem encodeCheckEscaped_fixpoint (bs : List UInt8) (he : escaped allowedUri bs = true) : encodeCheckEscaped bs = bs :=
  encodeCheck_fixpoint hex_allowedUri bs he
theorem encodeValueCheckEscaped_fixpoint (bs : List UInt8) (he : escaped allowedValue bs = true) :
    encodeValueCheckEscaped bs = bs :=
  encodeCheck_fixpoint hex_allowedValue bs he
theorem encodeCheckEscaped_idem (bs : List UInt8) : encodeCheckEscaped (encodeCheckEscaped bs) = encodeCheckEscaped bs :=
  encodeCheck_idem allowedUri_pct hex_allowedUri bs
theorem encodeValueCheckEscaped_idem (bs : List UInt8) :
    encodeValueCheckEscaped (encodeValueCheckEscaped bs) = encodeValueCheckEscaped bs :=
  encodeCheck_idem allowedValue_pct hex_allowedValue bs

/-- the heuristic rejects a non-hex "escape": `encode_value_check_escaped("%G1") = "%25G1"` -/
theorem checkEscaped_rejects_G1 : encodeValueCheckEscaped [37, 71, 49] = [37, 50, 53, 71, 49] := by decide +kernel
/-- … and keeps a lower-case, already escaped one: `encode_value_check_escaped("%c3%a9") = "%c3%a9"` -/
theorem checkEscaped_keeps_lower : encodeValueCheckEscaped [37, 99, 51, 37, 97, 57] = [37, 99, 51, 37, 97, 57] := by decide +kernel

/-! ### `parse_host` on the valid authority forms -/

theorem strip2_ne (c : UInt8) (r : List UInt8) (hc : c ≠ 93) : strip2 (c :: r) = none := by
  cases r with
  | nil => rfl
  | cons d a => rw [strip2, beq_false_of_ne hc]; rfl

/-- no `]:` starts inside a prefix without ']' -/
theorem splitLast2_append_none (l q : List UInt8) (hl : ∀ c ∈ l, c ≠ 93) (hq : splitLast2 q = none) :
    splitLast2 (l ++ q) = none := by
  induction l with
  | nil => exact hq
  | cons c r ih =>
    rw [List.cons_append, splitLast2, ih (fun x hx => hl x (List.mem_cons_of_mem _ hx)), strip2_ne c _ (hl c List.mem_cons_self)]
    rfl

theorem splitLast2_none_of_no93 (p : List UInt8) (h : ∀ c ∈ p, c ≠ 93) : splitLast2 p = none :=
  List.append_nil p ▸ splitLast2_append_none p [] h rfl

theorem splitLast2_last (pre p : List UInt8) (hp : splitLast2 p = none) :
    splitLast2 (pre ++ 93 :: 58 :: p) = some (pre, p) := by
  induction pre with
  | nil => rw [List.nil_append, splitLast2, splitLast2, hp, strip2_ne 58 p (by decide)]; rfl
  | cons c cs ih => rw [List.cons_append, splitLast2, ih]

/-- `[v6]:port` (the LAST `]:` splits, so the result is right whatever the bracketed text contains; empty port = default) -/
theorem parseHost_v6_port (inner p : List UInt8) (hp : ∀ c ∈ p, c ≠ 93) :
    parseHost (91 :: inner ++ 93 :: 58 :: p) = (inner, portOf p) := by
  rw [parseHost, if_pos (by rfl), splitLast2_last (91 :: inner) p (splitLast2_none_of_no93 p hp)]
  rfl

/-- `[v6]` without a port -/
theorem parseHost_v6 (inner : List UInt8) (hi : ∀ c ∈ inner, c ≠ 93) :
    parseHost (91 :: inner ++ [93]) = (inner, none) := by
  have hn : ∀ c ∈ 91 :: inner, c ≠ 93 := by
    intro c hc
    rcases List.mem_cons.mp hc with rfl | hc
    · decide
    · exact hi c hc
  rw [parseHost, if_pos (by rfl), splitLast2_append_none _ [93] hn rfl]
  exact congrArg (·, none) List.dropLast_concat

theorem count_zero_of_no58 (h : List UInt8) (hh : ∀ c ∈ h, c ≠ 58) : h.count 58 = 0 :=
  List.count_eq_zero.mpr (fun hm => hh 58 hm rfl)

theorem partColon_split (h p : List UInt8) (hh : ∀ c ∈ h, c ≠ 58) : partColon (h ++ 58 :: p) = (h, true, p) := by
  induction h with
  | nil => rfl
  | cons c r ih =>
    rw [List.cons_append, partColon, if_neg (by simpa using hh c List.mem_cons_self),
      ih (fun x hx => hh x (List.mem_cons_of_mem _ hx))]

/-- reg-name / IPv4 without a port -/
theorem parseHost_plain (h : List UInt8) (hh : ∀ c ∈ h, c ≠ 58) (hb : h.head? ≠ some 91) : parseHost h = (h, none) := by
  rw [parseHost, if_neg (fun e => hb (eq_of_beq e)), count_zero_of_no58 h hh, if_pos (by rfl)]

/-- reg-name / IPv4 with a port (empty port = default) -/
theorem parseHost_port (h p : List UInt8) (hh : ∀ c ∈ h, c ≠ 58) (hp : ∀ c ∈ p, c ≠ 58) (hb : (h ++ 58 :: p).head? ≠ some 91) :
    parseHost (h ++ 58 :: p) = (h, portOf p) := by
  have hcount : (h ++ 58 :: p).count 58 = 1 := by
    rw [List.count_append, List.count_cons_self, count_zero_of_no58 h hh, count_zero_of_no58 p hp]
  rw [parseHost, if_neg (fun e => hb (eq_of_beq e)), hcount, if_neg (by decide), partColon_split h p hh]

/-- `int()` on a digit string is its decimal value: e.g. "8080" -/
theorem natOfDigits_example : natOfDigits [56, 48, 56, 48] = some 8080 := by decide
end Uri
