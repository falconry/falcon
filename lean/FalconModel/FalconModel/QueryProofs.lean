import FalconModel.QueryRef
/-! C08 lemmas about the `parse_query_string` model: field splitting, the blank rule, "an encoded comma never splits",
    and the one-pair instance of the `to_query_str` round trip (rendered with `encode_value`, C10).  The statements about
    whole query strings are read off the reference reading (`parseQS_eq_ref`). -/
namespace Qs
open Probe Uri

theorem splitOn_no_sep (sep : UInt8) (l : Bytes) (h : ∀ c ∈ l, c ≠ sep) : splitOn sep l = [l] := by
  induction l with
  | nil => rfl
  | cons c r ih =>
    obtain ⟨hc, hr⟩ := List.forall_mem_cons.1 h
    simp only [splitOn, byte_beq_false hc, ih hr, Bool.false_eq_true, if_false]

theorem splitOn_prefix (sep : UInt8) (f X : Bytes) (h : ∀ c ∈ f, c ≠ sep) :
    splitOn sep (f ++ sep :: X) = f :: splitOn sep X := by
  induction f with
  | nil => simp only [List.nil_append, splitOn, byte_beq_self, if_true]
  | cons c f ih =>
    obtain ⟨hc, hf⟩ := List.forall_mem_cons.1 h
    simp only [List.cons_append, splitOn, byte_beq_false hc, ih hf, Bool.false_eq_true, if_false]

/-- splitting `sep.join(ps)` gives the parts back; `j` is any function with the equations of `join` -/
theorem splitOn_join (sep : UInt8) (j : List Bytes → Bytes) (h1 : ∀ x, j [x] = x)
    (h2 : ∀ x y r, j (x :: y :: r) = x ++ sep :: j (y :: r)) :
    ∀ (ps : List Bytes), ps ≠ [] → (∀ p ∈ ps, ∀ c ∈ p, c ≠ sep) → splitOn sep (j ps) = ps := by
  intro ps
  induction ps with
  | nil => exact fun h _ => absurd rfl h
  | cons p r ih =>
    intro _ h
    obtain ⟨hp, hr⟩ := List.forall_mem_cons.1 h
    cases r with
    | nil => rw [h1]; exact splitOn_no_sep sep p hp
    | cons q r => rw [h2, splitOn_prefix sep p _ hp, ih (List.cons_ne_nil _ _) hr]

theorem mem_join (sep : UInt8) (j : List Bytes → Bytes) (h0 : j [] = []) (h1 : ∀ x, j [x] = x)
    (h2 : ∀ x y r, j (x :: y :: r) = x ++ sep :: j (y :: r)) :
    ∀ (ps : List Bytes) (c : UInt8), c ∈ j ps → c = sep ∨ ∃ p ∈ ps, c ∈ p := by
  intro ps
  induction ps with
  | nil => exact fun c h => absurd (h0 ▸ h) List.not_mem_nil
  | cons p r ih =>
    intro c h
    cases r with
    | nil => exact .inr ⟨p, List.mem_cons_self, h1 p ▸ h⟩
    | cons q r =>
      rw [h2] at h
      rcases List.mem_append.1 h with h | h
      · exact .inr ⟨p, List.mem_cons_self, h⟩
      · rcases List.mem_cons.1 h with h | h
        · exact .inl h
        · rcases ih c h with h | ⟨f, hf, hc⟩
          · exact .inl h
          · exact .inr ⟨f, List.mem_cons_of_mem _ hf, hc⟩

/-- `str.partition('=')` splits at the FIRST '=' -/
theorem partitionEq_first (k v : Bytes) (h : ∀ c ∈ k, c ≠ 61) : partitionEq (k ++ 61 :: v) = (k, true, v) := by
  induction k with
  | nil => rfl
  | cons c r ih =>
    obtain ⟨hc, hr⟩ := List.forall_mem_cons.1 h
    simp only [List.cons_append, partitionEq, byte_beq_false hc, ih hr, Bool.false_eq_true, if_false]

theorem partitionEq_none (k : Bytes) (h : ∀ c ∈ k, c ≠ 61) : partitionEq k = (k, false, []) := by
  induction k with
  | nil => rfl
  | cons c r ih =>
    obtain ⟨hc, hr⟩ := List.forall_mem_cons.1 h
    simp only [partitionEq, byte_beq_false hc, ih hr, Bool.false_eq_true, if_false]

/-- the blank rule: an empty value is ignored unless blanks are kept and the name is non-empty -/
theorem addField_blank (kb csv enc : Bool) (params : Params) (field k : Bytes) (f : Bool)
    (hp : partitionEq field = (k, f, [])) (h : kb = false ∨ k = []) :
    addField kb csv enc params field = params := by
  unfold addField
  rw [hp]
  rcases h with h | h <;> subst h <;> simp

theorem blank_eq_false_iff (kb : Bool) (k v : Bytes) :
    (v.isEmpty && (!kb || k.isEmpty)) = false ↔ (v ≠ [] ∨ (kb = true ∧ k ≠ [])) := by
  simp only [Bool.and_eq_false_iff, Bool.or_eq_false_iff, Bool.not_eq_false', List.isEmpty_eq_false_iff]

theorem fieldEntry_scalar (kb csv : Bool) (k v : Bytes) (hk : ∀ c ∈ k, c ≠ 61) (hv : csv = false ∨ ∀ c ∈ v, c ≠ 44) :
    fieldEntry kb csv (k ++ 61 :: v) =
      if v.isEmpty && (!kb || k.isEmpty) then none else some ⟨decodeStr k, [decodeStr v], false⟩ := by
  have hcomma : (csv && v.contains 44) = false := by
    rcases hv with rfl | h
    · rfl
    · cases hc : v.contains 44 with
      | false => exact Bool.and_false csv
      | true => exact absurd rfl (h 44 (contains_iff_mem.1 hc))
  simp only [fieldEntry, partitionEq_first k v hk, hcomma, Bool.false_eq_true, if_false]

theorem fieldEntry_list (kb : Bool) (k v : Bytes) (hk : ∀ c ∈ k, c ≠ 61) (hv : (44 : UInt8) ∈ v) :
    fieldEntry kb true (k ++ 61 :: v) =
      some ⟨decodeStr k, (if !kb then (splitOn 44 v).filter (!·.isEmpty) else splitOn 44 v).map decodeStr, true⟩ := by
  have he : v.isEmpty = false := by cases v with | nil => exact absurd hv List.not_mem_nil | cons _ _ => rfl
  simp only [fieldEntry, partitionEq_first k v hk, he, contains_iff_mem.2 hv, Bool.false_and, Bool.and_self,
    Bool.false_eq_true, if_false, if_true]

theorem exists_cons_cons {l : List α} (h : 2 ≤ l.length) : ∃ a b r, l = a :: b :: r :=
  match l, h with
  | a :: b :: r, _ => ⟨a, b, r, rfl⟩

theorem filterMap_map_some {f : α → β} {g : β → Option γ} {h : α → γ} :
    ∀ (l : List α), (∀ x ∈ l, g (f x) = some (h x)) → (l.map f).filterMap g = l.map h := by
  intro l H
  induction l with
  | nil => rfl
  | cons x r ih =>
    obtain ⟨hx, hr⟩ := List.forall_mem_cons.1 H
    rw [List.map_cons, List.filterMap_cons, hx, ih hr]; rfl

theorem entries_join (j : List Bytes → Bytes) (h0 : j [] = []) (h1 : ∀ x, j [x] = x)
    (h2 : ∀ x y r, j (x :: y :: r) = x ++ 38 :: j (y :: r)) (fs : List Bytes) (h38 : ∀ f ∈ fs, ∀ c ∈ f, c ≠ 38)
    (kb csv : Bool) : entries (j fs) kb csv = fs.filterMap (fieldEntry kb csv) := by
  cases fs with
  | nil => rw [h0]; cases kb <;> rfl
  | cons f r => unfold entries; rw [splitOn_join 38 j h1 h2 (f :: r) (List.cons_ne_nil _ _) h38]

theorem parseRef_one_field (f : Bytes) (kb csv : Bool) (h : ∀ c ∈ f, c ≠ 38) :
    parseRef f kb csv = match fieldEntry kb csv f with | none => [] | some e => [(e.key, single e)] := by
  unfold parseRef entries
  rw [splitOn_no_sep 38 f h, List.filterMap_cons]
  cases fieldEntry kb csv f with
  | none => rfl
  | some e => simp only [List.filterMap_nil, keysOf, List.filter_nil, List.map_cons, List.map_nil, valOf_eq,
      List.filter_cons, str_beq_self, if_true, groupVal]

theorem no38_field {k v : Bytes} (hk : ∀ c ∈ k, c ≠ 38) (hv : ∀ c ∈ v, c ≠ 38) : ∀ c ∈ k ++ 61 :: v, c ≠ 38 := by
  intro c hc
  rcases List.mem_append.1 hc with h | h
  · exact hk c h
  · rcases List.mem_cons.1 h with rfl | h
    · decide
    · exact hv c h

/-- **single field**: split at the first '=', value kept whole unless CSV is on AND it has a literal comma -/
theorem parseQS_single_field (k v : Bytes) (kb csv : Bool)
    (hk : ∀ c ∈ k, c ≠ 38 ∧ c ≠ 61) (hv : ∀ c ∈ v, c ≠ 38) (hne : v ≠ [])
    (hc : csv = false ∨ ∀ c ∈ v, c ≠ 44) :
    parseQS (k ++ 61 :: v) kb csv = [(decodeStr k, .one (decodeStr v))] := by
  have hve : v.isEmpty = false := by cases v with | nil => exact absurd rfl hne | cons _ _ => rfl
  rw [parseQS_eq_ref, parseRef_one_field _ kb csv (no38_field (fun c h => (hk c h).1) hv),
    fieldEntry_scalar kb csv k v (fun c h => (hk c h).2) hc, hve]
  rfl

/-- a single field without a value (`k` or `k=`) gives no parameter when blanks are dropped or the name is empty -/
theorem parseQS_blank_field (k : Bytes) (kb csv eq : Bool) (hk : ∀ c ∈ k, c ≠ 38 ∧ c ≠ 61) (h : kb = false ∨ k = []) :
    parseQS (if eq then k ++ [61] else k) kb csv = [] := by
  have h38 : ∀ c ∈ k, c ≠ 38 := fun c h => (hk c h).1
  have h61 : ∀ c ∈ k, c ≠ 61 := fun c h => (hk c h).2
  have hblank : (([] : Bytes).isEmpty && (!kb || k.isEmpty)) = true := by
    rcases h with rfl | rfl
    · rfl
    · exact Bool.or_true _
  rw [parseQS_eq_ref]
  cases eq
  · rw [if_neg Bool.false_ne_true, parseRef_one_field k kb csv h38]
    simp only [fieldEntry, partitionEq_none k h61, hblank, if_true]
  · rw [if_pos rfl, parseRef_one_field _ kb csv (no38_field h38 (fun _ h => absurd h List.not_mem_nil)),
      fieldEntry_scalar kb csv k [] h61 (Or.inr fun _ h => absurd h List.not_mem_nil), hblank, if_pos rfl]

theorem encodeValue_no (x : Bytes) (d : UInt8) (hd : allowedValue d = false) (h37 : d ≠ 37) (hh : upperHex d = false) :
    ∀ c ∈ encodeValue x, c ≠ d := by
  intro c hc he; subst he
  rcases encodeWith_charset allowedValue x _ hc with h | h | h
  · rw [hd] at h; exact Bool.noConfusion h
  · exact h37 h
  · rw [hh] at h; exact Bool.noConfusion h

theorem seps_not_allowed : allowedValue 38 = false ∧ allowedValue 61 = false ∧ allowedValue 44 = false := by decide +kernel

theorem enc_no38 (x : Bytes) : ∀ c ∈ encodeValue x, c ≠ 38 := encodeValue_no x 38 seps_not_allowed.1 (by decide) rfl
theorem enc_no61 (x : Bytes) : ∀ c ∈ encodeValue x, c ≠ 61 := encodeValue_no x 61 seps_not_allowed.2.1 (by decide) rfl
theorem enc_no44 (x : Bytes) : ∀ c ∈ encodeValue x, c ≠ 44 := encodeValue_no x 44 seps_not_allowed.2.2 (by decide) rfl

theorem encodeValue_ne_nil (x : Bytes) (h : x ≠ []) : encodeValue x ≠ [] := by
  unfold encodeValue encodeWith
  by_cases hall : x.all allowedValue = true
  · rw [if_pos hall]; exact h
  · rw [if_neg hall]
    obtain ⟨c, r, rfl⟩ := List.exists_cons_of_ne_nil h
    intro h0
    have hc : encByte allowedValue c = [] := (List.append_eq_nil_iff.1 h0).1
    unfold encByte at hc
    by_cases ha : allowedValue c = true
    · rw [if_pos ha] at hc; exact nomatch hc
    · rw [if_neg ha] at hc; exact nomatch hc

theorem decodeStr_encodeValue (x : Bytes) : decodeStr (encodeValue x) = U8.decodeReplace x :=
  congrArg U8.decodeReplace (decode_encode_value true x)

/-- **one-pair `to_query_str` round trip**: `encode_value(k) = encode_value(v)` parses back to exactly `(k, v)` (as UTF-8 text),
    for every option setting - '&', '=', ',' inside names and values are escaped, so nothing splits -/
theorem parseQS_encoded_pair (k v : Bytes) (kb csv : Bool) (hne : v ≠ []) :
    parseQS (encodeValue k ++ 61 :: encodeValue v) kb csv = [(U8.decodeReplace k, .one (U8.decodeReplace v))] := by
  rw [parseQS_single_field (encodeValue k) (encodeValue v) kb csv
        (fun c hc => ⟨enc_no38 k c hc, enc_no61 k c hc⟩) (enc_no38 v) (encodeValue_ne_nil v hne) (Or.inr (enc_no44 v)),
      decodeStr_encodeValue, decodeStr_encodeValue]
end Qs
