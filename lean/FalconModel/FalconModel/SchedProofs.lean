import FalconModel.Sched
/-! C19(a): with the lock, under every schedule of any number of threads, the router is compiled exactly once and every
    thread runs the finder of that compile on that compile's complete tables — the serial result. -/
namespace Sc

def phaseC (n : Nat) (sh : Sh) : Prop := sh.find = some 1 ∧ sh.tver = 1 ∧ sh.fill = n ∧ sh.ncomp = 1

def Good (n : Nat) (sh : Sh) (i : Nat) : Pc → Prop
  | .start => True
  | .haveFind f => f = none ∨ (f = some 1 ∧ phaseC n sh)
  | .call f tv fl => f = none ∨ (f = some 1 ∧ tv = 1 ∧ fl = n ∧ phaseC n sh)
  | .waitLock => True
  | .locked => sh.lock = some i
  | .compiling v left => sh.lock = some i ∧ v = 1 ∧ sh.find = none ∧ sh.ncomp = 1 ∧ sh.tver = 1 ∧ sh.fill + left = n
  | .publish v => sh.lock = some i ∧ v = 1 ∧ sh.find = none ∧ sh.ncomp = 1 ∧ sh.tver = 1 ∧ sh.fill = n
  | .unlock => sh.lock = some i ∧ phaseC n sh
  | .reFind => phaseC n sh
  | .reTables f => f = some 1 ∧ phaseC n sh
  | .done v tv fl => v = 1 ∧ tv = 1 ∧ fl = n
  | .stuck => False

def isComp : Pc → Prop
  | .compiling _ _ => True
  | .publish _ => True
  | _ => False

structure Inv (n : Nat) (s : St) : Prop where
  good : ∀ i, Good n s.sh i (s.pcs i)
  lazy : s.sh.find = none → s.sh.ncomp = 0 ∨ ∃ j, isComp (s.pcs j)
  compiled : s.sh.find ≠ none → phaseC n s.sh

/-- a step by another thread cannot invalidate what thread `j` knows -/
theorem Good_mono (n : Nat) (sh sh' : Sh) (j : Nat) (pc : Pc)
    (ha : phaseC n sh → phaseC n sh')
    (hb : sh.lock = some j → sh' = sh) : Good n sh j pc → Good n sh' j pc := by
  intro h
  cases pc with
  | start => trivial
  | haveFind f => rcases h with h | ⟨h1, h2⟩; exact Or.inl h; exact Or.inr ⟨h1, ha h2⟩
  | call f tv fl => rcases h with h | ⟨h1, h2, h3, h4⟩; exact Or.inl h; exact Or.inr ⟨h1, h2, h3, ha h4⟩
  | waitLock => trivial
  | locked => have := hb h; rw [this]; exact h
  | compiling v left => have := hb h.1; rw [this]; exact h
  | publish v => have := hb h.1; rw [this]; exact h
  | unlock => have := hb h.1; rw [this]; exact h
  | reFind => exact ha h
  | reTables f => exact ⟨h.1, ha h.2⟩
  | done v tv fl => exact h
  | stuck => exact h

theorem init_inv (n : Nat) : Inv n {} :=
  ⟨fun _ => trivial, fun _ => Or.inl rfl, fun h => absurd rfl h⟩

/-- assembling the invariant after thread `i` moved to `pc'` with shared state `sh'` -/
theorem mk_inv (n : Nat) (s : St) (i : Nat) (sh' : Sh) (pc' : Pc) (hinv : Inv n s)
    (ha : phaseC n s.sh → phaseC n sh')
    (hb : ∀ j, j ≠ i → s.sh.lock = some j → sh' = s.sh)
    (hc : Good n sh' i pc')
    (hd : sh'.find = none → sh'.ncomp = 0 ∨ isComp pc' ∨ ∃ j, j ≠ i ∧ isComp (s.pcs j))
    (he : sh'.find ≠ none → phaseC n sh') :
    Inv n { sh := sh', pcs := fun j => if j = i then pc' else s.pcs j } := by
  refine ⟨fun j => ?_, fun hl => ?_, he⟩
  · by_cases hj : j = i
    · simp only [hj, if_true]; exact hc
    · simp only [hj, if_false]
      exact Good_mono n s.sh sh' j _ ha (hb j hj) (hinv.good j)
  · rcases hd hl with h | h | ⟨j, hj, h⟩
    · exact Or.inl h
    · exact Or.inr ⟨i, by simp only [if_true]; exact h⟩
    · exact Or.inr ⟨j, by simp only [hj, if_false]; exact h⟩

/-- when the shared state does not change, the "lazy" clause carries over unless thread `i` itself was the compiler -/
theorem lazy_same (n : Nat) (s : St) (i : Nat) (pc' : Pc) (hinv : Inv n s) (hnc : ¬ isComp (s.pcs i)) :
    s.sh.find = none → s.sh.ncomp = 0 ∨ isComp pc' ∨ ∃ j, j ≠ i ∧ isComp (s.pcs j) := by
  intro hl
  rcases hinv.lazy hl with h | ⟨j, hj⟩
  · exact Or.inl h
  · refine Or.inr (Or.inr ⟨j, ?_, hj⟩)
    intro e; subst e; exact hnc hj

/-- thread `i` moves to `pc'` without touching the shared state -/
theorem move_inv (n : Nat) (s : St) (i : Nat) (pc' : Pc) (hinv : Inv n s) (hc : Good n s.sh i pc')
    (hd : s.sh.find = none → s.sh.ncomp = 0 ∨ isComp pc' ∨ ∃ j, j ≠ i ∧ isComp (s.pcs j)) :
    Inv n { sh := s.sh, pcs := fun j => if j = i then pc' else s.pcs j } :=
  mk_inv n s i s.sh pc' hinv id (fun _ _ _ => rfl) hc hd hinv.compiled

/-- the invariant is preserved by every step of every thread -/
theorem run_inv (n : Nat) (s : St) (i : Nat) (hinv : Inv n s) : Inv n (s.run true n i) := by
  unfold St.run
  have hgi := hinv.good i
  cases hpc : s.pcs i with
  | start =>
    dsimp only [step]
    refine move_inv n s i _ hinv ?_ (lazy_same n s i _ hinv (by rw [hpc]; exact id))
    cases hf : s.sh.find with
    | none => exact Or.inl rfl
    | some v =>
      have hc := hinv.compiled (by rw [hf]; simp)
      have : v = 1 := by have := hc.1; rw [hf] at this; injection this
      subst this; exact Or.inr ⟨rfl, hc⟩
  | haveFind f =>
    dsimp only [step]
    rw [hpc] at hgi
    refine move_inv n s i _ hinv ?_ (lazy_same n s i _ hinv (by rw [hpc]; exact id))
    rcases hgi with h | ⟨h1, h2⟩
    · exact Or.inl h
    · exact Or.inr ⟨h1, h2.2.1, h2.2.2.1, h2⟩
  | call f tv fl =>
    rw [hpc] at hgi
    cases f with
    | none =>
      dsimp only [step]
      exact move_inv n s i _ hinv trivial (lazy_same n s i _ hinv (by rw [hpc]; exact id))
    | some v =>
      dsimp only [step]
      refine move_inv n s i _ hinv ?_ (lazy_same n s i _ hinv (by rw [hpc]; exact id))
      rcases hgi with h | ⟨h1, h2, h3, _⟩
      · cases h
      · injection h1 with h1; exact ⟨h1, h2, h3⟩
  | waitLock =>
    simp only [step, if_true]
    by_cases hl : s.sh.lock.isNone = true
    · simp only [hl, if_true]
      have hln : s.sh.lock = none := by simpa using hl
      refine mk_inv n s i { s.sh with lock := some i } _ hinv (fun h => h) ?_ rfl ?_ ?_
      · intro j _ hj; rw [hln] at hj; cases hj
      · exact lazy_same n s i _ hinv (by rw [hpc]; exact id)
      · exact hinv.compiled
    · simp only [hl, Bool.false_eq_true, if_false]
      -- blocked: nothing happens
      have : ({ sh := s.sh, pcs := s.pcs } : St) = s := rfl
      exact hinv
  | locked =>
    rw [hpc] at hgi
    dsimp only [step]
    by_cases hf : s.sh.find.isNone = true
    · simp only [hf, if_true]
      have hfn : s.sh.find = none := by simpa using hf
      -- nobody else can be compiling: it would hold the lock
      have hn0 : s.sh.ncomp = 0 := by
        rcases hinv.lazy hfn with h | ⟨j, hj⟩
        · exact h
        · have hgj := hinv.good j
          have hlj : s.sh.lock = some j := by
            cases hpj : s.pcs j <;> rw [hpj] at hj hgj <;> simp [isComp] at hj
            · exact hgj.1
            · exact hgj.1
          have : j = i := by rw [hgi] at hlj; injection hlj with h; exact h.symm
          subst this; rw [hpc] at hj; simp [isComp] at hj
      refine mk_inv n s i { s.sh with ncomp := s.sh.ncomp + 1, tver := s.sh.ncomp + 1, fill := 0 } _ hinv ?_ ?_ ?_ ?_ ?_
      · intro h; have := h.1; rw [hfn] at this; cases this
      · intro j hj hlj; rw [hgi] at hlj; injection hlj with h; exact absurd h.symm hj
      · exact ⟨hgi, by simp [hn0], hfn, by simp [hn0], by simp [hn0], by simp⟩
      · intro _; exact Or.inr (Or.inl trivial)
      · intro h; exact absurd hfn h
    · simp only [hf, Bool.false_eq_true, if_false]
      have hfs : s.sh.find ≠ none := by intro e; rw [e] at hf; simp at hf
      refine move_inv n s i _ hinv ⟨hgi, hinv.compiled hfs⟩ ?_
      intro e; exact absurd e hfs
  | compiling v left =>
    rw [hpc] at hgi
    obtain ⟨g1, g2, g3, g4, g5, g6⟩ := hgi
    cases left with
    | zero =>
      dsimp only [step]
      refine move_inv n s i _ hinv ⟨g1, g2, g3, g4, g5, g6⟩ ?_
      intro _; exact Or.inr (Or.inl trivial)
    | succ l =>
      dsimp only [step]
      refine mk_inv n s i { s.sh with fill := s.sh.fill + 1 } _ hinv ?_ ?_ ⟨g1, g2, g3, g4, g5, by rw [← g6]; exact Nat.add_right_comm _ _ _ |>.trans (Nat.add_assoc _ _ _)⟩ ?_ ?_
      · intro h; have := h.1; rw [g3] at this; cases this
      · intro j hj hlj; rw [g1] at hlj; injection hlj with h; exact absurd h.symm hj
      · intro _; exact Or.inr (Or.inl trivial)
      · intro h; exact absurd g3 h
  | publish v =>
    rw [hpc] at hgi
    obtain ⟨g1, g2, g3, g4, g5, g6⟩ := hgi
    dsimp only [step]
    have hC : phaseC n { s.sh with find := some v } := ⟨by rw [g2], g5, g6, g4⟩
    refine mk_inv n s i { s.sh with find := some v } _ hinv ?_ ?_ ⟨g1, hC⟩ ?_ (fun _ => hC)
    · intro h; have := h.1; rw [g3] at this; cases this
    · intro j hj hlj; rw [g1] at hlj; injection hlj with h; exact absurd h.symm hj
    · intro h; simp at h
  | unlock =>
    rw [hpc] at hgi
    obtain ⟨g1, g2⟩ := hgi
    simp only [step, if_true]
    have hC : phaseC n { s.sh with lock := none } := g2
    refine mk_inv n s i { s.sh with lock := none } _ hinv (fun h => h) ?_ hC ?_ (fun _ => hC)
    · intro j hj hlj; rw [g1] at hlj; injection hlj with h; exact absurd h.symm hj
    · intro h; have := g2.1; simp only at h; rw [this] at h; cases h
  | reFind =>
    rw [hpc] at hgi
    dsimp only [step]
    refine move_inv n s i _ hinv ⟨hgi.1, hgi⟩ ?_
    intro h; rw [hgi.1] at h; cases h
  | reTables f =>
    rw [hpc] at hgi
    obtain ⟨g1, g2⟩ := hgi
    subst g1
    dsimp only [step]
    refine move_inv n s i _ hinv ⟨rfl, g2.2.1, g2.2.2.1⟩ ?_
    intro h; rw [g2.1] at h; cases h
  | done v tv fl =>
    dsimp only [step]; exact hinv
  | stuck =>
    dsimp only [step]; exact hinv

theorem exec_inv (n : Nat) (sched : List Nat) : ∀ (s : St), Inv n s → Inv n (St.exec true n s sched) := by
  induction sched with
  | nil => intro s h; exact h
  | cons i rest ih => intro s h; exact ih _ (run_inv n s i h)

/-- **C19(a) `every_thread_gets_serial_result`**: for any number of threads, any schedule and any table size, a thread that
    has finished ran the finder of the one and only compile on that compile's complete tables; nobody re-enters the stub;
    the router was compiled at most once -/
theorem every_thread_gets_serial_result (n : Nat) (sched : List Nat) (i : Nat) :
    let s := St.exec true n {} sched
    (∀ v tv fl, s.pcs i = .done v tv fl → v = 1 ∧ tv = 1 ∧ fl = n) ∧ s.pcs i ≠ .stuck ∧ s.sh.ncomp ≤ 1 := by
  have hinv := exec_inv n sched {} (init_inv n)
  refine ⟨fun v tv fl h => ?_, fun h => ?_, ?_⟩
  · have := hinv.good i; rw [h] at this; exact this
  · have := hinv.good i; rw [h] at this; exact this
  · by_cases hf : (St.exec true n {} sched).sh.find = none
    · rcases hinv.lazy hf with h | ⟨j, hj⟩
      · omega
      · have hg := hinv.good j
        cases hp : (St.exec true n {} sched).pcs j <;> rw [hp] at hj hg <;> simp [isComp] at hj
        · have := hg.2.2.2.1; omega
        · have := hg.2.2.2.1; omega
    · have := (hinv.compiled hf).2.2.2; omega

#print axioms every_thread_gets_serial_result

/-- without the lock the same statement fails: two threads, tables of two entries; thread 1 starts a second compile
    while thread 0 is filling the tables, and thread 0 ends up running finder 1 on the tables of compile 2 -/
theorem no_lock_witness :
    (St.exec false 2 {} [0, 0, 0, 0, 0, 1, 1, 1, 1, 1, 0, 0, 0, 0, 0, 0, 0]).pcs 0 = .done 1 2 2 ∧
    (St.exec false 2 {} [0, 0, 0, 0, 0, 1, 1, 1, 1, 1, 0, 0, 0, 0, 0, 0, 0]).sh.ncomp = 2 := by decide

/-- with the lock the same schedule is harmless (thread 1 blocks at the lock) -/
example : (St.exec true 2 {} [0, 0, 0, 0, 0, 1, 1, 1, 1, 1, 0, 0, 0, 0, 0, 0, 0]).pcs 0 = .done 1 1 2 := by decide
end Sc
