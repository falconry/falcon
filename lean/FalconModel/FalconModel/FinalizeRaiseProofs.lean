import FalconModel.FinalizeRaise
import FalconModel.FinalizeProofs
import FalconModel.ErrSerializeProofs
import FalconModel.FinalizeErrProofs
import FalconModel.FinalizeProofs2
/-! C05: the C05 guarantees for EVERY error response (`FinalizeRaise.lean`), by composing the `Fz` theorems
    (`content_length_exact`, `bodiless_no_payload`, `wsgi_asgi_agree`) with the `Es` theorems about what
    `_compose_error_response` / `_compose_status_response` leave on the response. -/
namespace Fx
open Fz

/-- the status that is finalized is the raised one -/
theorem compose_status {o : Es.Opts} {a : Option Es.Str} {p : Pre} {x : Raise} {r : Es.Resp}
    (h : compose o a p x = .done r) : r.status = x.code := by
  cases x with
  | error e => exact (Es.composeError_spec h).choose_spec.2.1
  | status s => exact (Es.httpstatus_text_headers_kept _ _ _ h).1

/-- which body attribute an `HTTPError` leaves: exactly the serializer's choice -/
theorem compose_error_body {o : Es.Opts} {a : Option Es.Str} {p : Pre} {e : Es.HttpError} {r : Es.Resp}
    (h : compose o a p (.error e) = .done r) :
    r.body = (match Es.serializeChoice o a with
      | .json => .dataJson | .xml _ => .dataXml | .media _ => .mediaDict | _ => .untouched) := by
  unfold compose Es.composeError at h
  simp only at h
  split at h
  · cases h
  · split at h
    · cases h
    · rename_i r1 hr1
      cases h
      cases hc : Es.serializeChoice o a <;> rw [hc] at hr1 <;> simp only [Es.applyChoice, Option.some.injEq] at hr1
        <;> first | (subst hr1; rfl) | cases hr1

theorem compose_status_body {o : Es.Opts} {a : Option Es.Str} {p : Pre} {s : Es.HttpStatus} {r : Es.Resp}
    (h : compose o a p (.status s) = .done r) : r.body = .text s.text :=
  (Es.httpstatus_text_headers_kept _ _ _ h).2.1

/-- a composed body is a `text` / `data` / `media` of the finalized response (so it wins over any stream) -/
theorem toFz_has_source (enc : Enc) (p : Pre) (r : Es.Resp) (hb : hasBody r.body = true) :
    (toFz enc p r).text.isSome ∨ (toFz enc p r).data.isSome ∨ (toFz enc p r).media.isSome := by
  unfold toFz
  cases hbd : r.body with
  | untouched => rw [hbd] at hb; cases hb
  | dataJson => right; left; rfl
  | dataXml => right; left; rfl
  | mediaDict => right; right; rfl
  | text t =>
    cases t with
    | none => rw [hbd] at hb; cases hb
    | some t => left; rfl

/-- the ASGI tail after a raise never takes the SSE branch -/
theorem asgiR_eq (st : List Bytes → Fz.Resp → Cfg → Out) (o : Es.Opts) (a : Option Es.Str) (enc : Enc) (p : Pre)
    (x : Raise) (c : Cfg) :
    asgiR st o a enc p x c = (match compose o a p x with
      | .done r => some (asgi (toFz enc (reset p) r) c) | _ => none) := by
  unfold asgiR
  cases compose o a p x <;> rfl

/-- when both stacks answer, the raise was composed and what they send is the ordinary finalization of that response -/
theorem raise_done {st : List Bytes → Fz.Resp → Cfg → Out} {o : Es.Opts} {a : Option Es.Str} {enc : Enc} {p : Pre}
    {x : Raise} {c : Cfg} {w z : Out} (hw : wsgiR o a enc p x c = some w) (hz : asgiR st o a enc p x c = some z) :
    ∃ r, compose o a p x = .done r ∧ w = wsgi (toFz enc (reset p) r) c ∧ z = asgi (toFz enc (reset p) r) c := by
  rw [asgiR_eq] at hz
  unfold wsgiR at hw
  cases hc : compose o a p x with
  | done r =>
    rw [hc] at hw hz
    exact ⟨r, rfl, (Option.some.inj hw).symm, (Option.some.inj hz).symm⟩
  | headerNotSupported => rw [hc] at hw; cases hw
  | unsupported => rw [hc] at hw; cases hw

/-- **(3) both stacks emit the same response for the same raise**: an exception leaves both or neither; status, header
    list (order included), payload bytes and propagation of a failing (stale) stream coincide -/
theorem raise_wsgi_asgi_agree (st : List Bytes → Fz.Resp → Cfg → Out) (o : Es.Opts) (a : Option Es.Str) (enc : Enc)
    (p : Pre) (x : Raise) (c : Cfg) :
    match wsgiR o a enc p x c, asgiR st o a enc p x c with
    | some w, some z => w.status = z.status ∧ w.headers = z.headers ∧ w.payload = z.payload ∧ w.iterErr = z.iterErr
    | none, none => True
    | _, _ => False := by
  rw [asgiR_eq]
  unfold wsgiR
  cases compose o a p x with
  | done r => exact wsgi_asgi_agree _ c
  | headerNotSupported => trivial
  | unsupported => trivial

/-- **(2) HEAD and bodiless raised statuses (100 / 101 / 204 / 304, as `HTTPError` or `HTTPStatus`) carry no payload**,
    on both stacks - whatever body the serializer rendered, whatever stream was left on the response -/
theorem raise_bodiless_no_payload (st : List Bytes → Fz.Resp → Cfg → Out) (o : Es.Opts) (a : Option Es.Str) (enc : Enc)
    (p : Pre) (x : Raise) (c : Cfg) (h : c.head = true ∨ bodiless x.code = true) (w z : Out)
    (hw : wsgiR o a enc p x c = some w) (hz : asgiR st o a enc p x c = some z) :
    w.payload = [] ∧ z.payload = [] ∧ w.status = x.code := by
  obtain ⟨r, hc, rfl, rfl⟩ := raise_done hw hz
  have hs := compose_status hc
  have hb : c.head = true ∨ bodiless (toFz enc (reset p) r).status = true :=
    h.imp id fun h => (congrArg bodiless hs).trans h
  have h1 := bodiless_no_payload _ c hb
  exact ⟨h1, (wsgi_asgi_agree _ c).2.2.1 ▸ h1, (Fe.wsgi_status _ c).trans hs⟩

/-- does the raise define a body of its own?  an `HTTPError` iff the serializer renders one (`Es.Choice.hasBody`: the client
    accepts JSON, XML while enabled, or a type with a media handler); an `HTTPStatus` iff `text` is not `None` -/
def definesBody (o : Es.Opts) (a : Option Es.Str) : Raise → Bool
  | .error _ => (Es.serializeChoice o a).hasBody
  | .status s => s.text.isSome

theorem compose_hasBody {o : Es.Opts} {a : Option Es.Str} {p : Pre} {x : Raise} {r : Es.Resp}
    (h : compose o a p x = .done r) : hasBody r.body = definesBody o a x := by
  cases x with
  | error e =>
    rw [compose_error_body h]
    show _ = (Es.serializeChoice o a).hasBody
    cases Es.serializeChoice o a <;> rfl
  | status s =>
    rw [compose_status_body h]
    show hasBody (.text s.text) = s.text.isSome
    cases s.text <;> rfl

/-- **(1) Content-Length is exact on every error response** (both stacks): non-HEAD, body-bearing raised status, and the
    raise defines a body or no stream was left on the response - whatever `Content-Length` the error's own `headers=` or the
    responder had put on the response, it is overwritten with the number of payload bytes -/
theorem raise_content_length_exact (st : List Bytes → Fz.Resp → Cfg → Out) (o : Es.Opts) (a : Option Es.Str) (enc : Enc)
    (p : Pre) (x : Raise) (c : Cfg) (hh : c.head = false) (hb : bodiless x.code = false)
    (hs : p.stream = none ∨ definesBody o a x = true) (w z : Out)
    (hw : wsgiR o a enc p x c = some w) (hz : asgiR st o a enc p x c = some z) :
    getKey w.headers "content-length" = some (toString w.payload.length) ∧
    getKey z.headers "content-length" = some (toString z.payload.length) := by
  obtain ⟨r, hc, rfl, rfl⟩ := raise_done hw hz
  have hsrc : (toFz enc (reset p) r).stream = none ∨ (toFz enc (reset p) r).text.isSome ∨
      (toFz enc (reset p) r).data.isSome ∨ (toFz enc (reset p) r).media.isSome :=
    hs.imp id fun hs => toFz_has_source enc _ r ((compose_hasBody hc).trans hs)
  have h1 := content_length_exact (toFz enc (reset p) r) c hh ((congrArg bodiless (compose_status hc)).trans hb) hsrc
  obtain ⟨_, h2, h3, _⟩ := wsgi_asgi_agree (toFz enc (reset p) r) c
  exact ⟨h1, h2 ▸ h3 ▸ h1⟩

/-- the bytes of the composed body -/
def composedBytes (enc : Enc) : Es.BodySrc → Bytes
  | .dataJson => enc.json
  | .dataXml => enc.xml
  | .mediaDict => enc.media
  | .text (some t) => enc.utf8 t
  | _ => []

theorem rendered_toFz (enc : Enc) (p : Pre) (r : Es.Resp) (hb : hasBody r.body = true) :
    rendered (toFz enc p r) = some (composedBytes enc r.body) := by
  unfold rendered toFz composedBytes
  cases hbd : r.body with
  | untouched => rw [hbd] at hb; cases hb
  | dataJson => rfl
  | dataXml => rfl
  | mediaDict => rfl
  | text t =>
    cases t with
    | none => rw [hbd] at hb; cases hb
    | some t => rfl

/-- **(4a) a stale stream never contributes payload bytes when the raise defines a body**: the payload of a non-HEAD,
    body-bearing error response is exactly the rendered error body, on both stacks -/
theorem raise_payload_is_error_body (st : List Bytes → Fz.Resp → Cfg → Out) (o : Es.Opts) (a : Option Es.Str) (enc : Enc)
    (p : Pre) (x : Raise) (c : Cfg) (hh : c.head = false) (hb : bodiless x.code = false)
    (hd : definesBody o a x = true) (r : Es.Resp) (hc : compose o a p x = .done r) :
    ∃ w z, wsgiR o a enc p x c = some w ∧ asgiR st o a enc p x c = some z ∧
      w.payload = composedBytes enc r.body ∧ z.payload = composedBytes enc r.body := by
  rw [asgiR_eq]
  unfold wsgiR
  rw [hc]
  refine ⟨_, _, rfl, rfl, ?_⟩
  have hst := compose_status hc
  have h1 := body_precedence (toFz enc (reset p) r) c hh (by show bodiless r.status = false; rw [hst]; exact hb)
  have h2 := wsgi_asgi_agree (toFz enc (reset p) r) c
  have h3 : expectedPayload (toFz enc (reset p) r) = composedBytes enc r.body := by
    unfold expectedPayload
    rw [rendered_toFz enc _ r (by rw [compose_hasBody hc]; exact hd)]
  exact ⟨h1.trans h3, by rw [← h2.2.2.1]; exact h1.trans h3⟩

/-- the response with everything stale removed: text / data / media / the SSE emitter always, the stream as well when the
    raise defines a body -/
def scrub (o : Es.Opts) (a : Option Es.Str) (x : Raise) (p : Pre) : Pre :=
  if definesBody o a x then { reset p with stream := none, streamFail := none } else reset p


/-- rendering does not look at the stream -/
theorem renderBody_stream (r : Fz.Resp) (c : Cfg) (s : Option (StreamKind × List Bytes)) (f : Option Nat) :
    renderBody { r with stream := s, streamFail := f } c =
      ((renderBody r c).1, { (renderBody r c).2 with stream := s, streamFail := f }) := by
  obtain ⟨st, tx, dt, md, sm, sf, hd, ck⟩ := r
  unfold renderBody
  cases tx with
  | some t => rfl
  | none =>
    cases dt with
    | some d => rfl
    | none =>
      cases md with
      | none => rfl
      | some m =>
        dsimp only
        split
        · rfl
        · cases c.respDefaultType <;> rfl

/-- a response with a rendered source finalizes the same with and without its stream -/
theorem wsgi_stream_irrelevant (r : Fz.Resp) (c : Cfg) (d : Bytes) (h : rendered r = some d) :
    wsgi r c = wsgi { r with stream := none, streamFail := none } c := by
  rw [Fe.wsgi_eq_tail, Fe.wsgi_eq_tail, renderBody_stream r c none none, (renderBody_fst r c).trans h]
  exact (Fe.tailW_stream [d] false (some d.length) _ c none none).symm

theorem asgi_stream_irrelevant (r : Fz.Resp) (c : Cfg) (d : Bytes) (h : rendered r = some d) :
    asgi r c = asgi { r with stream := none, streamFail := none } c := by
  rw [Fe.asgi_eq_tail, Fe.asgi_eq_tail, renderBody_stream r c none none, (renderBody_fst r c).trans h]
  exact (Fe.tailA_stream d _ c none none).symm

theorem compose_scrub (o : Es.Opts) (a : Option Es.Str) (x y : Raise) (p : Pre) :
    compose o a (scrub o a y p) x = compose o a p x := by
  unfold scrub
  split <;> cases x <;> rfl

/-- **(4) nothing stale is sent**: the response to a raise is the one the same raise gives on a response from which text,
    data, media and the SSE emitter set before the raise have been removed - and, when the raise defines a body, the
    stream too.  (When the raise defines no body - `HTTPStatus` without text, an `HTTPError` for which the serializer
    renders nothing - `_handle_exception` leaves `resp.stream` in place and it IS sent: `stale_stream_sent_witness`.) -/
theorem stale_never_sent (st : List Bytes → Fz.Resp → Cfg → Out) (o : Es.Opts) (a : Option Es.Str) (enc : Enc)
    (p : Pre) (x : Raise) (c : Cfg) :
    wsgiR o a enc p x c = wsgiR o a enc (scrub o a x p) x c ∧
    asgiR st o a enc p x c = asgiR st o a enc (scrub o a x p) x c := by
  rw [asgiR_eq, asgiR_eq]
  unfold wsgiR
  rw [compose_scrub]
  cases hc : compose o a p x with
  | done r =>
    simp only
    unfold scrub
    split
    · rename_i hd
      have hsrc := rendered_toFz enc (reset p) r (by rw [compose_hasBody hc]; exact hd)
      exact ⟨congrArg some (wsgi_stream_irrelevant _ c _ hsrc), congrArg some (asgi_stream_irrelevant _ c _ hsrc)⟩
    · exact ⟨rfl, rfl⟩
  | headerNotSupported => exact ⟨rfl, rfl⟩
  | unsupported => exact ⟨rfl, rfl⟩


def exOpts : Es.Opts := { xml := false, handlers := [(Es.JSON, true)] }
def exEnc : Enc := { json := [123, 125], xml := [60, 62], media := [91, 93], utf8 := fun s => s.map fun ch => ch.toNat.toUInt8 }
def exCfg : Cfg := { head := false, appDefaultType := some "application/json", respDefaultType := some "application/json",
                     fileWrapper := false }
/-- a responder that set text, a stream and an emitter and then raised -/
def exPre : Pre := { status := 200, headers := [("x-a".toList, "1".toList)], text := some [1, 2, 3], data := none, media := none,
                     stream := some (.iter, [[7, 7], [8]]), streamFail := none, sse := some [[9]], cookies := ["c=1"] }
/-- `raise HTTPError(416, headers={'Content-Range': 'bytes */9', 'Content-Length': '999', 'Content-Type': 'text/plain'})` -/
def exErrHeaders : List (Es.Str × Es.Str) :=
  [("Content-Range".toList, "bytes */9".toList), ("Content-Length".toList, "999".toList),
   ("Content-Type".toList, "text/plain".toList)]
def exErr : Raise :=
  Raise.error { status := 416, title := [], description := none, headers := some exErrHeaders, link := none, code := none }
def noSse : List Bytes → Fz.Resp → Cfg → Out := fun _ r _ => { status := r.status, headers := [], body := [[0]], iterErr := true }

/-- the error's own `Content-Length: 999` is overwritten by the length of the JSON document; the stale text, stream
    and emitter are gone; `Content-Type` is the negotiated one, not the error's -/
example : wsgiR exOpts none exEnc exPre exErr exCfg =
    some { status := 416, body := [[123, 125]], iterErr := false,
           headers := [("x-a", "1"), ("content-range", "bytes */9"), ("content-length", "2"),
                       ("content-type", "application/json"), ("vary", "Accept"), ("set-cookie", "c=1")] } := by decide +kernel
example : (asgiR noSse exOpts none exEnc exPre exErr exCfg).map (·.payload) = some [123, 125] := by decide +kernel
example : definesBody exOpts none exErr = true ∧ bodiless exErr.code = false ∧ exCfg.head = false := by decide +kernel

def ex204 : Raise := Raise.status { status := 204, headers := some [("Content-Length".toList, "4".toList)], text := some "gone".toList }
def ex200 : Raise := Raise.status { status := 200, headers := none, text := none }

/-- `raise HTTPStatus(204, text='gone', headers={'Content-Length': '4'})`: no payload, the caller's Content-Length is
    emitted as given (what the code does), no Content-Type -/
example : wsgiR exOpts none exEnc exPre ex204 exCfg =
    some { status := 204, body := [], iterErr := false,
           headers := [("x-a", "1"), ("content-length", "4"), ("set-cookie", "c=1")] } := by decide +kernel

/-- **what the code does when the raise defines no body**: `raise HTTPStatus(200)` (text `None`) after `resp.stream = …`:
    `_handle_exception` never touches `resp.stream`, so the stale stream IS the payload (both stacks), without Content-Length -/
theorem stale_stream_sent_witness :
    (wsgiR exOpts none exEnc exPre ex200 exCfg).map (·.payload) = some [7, 7, 8] ∧
    (asgiR noSse exOpts none exEnc exPre ex200 exCfg).map (·.payload) = some [7, 7, 8] ∧
    ((wsgiR exOpts none exEnc exPre ex200 exCfg).map fun w => getKey w.headers "content-length") = some none := by decide +kernel

end Fx

#print axioms Fx.raise_wsgi_asgi_agree
#print axioms Fx.raise_bodiless_no_payload
#print axioms Fx.raise_content_length_exact
#print axioms Fx.raise_payload_is_error_body
#print axioms Fx.stale_never_sent
#print axioms Fx.stale_stream_sent_witness
#print axioms Fx.compose_status
#print axioms Fx.compose_hasBody
