import FalconModel.MediaType
import FalconModel.QuotedString
/-! C13 / C11: `parse_header` INVERTS THE REFERENCE QUOTED-STRING WRITER, exactly outside class F46.

    `Mt.parseHeader` is the transcription of `falcon.util.mediatypes.parse_header` (fast path + `_parse_header_old_stdlib` with the
    quote-parity splitter `_parse_param_old_stdlib`), tied to the real function by the `ph` correspondence of C13 and C11.
    `Qe.quote` / `Qe.render` (QuotedString.lean) is what a conforming client writes: `main; n1="quoted v1"; n2="quoted v2"...`
    with backslash and DQUOTE written as quoted-pairs (RFC 9110 5.6.4).  Proved here about the model, for every `List Char`
    (white space is the ASCII set `Mt.isWs`; a main value that ends in other Unicode white space is stripped by Python's
    `str.strip()` and not by `Mt.strip`, so for such main values the statements say nothing of the real function).

    The idea: the splitter's test `(count('"') - count('\\"')) % 2` on a prefix is the parity of the number of DQUOTEs not preceded
    by a backslash, so the whole inner `while` is a two-bit left-to-right scan (`cut`; state: previous character is a backslash,
    inside quotes).  On a rendered ` name="escaped value"` the scan does not stop inside and ends OUTSIDE quotes iff the value
    does not end in a backslash (the closing quote of `...\\"` is taken for an escaped one: F46).

    NOT PROVED (full statement): the dictionary-level necessity with the offending value at an ARBITRARY position,
      `theorem parseHeader_render_iff (hwf : WF main ps = true) : parseHeader (render main ps) = (main, ps) ↔ noF46 ps = true`.
    Its `←` is `parseHeader_render`; its `→` is proved at the splitter level for every position (`split_render_iff`) and at the
    dictionary level when the offending value is next to last after any well-formed prefix (`parseHeader_render_iff_partial`).
    (On the real function the full equivalence is checked by the harness, C13.)  Values written as bare tokens are not treated. -/
namespace Mt
open Qe

theorem replace2_match (a b c : Char) (l : Str) : replace2 a b c (a :: b :: l) = c :: replace2 a b c l := by
  rw [replace2, if_pos (by simp)]

theorem replace2_cons (a b c x : Char) (l : Str) (h : x ≠ a ∨ l.head? ≠ some b) :
    replace2 a b c (x :: l) = x :: replace2 a b c l := by
  cases l with
  | nil => rfl
  | cons y r =>
    have : ¬ (x = a ∧ y = b) := by
      rintro ⟨rfl, rfl⟩
      simp at h
    simp [replace2, this]

theorem replace2_plain (a b c : Char) (g y : Str) (hg : ∀ x ∈ g, x ≠ a) :
    replace2 a b c (g ++ y) = g ++ replace2 a b c y := by
  induction g with
  | nil => rfl
  | cons x t ih =>
    rw [List.cons_append, replace2_cons _ _ _ _ _ (.inl (hg x List.mem_cons_self)),
      ih (fun x hx => hg x (List.mem_cons_of_mem _ hx)), List.cons_append]

/-- the string after the first `replace`: only the quotes are still escaped -/
def esc1 : Str → Str
  | [] => []
  | c :: r => if c = '"' then '\\' :: '"' :: esc1 r else c :: esc1 r

theorem pass1_app (x y : Str) : replace2 '\\' '\\' '\\' (esc x ++ y) = esc1 x ++ replace2 '\\' '\\' '\\' y := by
  induction x with
  | nil => rfl
  | cons c r ih =>
    simp only [esc, esc1]
    split
    · next h =>
      subst h
      rw [if_neg (by decide), List.cons_append, List.cons_append, replace2_match, ih]; rfl
    · next h =>
      split
      · rw [List.cons_append, List.cons_append, replace2_cons _ _ _ _ _ (.inr (by simp)),
          replace2_cons _ _ _ _ _ (.inl (by decide)), ih]; rfl
      · rw [List.cons_append, replace2_cons _ _ _ _ _ (.inl h), ih]; rfl

theorem esc1_head (x y : Str) (hy : y.head? ≠ some '"') : (esc1 x ++ y).head? ≠ some '"' := by
  cases x with
  | nil => exact hy
  | cons c r =>
    simp only [esc1]
    split
    · simp
    · next h => simpa using h

theorem pass2_app (x y : Str) (hy : y.head? ≠ some '"') :
    replace2 '\\' '"' '"' (esc1 x ++ y) = x ++ replace2 '\\' '"' '"' y := by
  induction x with
  | nil => rfl
  | cons c r ih =>
    simp only [esc1]
    split
    · next h => rw [List.cons_append, List.cons_append, replace2_match, ih, h]; rfl
    · rw [List.cons_append, replace2_cons _ _ _ _ _ (.inr (esc1_head r y hy)), ih]; rfl

theorem pass1 (v : Str) : replace2 '\\' '\\' '\\' (esc v) = esc1 v := by
  have h := pass1_app v []
  rwa [List.append_nil, show replace2 '\\' '\\' '\\' [] = [] from rfl, List.append_nil] at h

theorem pass2 (v : Str) : replace2 '\\' '"' '"' (esc1 v) = v := by
  have h := pass2_app v [] (by simp)
  rwa [List.append_nil, show replace2 '\\' '"' '"' [] = [] from rfl, List.append_nil] at h

theorem unquote_wrap (M : Str) : unquote ('"' :: (M ++ ['"'])) = replace2 '\\' '"' '"' (replace2 '\\' '\\' '\\' M) := by
  have h : (List.drop 1 ('"' :: (M ++ ['"']))).take (('"' :: (M ++ ['"'])).length - 2) = M := by simp
  have hc : ('"' :: (M ++ ['"'])).length ≥ 2 ∧ ('"' :: (M ++ ['"'])).head? = some '"' ∧
      ('"' :: (M ++ ['"'])).getLast? = some '"' := ⟨by simp, rfl, by simp [List.getLast?_cons, List.getLast?_append]⟩
  rw [unquote, if_pos hc, h]

theorem unquote_quote (v : Str) : unquote (quote v) = v := by
  rw [quote, unquote_wrap, pass1, pass2]

/-- the number of `"` not preceded by a backslash (`b`: the character before the string is a backslash) -/
def uq (b : Bool) : Str → Nat
  | [] => 0
  | c :: r => (if c == '"' && !b then 1 else 0) + uq (c == '\\') r

/-- the splitter's test on the prefix `a` -/
def par (a : Str) : Bool := (Int.ofNat (countQuote a) - Int.ofNat (countEscQuote a)) % 2 != 0

theorem ceq_bs_q (r : Str) : countEscQuote ('\\' :: '"' :: r) = countEscQuote r + 1 := by
  rw [countEscQuote]
theorem ceq_ne (c : Char) (r : Str) (h : c ≠ '\\') : countEscQuote (c :: r) = countEscQuote r := by
  rw [countEscQuote.eq_2]
  intro rest hc; exact absurd hc h
theorem ceq_bs_ne (c : Char) (r : Str) (h : c ≠ '"') : countEscQuote ('\\' :: c :: r) = countEscQuote (c :: r) := by
  rw [countEscQuote.eq_2]
  intro rest _ hc; injection hc with h1 _; exact absurd h1 h
theorem ceq_bs_nil : countEscQuote ['\\'] = 0 := by decide

theorem countQuote_cons (c : Char) (r : Str) : countQuote (c :: r) = (if c = '"' then 1 else 0) + countQuote r := by
  unfold countQuote
  by_cases h : c = '"'
  · simp [h, Nat.add_comm]
  · simp [h]

theorem count_split (a : Str) :
    countQuote a = countEscQuote a + uq false a ∧ countQuote a = countEscQuote ('\\' :: a) + uq true a := by
  induction a with
  | nil => exact ⟨rfl, rfl⟩
  | cons c r ih =>
    rw [countQuote_cons, uq, uq]
    by_cases h2 : c = '"'
    · subst h2
      rw [ceq_ne _ _ (by decide), ceq_bs_q, ih.1]
      simp only [show (('"' : Char) == '\\') = false by decide, beq_self_eq_true, Bool.not_false, Bool.not_true,
        Bool.and_true, Bool.and_false, if_true, Bool.false_eq_true, if_false]
      exact ⟨Nat.add_left_comm .., by rw [Nat.zero_add, Nat.add_assoc, Nat.add_left_comm]⟩
    · have e2 : (c == '"') = false := beq_eq_false_iff_ne.mpr h2
      simp only [if_neg h2, e2, Bool.false_and, Bool.false_eq_true, if_false, Nat.zero_add]
      by_cases h1 : c = '\\'
      · subst h1
        rw [ceq_bs_ne _ _ (by decide), beq_self_eq_true, ih.2]
        exact ⟨rfl, rfl⟩
      · rw [ceq_bs_ne _ _ h2, ceq_ne _ _ h1, beq_eq_false_iff_ne.mpr h1, ih.1]
        exact ⟨rfl, rfl⟩

theorem par_eq_uq (a : Str) : par a = (uq false a % 2 == 1) := by
  have e : Int.ofNat (countQuote a) - Int.ofNat (countEscQuote a) = Int.ofNat (uq false a) := by
    rw [(count_split a).1, Nat.add_comm]
    exact Int.add_sub_cancel (Int.ofNat (uq false a)) (Int.ofNat (countEscQuote a))
  have m : Int.ofNat (uq false a) % 2 = Int.ofNat (uq false a % 2) := rfl
  rw [par, e, m]
  rcases Nat.mod_two_eq_zero_or_one (uq false a) with h | h <;> rw [h] <;> rfl

/-- the character before the position reached is a backslash (`b`: so it was before `a`) -/
def lastBs (b : Bool) : Str → Bool
  | [] => b
  | c :: r => lastBs (c == '\\') r

/-- the position reached lies inside quotes (`o`: so it did before `a`): every `"` not preceded by a backslash changes sides -/
def inQuote (b o : Bool) : Str → Bool
  | [] => o
  | c :: r => inQuote (c == '\\') (o ^^ (c == '"' && !b)) r

/-- the number of characters read up to the first `;` that is met outside quotes (`a.length` if there is none) -/
def cut (b o : Bool) : Str → Nat
  | [] => 0
  | c :: r => if c = ';' ∧ o = false then 0 else 1 + cut (c == '\\') (o ^^ (c == '"' && !b)) r

theorem inQuote_eq_uq (a : Str) : ∀ b o, inQuote b o a = (o ^^ (uq b a % 2 == 1)) := by
  induction a with
  | nil => intro b o; exact (Bool.xor_false o).symm
  | cons c r ih =>
    intro b o
    rw [inQuote, uq, ih]
    cases c == '"' && !b
    · rw [Bool.xor_false, if_neg Bool.false_ne_true, Nat.zero_add]
    · rw [if_pos rfl, Bool.xor_assoc]
      rcases Nat.mod_two_eq_zero_or_one (uq (c == '\\') r) with h | h <;> rw [Nat.add_mod, h] <;> rfl

theorem inQuote_of_uq {g : Str} {b : Bool} (h : uq b g = 0) (o : Bool) : inQuote b o g = o := by
  rw [inQuote_eq_uq, h]
  exact Bool.xor_false o

theorem par_eq_odd (a : Str) : par a = inQuote false false a := by
  rw [par_eq_uq, inQuote_eq_uq, Bool.false_xor]

theorem lastBs_append (a r : Str) : ∀ b, lastBs b (a ++ r) = lastBs (lastBs b a) r := by
  induction a with
  | nil => intro b; rfl
  | cons c t ih => intro b; exact ih _

theorem inQuote_append (a r : Str) : ∀ b o, inQuote b o (a ++ r) = inQuote (lastBs b a) (inQuote b o a) r := by
  induction a with
  | nil => intro b o; rfl
  | cons c t ih => intro b o; exact ih _ _

theorem cut_le (a : Str) : ∀ b o, cut b o a ≤ a.length := by
  induction a with
  | nil => intro b o; exact Nat.le_refl 0
  | cons c t ih =>
    intro b o
    rw [cut]
    split
    · exact Nat.zero_le _
    · rw [List.length_cons, Nat.add_comm]; exact Nat.succ_le_succ (ih _ _)

theorem cut_append (a r : Str) : ∀ b o, cut b o (a ++ r) =
    if cut b o a < a.length then cut b o a else a.length + cut (lastBs b a) (inQuote b o a) r := by
  induction a with
  | nil => intro b o; exact (Nat.zero_add _).symm
  | cons c t ih =>
    intro b o
    rw [List.cons_append, cut, cut, lastBs, inQuote, List.length_cons]
    split
    · rw [if_pos (Nat.succ_pos _)]
    · rw [ih]
      split
      · next h => rw [if_pos (by omega)]
      · next h => rw [if_neg (by omega)]; omega

theorem cut_append_lt (a r : Str) : ∀ b o, cut b o a < a.length → cut b o (a ++ r) = cut b o a := by
  intro b o h
  rw [cut_append, if_pos h]

theorem cut_append_full (a r : Str) (b o : Bool) (h : cut b o a = a.length) :
    cut b o (a ++ r) = a.length + cut (lastBs b a) (inQuote b o a) r := by
  rw [cut_append, if_neg (h ▸ Nat.lt_irrefl _)]

theorem cut_nosemi (g : Str) (hg : ∀ c ∈ g, c ≠ ';') : ∀ b o, cut b o g = g.length := by
  induction g with
  | nil => intro b o; rfl
  | cons c t ih =>
    intro b o
    rw [cut, if_neg (fun h => hg c List.mem_cons_self h.1), ih (fun x hx => hg x (List.mem_cons_of_mem _ hx)),
      List.length_cons, Nat.add_comm]

theorem cut_noquote (g : Str) : ∀ b o, uq b g = 0 →
    cut b o g = if o = true then g.length else (g.takeWhile (· != ';')).length := by
  induction g with
  | nil => intro b o _; cases o <;> rfl
  | cons c t ih =>
    intro b o h
    rw [uq] at h
    have hq : (c == '"' && !b) = false := by
      cases hc : (c == '"' && !b)
      · rfl
      · rw [hc, if_pos rfl] at h; cases (Nat.add_eq_zero_iff.mp h).1
    rw [cut, hq, Bool.xor_false, ih _ _ (Nat.add_eq_zero_iff.mp h).2, List.takeWhile_cons, List.length_cons]
    cases o
    · by_cases hc : c = ';'
      · rw [if_pos ⟨hc, rfl⟩, hc]; rfl
      · rw [if_neg (fun h => hc h.1), if_pos (bne_iff_ne.mpr hc), List.length_cons, Nat.add_comm]; rfl
    · rw [if_neg (fun h => Bool.noConfusion h.2), Nat.add_comm]; rfl

/-- `a` is read from the state `(b, o)` (the previous character is a backslash, inside quotes) without a stop and leaves the
    state `(b', o')` -/
def Scan (b o : Bool) (a : Str) (b' o' : Bool) : Prop := cut b o a = a.length ∧ lastBs b a = b' ∧ inQuote b o a = o'

theorem Scan.cut_append {b o b' o' : Bool} {a : Str} (h : Scan b o a b' o') (r : Str) :
    cut b o (a ++ r) = a.length + cut b' o' r := by
  rw [cut_append_full _ _ _ _ h.1, h.2.1, h.2.2]

theorem Scan.append {b o b' o' b'' o'' : Bool} {a r : Str} (h1 : Scan b o a b' o') (h2 : Scan b' o' r b'' o'') :
    Scan b o (a ++ r) b'' o'' := by
  refine ⟨?_, ?_, ?_⟩
  · rw [h1.cut_append, h2.1, List.length_append]
  · rw [lastBs_append, h1.2.1, h2.2.1]
  · rw [inQuote_append, h1.2.1, h1.2.2, h2.2.2]

theorem Scan.of_inside {g : Str} {b : Bool} (hq : uq b g = 0) : Scan b true g (lastBs b g) true :=
  ⟨cut_noquote g b true hq, rfl, inQuote_of_uq hq true⟩

theorem uq_noquote (g : Str) (hg : ∀ c ∈ g, c ≠ '"') : ∀ b, uq b g = 0 := by
  induction g with
  | nil => intro b; rfl
  | cons c t ih =>
    intro b
    rw [uq, beq_eq_false_iff_ne.mpr (hg c List.mem_cons_self), ih (fun x hx => hg x (List.mem_cons_of_mem _ hx))]
    rfl

theorem uq_esc (v : Str) : ∀ b, uq b (esc v) = 0 := by
  induction v with
  | nil => intro b; rfl
  | cons c r ih =>
    intro b
    rw [esc]
    split
    · rw [uq, uq, ih]; rfl
    · split
      · rw [uq, uq, ih]; rfl
      · next h2 => rw [uq, beq_eq_false_iff_ne.mpr h2, ih]; rfl

theorem lastBs_esc (v : Str) : ∀ b, lastBs b (esc v) = lastBs b v := by
  induction v with
  | nil => intro b; rfl
  | cons c r ih =>
    intro b
    rw [esc]
    split
    · next h => rw [lastBs, lastBs, lastBs, ih, h]
    · split
      · next h => rw [lastBs, lastBs, lastBs, ih, h]
      · rw [lastBs, lastBs, ih]

def endsBs (v : Str) : Bool := v.getLast? == some '\\'

theorem lastBs_concat (a : Str) (c : Char) (b : Bool) : lastBs b (a ++ [c]) = (c == '\\') := by
  rw [lastBs_append]; rfl

theorem lastBs_false (v : Str) : lastBs false v = endsBs v := by
  rcases List.eq_nil_or_concat v with rfl | ⟨a, c, rfl⟩
  · rfl
  · rw [List.concat_eq_append, lastBs_concat, endsBs, List.getLast?_concat]
    rfl

theorem inQuote_noquote (g : Str) (hg : ∀ c ∈ g, c ≠ '"') (b o : Bool) : inQuote b o g = o :=
  inQuote_of_uq (uq_noquote g hg b) o

theorem inQuote_esc (v : Str) (b o : Bool) : inQuote b o (esc v) = o :=
  inQuote_of_uq (uq_esc v b) o

theorem Scan.nosemi {g : Str} {b o o' : Bool} (hs : ∀ c ∈ g, c ≠ ';') (ho : inQuote b o g = o') :
    Scan b o g (lastBs b g) o' :=
  ⟨cut_nosemi g hs b o, rfl, ho⟩

theorem findIdx_split (sep : Char) (l : Str) :
    (l.findIdx? (· == sep) = none ∧ ∀ c ∈ l, c ≠ sep) ∨
    (∃ g rest, l = g ++ sep :: rest ∧ (∀ c ∈ g, c ≠ sep) ∧ l.findIdx? (· == sep) = some g.length) := by
  induction l with
  | nil => left; simp
  | cons c t ih =>
    by_cases hc : c = sep
    · right; exact ⟨[], t, by simp [hc], by simp, by simp [List.findIdx?_cons, hc]⟩
    · rcases ih with ⟨h1, h2⟩ | ⟨g, rest, h1, h2, h3⟩
      · left; exact ⟨by simp [List.findIdx?_cons, hc, h1], List.forall_mem_cons.mpr ⟨hc, h2⟩⟩
      · right; exact ⟨c :: g, rest, by simp [h1], List.forall_mem_cons.mpr ⟨hc, h2⟩, by simp [List.findIdx?_cons, hc, h3]⟩

theorem split_first (sep : Char) (l : Str) :
    (∀ c ∈ l, c ≠ sep) ∨ ∃ g rest, l = g ++ sep :: rest ∧ ∀ c ∈ g, c ≠ sep :=
  (findIdx_split sep l).imp (·.2) fun ⟨g, rest, h1, h2, _⟩ => ⟨g, rest, h1, h2⟩

theorem quoteAwareEnd_succ (s : Str) (f e : Nat) :
    quoteAwareEnd s (f + 1) (some e) = if par (s.take e) = true then quoteAwareEnd s f (findSemiFrom s (e + 1)) else some e := by
  rw [quoteAwareEnd]
  cases e with
  | zero => rw [if_neg (fun h => Nat.lt_irrefl 0 h.1), List.take_zero, if_neg (by decide)]
  | succ e =>
    by_cases h : par (s.take (e + 1)) = true
    · rw [if_pos ⟨Nat.succ_pos e, h⟩, if_pos h]
    · rw [if_neg (fun h' => h h'.2), if_neg h]

/-- the splitter's inner loop is the scan `cut`: after the prefix `p`, with `d` still to be searched -/
theorem quoteAwareEnd_eq_cut_aux : ∀ (f : Nat) (p d : Str), d.length < f →
    (quoteAwareEnd (p ++ d) f (findSemiFrom (p ++ d) p.length)).getD (p ++ d).length =
      p.length + cut (lastBs false p) (inQuote false false p) d := by
  intro f
  induction f with
  | zero => intro p d h; cases h
  | succ f ih =>
    intro p d hf
    rw [findSemiFrom, List.drop_left]
    rcases findIdx_split ';' d with ⟨h1, h2⟩ | ⟨g, rest, rfl, h2, h3⟩
    · rw [h1, quoteAwareEnd, Option.getD_none, cut_nosemi _ h2, List.length_append]
    · have hpar : par ((p ++ (g ++ ';' :: rest)).take (p.length + g.length)) = inQuote (lastBs false p) (inQuote false false p) g := by
        rw [← List.append_assoc, List.take_left' List.length_append, par_eq_odd, inQuote_append]
      rw [h3, quoteAwareEnd_succ, hpar, cut_append_full _ _ _ _ (cut_nosemi g h2 _ _), cut]
      cases ho : inQuote (lastBs false p) (inQuote false false p) g
      · rw [if_neg (by decide), if_pos ⟨rfl, rfl⟩, Option.getD_some, Nat.add_zero]
      · -- still inside quotes at this `;`: the loop goes on behind it
        have hrec := ih (p ++ g ++ [';']) rest (by rw [List.length_append, List.length_cons] at hf; omega)
        rw [List.append_assoc, List.append_assoc, List.singleton_append, List.length_append, List.length_append,
          List.length_singleton, lastBs_concat, inQuote_append, inQuote_append, ho] at hrec
        rw [if_pos rfl, hrec, if_neg (fun h => Bool.noConfusion h.2)]
        simp only [Nat.add_assoc]
        rfl

/-- the code is given `len(s)+1` -/
theorem quoteAwareEnd_fuel (s : Str) (f : Nat) (hf : s.length < f) :
    (quoteAwareEnd s f (findSemiFrom s 0)).getD s.length = cut false false s := by
  simpa [lastBs, inQuote] using quoteAwareEnd_eq_cut_aux f [] s hf

theorem quoteAwareEnd_eq_cut (s : Str) :
    (quoteAwareEnd s (s.length + 1) (findSemiFrom s 0)).getD s.length = cut false false s :=
  quoteAwareEnd_fuel s _ (Nat.lt_succ_self _)

theorem parseParamOld_semi (f : Nat) (s1 : Str) :
    parseParamOld (f + 1) (';' :: s1) =
      strip (s1.take (cut false false s1)) :: parseParamOld f (s1.drop (cut false false s1)) := by
  rw [parseParamOld, ← quoteAwareEnd_eq_cut s1]
  cases quoteAwareEnd s1 (s1.length + 1) (findSemiFrom s1 0) <;> rfl

theorem parseParamOld_other (f : Nat) (s : Str) (h : s.head? ≠ some ';') : parseParamOld f s = [] := by
  cases f with
  | zero => rfl
  | succ f =>
    cases s with
    | nil => rfl
    | cons c r =>
      rw [parseParamOld]
      intro s1 hc
      injection hc with h1 _
      exact absurd (by rw [h1]; rfl) h

/-- the Python loop without fuel -/
def pp (s : Str) : List Str := parseParamOld s.length s

theorem parseParamOld_fuel : ∀ (f : Nat) (s : Str), s.length ≤ f → parseParamOld f s = pp s := by
  intro f
  induction f using Nat.strongRecOn with
  | _ f ih =>
    intro s hf
    unfold pp
    cases s with
    | nil => cases f <;> rfl
    | cons c r =>
      by_cases hc : c = ';'
      · subst hc
        cases f with
        | zero => cases hf
        | succ f' =>
          have hr : r.length ≤ f' := Nat.le_of_succ_le_succ hf
          have hd : (r.drop (cut false false r)).length ≤ r.length := by rw [List.length_drop]; exact Nat.sub_le ..
          rw [List.length_cons, parseParamOld_semi, parseParamOld_semi, ih f' (Nat.lt_succ_self _) _ (Nat.le_trans hd hr),
            ih r.length (Nat.lt_succ_of_le hr) _ hd]
      · have h : (c :: r).head? ≠ some ';' := fun e => hc (Option.some.inj e)
        rw [parseParamOld_other _ _ h, parseParamOld_other _ _ h]

theorem pp_semi (s1 : Str) :
    pp (';' :: s1) = strip (s1.take (cut false false s1)) :: pp (s1.drop (cut false false s1)) := by
  rw [pp, List.length_cons, parseParamOld_semi, parseParamOld_fuel s1.length _ (by simp)]

theorem cut_stop {o : Bool} {R : Str} (h : R = [] ∨ (∃ r, R = ';' :: r) ∧ o = false) (b : Bool) : cut b o R = 0 := by
  rcases h with rfl | ⟨⟨r, rfl⟩, rfl⟩
  · rfl
  · rw [cut, if_pos ⟨rfl, rfl⟩]

theorem pp_cons {t R : Str} {b o : Bool} (h : Scan false false t b o) (hR : R = [] ∨ (∃ r, R = ';' :: r) ∧ o = false) :
    pp (';' :: (t ++ R)) = strip t :: pp R := by
  rw [pp_semi, h.cut_append, cut_stop hR, Nat.add_zero, List.take_left' rfl, List.drop_left' rfl]

theorem pp_last (t : Str) (h : cut false false t = t.length) : pp (';' :: t) = [strip t] := by
  have := pp_cons (R := []) ⟨h, rfl, rfl⟩ (.inl rfl)
  rwa [List.append_nil] at this

theorem dropWhile_head (p : Char → Bool) (l : Str) (h : ∀ c, l.head? = some c → p c = false) : l.dropWhile p = l := by
  cases l with
  | nil => rfl
  | cons c r => simp [h c rfl]

theorem strip_wrap (w1 body w2 : Str) (h1 : ∀ c ∈ w1, isWs c = true) (h2 : ∀ c ∈ w2, isWs c = true)
    (hb1 : ∀ c, body.head? = some c → isWs c = false) (hb2 : ∀ c, body.getLast? = some c → isWs c = false) :
    strip (w1 ++ body ++ w2) = body := by
  unfold strip
  rw [List.append_assoc, List.dropWhile_append_of_pos h1]
  cases body with
  | nil =>
    have : ([] ++ w2).dropWhile isWs = [] := by
      simpa using List.dropWhile_append_of_pos (l₂ := []) h2
    rw [this]; rfl
  | cons b r =>
    have e1 : ((b :: r) ++ w2).dropWhile isWs = (b :: r) ++ w2 := by
      apply dropWhile_head; intro c hc; simp at hc; subst hc; exact hb1 _ rfl
    rw [e1, List.reverse_append, List.dropWhile_append_of_pos (fun c hc => h2 c (List.mem_reverse.mp hc))]
    rw [dropWhile_head _ _ (fun c hc => hb2 c (by rw [← List.head?_reverse]; exact hc))]
    simp

theorem strip_ends (s : Str) (h1 : ∀ c, s.head? = some c → isWs c = false) (h2 : ∀ c, s.getLast? = some c → isWs c = false) :
    strip s = s := by
  simpa using strip_wrap [] s [] (by simp) (by simp) h1 h2

theorem strip_cons_ws (c : Char) (s : Str) (h : isWs c = true) : strip (c :: s) = strip s := by
  unfold strip; simp [h]

theorem dropWhile_append_stop (p : Char → Bool) (c : Char) (l2 : Str) (hc : p c = false) :
    ∀ l1 : Str, ∃ l1', (l1 ++ c :: l2).dropWhile p = l1' ++ c :: l2 := by
  intro l1
  induction l1 with
  | nil => exact ⟨[], by simp [hc]⟩
  | cons d t ih =>
    simp only [List.cons_append, List.dropWhile_cons]
    split
    · exact ih
    · exact ⟨d :: t, rfl⟩

theorem strip_prefix (a X : Str) (c : Char) (hc : isWs c = false) (ha : ∀ d, a.head? = some d → isWs d = false) :
    ∃ X', strip (a ++ c :: X) = a ++ c :: X' := by
  unfold strip
  have h1 : (a ++ c :: X).dropWhile isWs = a ++ c :: X := by
    apply dropWhile_head
    intro d hd
    cases a with
    | nil => simp at hd; subst hd; exact hc
    | cons e r => simp at hd; subst hd; exact ha _ rfl
  rw [h1]
  have : (a ++ c :: X).reverse = X.reverse ++ c :: a.reverse := by simp
  rw [this]
  obtain ⟨l1', h⟩ := dropWhile_append_stop isWs c a.reverse hc X.reverse
  exact ⟨l1'.reverse, by rw [h]; simp⟩

theorem strip_subset (s : Str) : ∀ c ∈ strip s, c ∈ s := by
  intro c hc
  unfold strip at hc
  have h1 := (List.dropWhile_sublist isWs (l := (s.dropWhile isWs).reverse)).subset (List.mem_reverse.mp hc)
  exact (List.dropWhile_sublist isWs (l := s)).subset (List.mem_reverse.mp h1)

/-- a text (a parameter name) with nothing in it that the splitter, the partition at `=` or `strip` looks at -/
def Plain (n : Str) : Prop := ∀ c ∈ n, c ≠ ';' ∧ c ≠ '"' ∧ c ≠ '\\' ∧ c ≠ '=' ∧ isWs c = false

theorem tchar_plain (n : Str) (h : ∀ c ∈ n, tchar c = true) : Plain n := by
  intro c hc
  have hn : ∀ d : Char, tchar d = false → c ≠ d := by
    rintro d hd rfl; rw [h c hc] at hd; cases hd
  have hw : ∀ d : Char, tchar d = false → (c == d) = false := fun d hd => beq_eq_false_iff_ne.mpr (hn d hd)
  refine ⟨hn ';' (by decide), hn '"' (by decide), hn '\\' (by decide), hn '=' (by decide), ?_⟩
  simp only [isWs, hw ' ' (by decide), hw '\t' (by decide), hw '\n' (by decide), hw '\r' (by decide), hw '\x0b' (by decide),
    hw '\x0c' (by decide), hw '\x1c' (by decide), hw '\x1d' (by decide), hw '\x1e' (by decide), hw '\x1f' (by decide),
    Bool.or_self]

theorem Plain.strip {n : Str} (h : Plain n) : strip n = n :=
  strip_ends n (fun c hc => (h c (List.mem_of_mem_head? hc)).2.2.2.2) (fun c hc => (h c (List.mem_of_getLast? hc)).2.2.2.2)

theorem lcTchar_lower (c : Char) (h : lcTchar c = true) : lowerC c = c := by
  unfold lowerC
  have : ¬ (65 ≤ c.toNat ∧ c.toNat ≤ 90) := by
    simp only [lcTchar, Bool.or_eq_true, Bool.and_eq_true, decide_eq_true_eq, beq_iff_eq] at h
    omega
  rw [if_neg this]

theorem nameOk_plain (n : Str) (h : nameOk n = true) : Plain n :=
  tchar_plain n fun c hc => by rw [tchar, List.all_eq_true.mp h c hc]; rfl

theorem nameOk_lower (n : Str) (h : nameOk n = true) : lower n = n := by
  rw [lower, List.map_congr_left (fun c hc => lcTchar_lower c (List.all_eq_true.mp h c hc)), List.map_id']

theorem ws_nosemi (g : Str) (h : ∀ c ∈ g, isWs c = true) : (∀ c ∈ g, c ≠ ';') ∧ ∀ c ∈ g, c ≠ '"' := by
  have hn : ∀ d : Char, isWs d = false → ∀ c ∈ g, c ≠ d := by
    intro d hd c hc hcd; subst hcd; rw [h c hc] at hd; cases hd
  exact ⟨hn ';' (by decide), hn '"' (by decide)⟩

theorem esc_scan (v : Str) (b : Bool) : Scan b true (esc v) (lastBs b v) true := by
  have h := Scan.of_inside (uq_esc v b)
  rwa [lastBs_esc] at h

theorem scan_close (b : Bool) : Scan b true ['"'] false b := by cases b <;> (unfold Scan; decide)

/-- the closing quote of `...\\"` is taken for an escaped one (F46) -/
theorem scan_quote (v : Str) : Scan false false (quote v) false (endsBs v) := by
  have ho : Scan false false ['"'] false true := by unfold Scan; decide
  have h := ho.append ((esc_scan v false).append (scan_close _))
  rwa [lastBs_false] at h

theorem field_scanG (aft n v : Str) (haft : (∀ c ∈ aft, c ≠ ';') ∧ ∀ c ∈ aft, c ≠ '"') (hn : Plain n) :
    Scan false false (aft ++ field (n, v)) false (endsBs v) := by
  have hA : Scan false false (aft ++ n ++ ['=']) false false := by
    have hs : ∀ c ∈ aft ++ n ++ ['='], c ≠ ';' := by
      simp only [List.forall_mem_append, List.mem_singleton, forall_eq]; exact ⟨⟨haft.1, fun c hc => (hn c hc).1⟩, by decide⟩
    have hq : ∀ c ∈ aft ++ n ++ ['='], c ≠ '"' := by
      simp only [List.forall_mem_append, List.mem_singleton, forall_eq]; exact ⟨⟨haft.2, fun c hc => (hn c hc).2.1⟩, by decide⟩
    have h := Scan.nosemi hs (inQuote_noquote _ hq false false)
    rwa [lastBs_concat] at h
  have h := hA.append (scan_quote v)
  rwa [List.append_assoc, List.append_assoc] at h

theorem field_scan (n v : Str) (hn : Plain n) : Scan false false (' ' :: field (n, v)) false (endsBs v) :=
  field_scanG [' '] n v (by decide) hn

theorem plain_eq_head (n X : Str) (hn : Plain n) : ∀ d, (n ++ '=' :: X).head? = some d → isWs d = false := by
  intro d hd
  cases n with
  | nil => cases hd; decide
  | cons e t => cases hd; exact (hn _ List.mem_cons_self).2.2.2.2

theorem ends_quote_nows {s : Str} (e : s.getLast? = some '"') : ∀ d, s.getLast? = some d → isWs d = false := by
  intro d hd
  rw [e] at hd
  cases hd; decide

theorem pp_fieldG (aft n v bef R : Str) (haft : ∀ c ∈ aft, isWs c = true) (hbef : ∀ c ∈ bef, isWs c = true)
    (hn : Plain n) (hR : R = [] ∨ (∃ r, R = ';' :: r) ∧ endsBs v = false) :
    pp (';' :: (aft ++ field (n, v) ++ (bef ++ R))) = field (n, v) :: pp R := by
  have hb := ws_nosemi bef hbef
  have h := (field_scanG aft n v (ws_nosemi aft haft) hn).append (Scan.nosemi hb.1 (inQuote_noquote _ hb.2 false (endsBs v)))
  rw [← List.append_assoc, pp_cons h hR,
    strip_wrap _ (field (n, v)) _ haft hbef (plain_eq_head n _ hn)
      (ends_quote_nows (by simp [field, quote, List.getLast?_cons]))]

theorem pp_field (n v R : Str) (hn : Plain n) (hR : R = [] ∨ (∃ r, R = ';' :: r) ∧ endsBs v = false) :
    pp (';' :: ' ' :: (field (n, v) ++ R)) = field (n, v) :: pp R := by
  simpa using pp_fieldG [' '] n v [] R (by decide) (by simp) hn hR

theorem renderParams_head (ps : List (Str × Str)) : renderParams ps = [] ∨ ∃ r, renderParams ps = ';' :: r := by
  cases ps with
  | nil => left; rfl
  | cons p ps => right; exact ⟨_, rfl⟩

theorem noF46_cons_cons (p q : Str × Str) (rest : List (Str × Str)) :
    noF46 (p :: q :: rest) = (!endsBs p.2 && noF46 (q :: rest)) := rfl

theorem noF46_pair (p q : Str × Str) (h : endsBs p.2 = false) : noF46 [p, q] = true := by
  rw [noF46_cons_cons, h]; rfl

theorem take_append_cons (A B : Str) (c : Char) (k : Nat) :
    (A ++ c :: B).take (A.length + (k + 1)) = A ++ c :: B.take k := by
  rw [List.take_append, List.take_of_length_le (Nat.le_add_right _ _), Nat.add_sub_cancel_left, List.take_succ_cons]

/-- **class F46 at the splitter**: when the value ends in a backslash and another parameter follows, the field that is cut
    off is strictly longer than the written one (it runs into the next parameter) -/
theorem field_bad_length (n v r : Str) (hpl : Plain n) (hv : endsBs v = true) :
    (strip ((' ' :: (field (n, v) ++ ';' :: ' ' :: r)).take
      (cut false false (' ' :: (field (n, v) ++ ';' :: ' ' :: r))))).length ≥ (field (n, v)).length + 1 := by
  have hc := (field_scan n v hpl).cut_append (';' :: ' ' :: r)
  -- still inside quotes at the `;`: the scan runs on
  rw [hv, cut, if_neg (by decide), Nat.add_comm 1] at hc
  rw [← List.cons_append, hc, take_append_cons, List.cons_append, strip_cons_ws _ _ (by decide)]
  obtain ⟨X', hX⟩ := strip_prefix (field (n, v)) _ ';' (by decide) (plain_eq_head n _ hpl)
  rw [hX, List.length_append, List.length_cons]
  omega

/-- **the splitter is exact**: on a well-formed rendered header it returns the written fields IF AND ONLY IF no value that is
    followed by another parameter ends in a backslash (any number of parameters, the offending value anywhere) -/
theorem split_renderParams_iff : ∀ (ps : List (Str × Str)), (∀ p ∈ ps, nameOk p.1 = true) →
    (pp (renderParams ps) = ps.map field ↔ noF46 ps = true) := by
  intro ps hn
  induction ps with
  | nil => exact iff_of_true rfl rfl
  | cons p ps ih =>
    have hpl := nameOk_plain p.1 (hn p List.mem_cons_self)
    cases ps with
    | nil => exact iff_of_true (pp_field p.1 p.2 [] hpl (.inl rfl)) rfl
    | cons q rest =>
      rw [noF46_cons_cons, Bool.and_eq_true, Bool.not_eq_true', renderParams]
      cases hv : endsBs p.2
      · rw [pp_field p.1 p.2 (renderParams (q :: rest)) hpl (.inr ⟨⟨_, rfl⟩, hv⟩), List.map_cons, List.cons.injEq,
          ih (fun p hp => hn p (List.mem_cons_of_mem _ hp))]
        exact and_congr_left' (iff_of_true rfl rfl)
      · -- the first field is longer than the written one
        refine iff_of_false (fun h => ?_) (fun h => nomatch h.1)
        have hb := field_bad_length p.1 p.2 (field q ++ renderParams rest) hpl hv
        rw [renderParams, pp_semi] at h
        rw [(List.cons.inj h).1] at hb
        exact absurd hb (Nat.not_succ_le_self _)

def nonWsOpt : Option Char → Bool
  | some c => !isWs c
  | none => true

def mainOk (main : Str) : Bool :=
  main.all (fun c => c != ';' && c != '"' && c != '\\') && nonWsOpt main.head? && nonWsOpt main.getLast?

theorem mainOk_iff (main : Str) : mainOk main = true ↔ (∀ c ∈ main, c ≠ ';' ∧ c ≠ '"' ∧ c ≠ '\\') ∧
    (∀ c, main.head? = some c → isWs c = false) ∧ (∀ c, main.getLast? = some c → isWs c = false) := by
  have hopt : ∀ o : Option Char, nonWsOpt o = true ↔ ∀ c, o = some c → isWs c = false := by
    intro o; cases o <;> simp [nonWsOpt]
  rw [mainOk, Bool.and_eq_true, Bool.and_eq_true, hopt, hopt, List.all_eq_true, and_assoc]
  simp only [Bool.and_eq_true, bne_iff_ne, ne_eq, and_assoc]

theorem pp_mainG (main bef R : Str) (hm : mainOk main = true) (hbef : ∀ c ∈ bef, isWs c = true)
    (hR : R = [] ∨ ∃ r, R = ';' :: r) : pp (';' :: (main ++ bef ++ R)) = main :: pp R := by
  obtain ⟨hin, h1, h2⟩ := (mainOk_iff main).mp hm
  have hb := ws_nosemi bef hbef
  have hs : ∀ c ∈ main ++ bef, c ≠ ';' := List.forall_mem_append.mpr ⟨fun c hc => (hin c hc).1, hb.1⟩
  have hq : ∀ c ∈ main ++ bef, c ≠ '"' := List.forall_mem_append.mpr ⟨fun c hc => (hin c hc).2.1, hb.2⟩
  rw [pp_cons (Scan.nosemi hs (inQuote_noquote _ hq false false)) (hR.imp_right fun h => ⟨h, rfl⟩)]
  have := strip_wrap [] main bef (by simp) hbef h1 h2
  rw [List.nil_append] at this
  rw [this]

theorem pp_main (main R : Str) (hm : mainOk main = true) (hR : R = [] ∨ ∃ r, R = ';' :: r) :
    pp (';' :: (main ++ R)) = main :: pp R := by
  simpa using pp_mainG main [] R hm (by simp) hR

def addField (pd : Params) (p : Str) : Params :=
  let (name, eq, value) := partition '=' p
  if eq then pset pd (lower (strip name)) (unquote (strip value)) else pd

theorem parseHeaderOld_eq (line : Str) :
    parseHeaderOld line = match pp (';' :: line) with
      | [] => ([], [])
      | key :: parts => (key, parts.foldl addField []) := by
  unfold parseHeaderOld
  rw [parseParamOld_fuel _ _ (by simp)]
  rfl

/-- a line with a `"` goes the old way: the first field is the main value, every other field an assignment -/
theorem parseHeader_fields {line main : Str} {fs : List Str} (hq : '"' ∈ line) (h : pp (';' :: line) = main :: fs) :
    parseHeader line = (main, fs.foldl addField []) := by
  rw [parseHeader, List.any_eq_true.mpr ⟨'"', hq, rfl⟩, if_pos rfl, parseHeaderOld_eq, h]

theorem span_loop_append (p : Char → Bool) (R : Str) : ∀ (n acc : Str), (∀ c ∈ n, p c = true) →
    List.span.loop p (n ++ R) acc = List.span.loop p R (n.reverse ++ acc) := by
  intro n
  induction n with
  | nil => intro acc _; rfl
  | cons c t ih =>
    intro acc h
    rw [List.cons_append, List.span.loop, h c List.mem_cons_self, ih _ (fun x hx => h x (List.mem_cons_of_mem _ hx)),
      List.reverse_cons, List.append_assoc]
    rfl

theorem partition_at (sep : Char) (n r : Str) (h : ∀ c ∈ n, c ≠ sep) : partition sep (n ++ sep :: r) = (n, true, r) := by
  rw [partition, List.span, span_loop_append _ _ n [] (fun c hc => bne_iff_ne.mpr (h c hc)), List.span.loop,
    show (sep != sep) = false from bne_self_eq_false sep, List.append_nil, List.reverse_reverse]

theorem partition_none (sep : Char) (n : Str) (h : ∀ c ∈ n, c ≠ sep) : partition sep n = (n, false, []) := by
  have := span_loop_append (· != sep) [] n [] (fun c hc => bne_iff_ne.mpr (h c hc))
  rw [List.append_nil, List.span.loop, List.append_nil, List.reverse_reverse] at this
  rw [partition, List.span, this]

theorem addField_eq (pd : Params) (n X : Str) (hn : Plain n) :
    addField pd (n ++ '=' :: X) = pset pd (lower n) (unquote (strip X)) := by
  rw [addField, partition_at '=' n X fun c hc => (hn c hc).2.2.2.1]
  simp only [if_true, hn.strip]

theorem addField_fieldG (pd : Params) (n v : Str) (hn : Plain n) : addField pd (field (n, v)) = pset pd (lower n) v := by
  rw [field, addField_eq pd n _ hn,
    strip_ends _ (fun c hc => by cases hc; decide) (ends_quote_nows (by simp [quote, List.getLast?_cons])), unquote_quote]

theorem addField_field (pd : Params) (n v : Str) (hn : nameOk n = true) : addField pd (field (n, v)) = pset pd n v := by
  rw [addField_fieldG pd n v (nameOk_plain n hn), nameOk_lower n hn]

theorem pset_fresh (pd : Params) (k v : Str) (h : ∀ kv ∈ pd, kv.1 ≠ k) : pset pd k v = pd ++ [(k, v)] := by
  have : pd.any (·.1 == k) = false := by
    rw [List.any_eq_false]; intro kv hkv; simpa using h kv hkv
  rw [pset, this]; rfl

theorem fold_fieldsG : ∀ (ps acc : List (Str × Str)), (∀ p ∈ ps, Plain p.1) →
    (acc.map (·.1) ++ ps.map (fun p => lower p.1)).Nodup →
    (ps.map field).foldl addField acc = acc ++ ps.map (fun p => (lower p.1, p.2)) := by
  intro ps
  induction ps with
  | nil => intro acc _ _; simp
  | cons p ps ih =>
    intro acc hn hd
    have hfresh : ∀ kv ∈ acc, kv.1 ≠ lower p.1 := by
      intro kv hkv he
      exact (List.nodup_append.mp hd).2.2 kv.1 (List.mem_map_of_mem hkv) (lower p.1) (by simp) he
    rw [List.map_cons, List.foldl_cons, addField_fieldG acc p.1 p.2 (hn p List.mem_cons_self), pset_fresh acc _ _ hfresh,
      ih _ (fun p hp => hn p (List.mem_cons_of_mem _ hp)) (by simpa [List.map_append, List.append_assoc] using hd)]
    simp

theorem fold_fields (ps acc : List (Str × Str)) (hn : ∀ p ∈ ps, nameOk p.1 = true)
    (hd : (acc.map (·.1) ++ ps.map (·.1)).Nodup) : (ps.map field).foldl addField acc = acc ++ ps := by
  have e : ps.map (fun p => (lower p.1, p.2)) = ps := by
    rw [List.map_congr_left (g := id) (fun p hp => by rw [nameOk_lower p.1 (hn p hp)]; rfl), List.map_id]
  have e' : ps.map (fun p => lower p.1) = ps.map (·.1) :=
    List.map_congr_left (fun p hp => nameOk_lower p.1 (hn p hp))
  rw [fold_fieldsG ps acc (fun p hp => nameOk_plain p.1 (hn p hp)) (by rw [e']; exact hd), e]

/-- NOTHING is demanded of the values (any characters, also `;`, `"`, backslash, `=`, blanks, even CR/LF) beyond `noF46`. -/
def WF (main : Str) (ps : List (Str × Str)) : Bool :=
  mainOk main && ps.all (fun p => nameOk p.1) && decide ((ps.map (·.1)).Nodup)

theorem WF_iff (main : Str) (ps : List (Str × Str)) :
    WF main ps = true ↔ mainOk main = true ∧ (∀ p ∈ ps, nameOk p.1 = true) ∧ (ps.map (·.1)).Nodup := by
  simp [WF, and_assoc]

theorem split_render_iff (main : Str) (ps : List (Str × Str)) (hm : mainOk main = true)
    (hn : ∀ p ∈ ps, nameOk p.1 = true) :
    pp (';' :: render main ps) = main :: ps.map field ↔ noF46 ps = true := by
  rw [render, pp_main main _ hm (renderParams_head ps), ← split_renderParams_iff ps hn]
  exact ⟨fun h => (List.cons.inj h).2, fun h => by rw [h]⟩

theorem split_render (main : Str) (ps : List (Str × Str)) (hm : mainOk main = true)
    (hn : ∀ p ∈ ps, nameOk p.1 = true) (hf : noF46 ps = true) :
    pp (';' :: render main ps) = main :: ps.map field :=
  (split_render_iff main ps hm hn).mpr hf

theorem quote_mem_render (main : Str) (ps : List (Str × Str)) (h : ps ≠ []) : '"' ∈ render main ps := by
  cases ps with
  | nil => exact absurd rfl h
  | cons p t => simp [render, renderParams, field, quote]

/-- a header without parameters goes the fast path -/
theorem parseHeader_main (main : Str) (hm : mainOk main = true) : parseHeader main = (main, []) := by
  obtain ⟨hin, h1, h2⟩ := (mainOk_iff main).mp hm
  have hany : main.any (fun c => c == '"' || c == '\\') = false := by
    rw [List.any_eq_false]; intro c hc; have := hin c hc; simp [this.2.1, this.2.2]
  rw [parseHeader, hany, parseHeaderFast, partition_none ';' main (fun c hc => (hin c hc).1)]
  simp [strip_ends main h1 h2]

/-- **ROUND TRIP**: `parse_header(main; n1="quoted v1"; n2="quoted v2"...) = (main, {n1: v1, n2: v2, ...})` for ALL
    well-formed parameter lists outside class F46 -/
theorem parseHeader_render (main : Str) (ps : List (Str × Str)) (hwf : WF main ps = true) (hf : noF46 ps = true) :
    parseHeader (render main ps) = (main, ps) := by
  obtain ⟨hm, hn, hd⟩ := (WF_iff main ps).mp hwf
  cases ps with
  | nil => rw [render, renderParams, List.append_nil, parseHeader_main main hm]
  | cons p ps =>
    rw [parseHeader_fields (quote_mem_render _ _ (List.cons_ne_nil _ _)) (split_render main _ hm hn hf),
      fold_fields _ [] hn (by simpa using hd), List.nil_append]

theorem split_prefix (R : Str) (hR : R = [] ∨ ∃ r, R = ';' :: r) : ∀ (pre : List (Str × Str)),
    (∀ p ∈ pre, nameOk p.1 = true) → (∀ p ∈ pre, endsBs p.2 = false) →
    pp (renderParams pre ++ R) = pre.map field ++ pp R := by
  intro pre
  induction pre with
  | nil => intro _ _; rfl
  | cons p ps ih =>
    intro hn hg
    have hR' : renderParams ps ++ R = [] ∨ (∃ r, renderParams ps ++ R = ';' :: r) ∧ endsBs p.2 = false := by
      rcases renderParams_head ps with h | ⟨r, h⟩
      · rw [h]; exact hR.imp_right fun h => ⟨h, hg p List.mem_cons_self⟩
      · rw [h]; exact .inr ⟨⟨_, rfl⟩, hg p List.mem_cons_self⟩
    rw [renderParams, List.cons_append, List.cons_append, List.append_assoc,
      pp_field p.1 p.2 _ (nameOk_plain _ (hn p List.mem_cons_self)) hR',
      ih (fun p hp => hn p (List.mem_cons_of_mem _ hp)) (fun p hp => hg p (List.mem_cons_of_mem _ hp))]
    rfl

theorem esc_append (a b : Str) : esc (a ++ b) = esc a ++ esc b := by
  induction a with
  | nil => rfl
  | cons c t ih =>
    simp only [List.cons_append, esc, ih]
    split
    · rfl
    · split <;> rfl

theorem esc_semi (u1 u2 X : Str) : esc (u1 ++ ';' :: u2) ++ X = esc u1 ++ ';' :: (esc u2 ++ X) := by
  rw [esc_append, List.append_assoc]
  rfl

theorem esc_nosemi (v : Str) (h : ∀ c ∈ v, c ≠ ';') : ∀ c ∈ esc v, c ≠ ';' := by
  induction v with
  | nil => exact h
  | cons d t ih =>
    have ht := ih (fun c hc => h c (List.mem_cons_of_mem _ hc))
    have hd := h d List.mem_cons_self
    rw [esc]
    split
    · exact List.forall_mem_cons.mpr ⟨by decide, List.forall_mem_cons.mpr ⟨by decide, ht⟩⟩
    · split
      · exact List.forall_mem_cons.mpr ⟨by decide, List.forall_mem_cons.mpr ⟨by decide, ht⟩⟩
      · exact List.forall_mem_cons.mpr ⟨hd, ht⟩

/-- started OUTSIDE quotes: what happens to the value after an F46 value -/
theorem esc_scan_out (v : Str) : ∀ b, cut b false (esc v) = ((esc v).takeWhile (· != ';')).length :=
  fun b => cut_noquote (esc v) b false (uq_esc v b)

/-- the text from the start of an F46 parameter up to and including the OPENING quote of the next value -/
def badPrefix (a v n : Str) : Str := ' ' :: field (a, v) ++ (';' :: ' ' :: n ++ ['=']) ++ ['"']

/-- ... is scanned without a stop and ends OUTSIDE quotes: the roles of inside and outside are exchanged -/
theorem badPrefix_scan (a v n : Str) (ha : Plain a) (hn : Plain n) (hv : endsBs v = true) :
    Scan false false (badPrefix a v n) false false := by
  have hq : ∀ c ∈ ';' :: ' ' :: n ++ ['='], c ≠ '"' := by
    simp only [List.cons_append, List.forall_mem_cons, List.forall_mem_append, List.mem_singleton, forall_eq]
    exact ⟨by decide, by decide, fun c hc => (hn c hc).2.1, by decide⟩
  have hseg := Scan.of_inside (uq_noquote _ hq false)
  rw [lastBs_concat] at hseg
  have h := field_scan a v ha
  rw [hv] at h
  exact (h.append hseg).append (scan_close false)

theorem badPrefix_append (a v n X : Str) :
    badPrefix a v n ++ X = ' ' :: (a ++ '=' :: (quote v ++ ';' :: ' ' :: (n ++ '=' :: '"' :: X))) := by
  simp [badPrefix, field]

theorem renderPair (a v n w : Str) :
    renderParams [(a, v), (n, w)] = ';' :: (badPrefix a v n ++ (esc w ++ ['"'])) := by
  simp [renderParams, badPrefix, field, quote]

theorem esc_close_nosemi (w : Str) (hw : ∀ c ∈ w, c ≠ ';') : ∀ c ∈ esc w ++ ['"'], c ≠ ';' :=
  List.forall_mem_append.mpr ⟨esc_nosemi w hw, fun c hc => by rw [List.mem_singleton.mp hc]; decide⟩

/-- class F46, the following value has no `;`: ONE field, holding both parameters -/
theorem pp_badPair_nosemi (a v n w : Str) (ha : Plain a) (hn : Plain n)
    (hv : endsBs v = true) (hw : ∀ c ∈ w, c ≠ ';') :
    pp (renderParams [(a, v), (n, w)]) = [field (a, v) ++ ';' :: ' ' :: field (n, w)] := by
  have h := (badPrefix_scan a v n ha hn hv).append (Scan.nosemi (esc_close_nosemi w hw) rfl)
  rw [renderPair, pp_last _ h.1, badPrefix_append, strip_cons_ws _ _ (by decide),
    strip_ends _ (plain_eq_head a _ ha) (ends_quote_nows (by simp [quote, List.getLast?_cons]))]
  simp [field, quote]

/-- class F46, the following value has a `;`: the first field ends at that `;`, the rest of the value is split as if it
    were a parameter list -/
theorem pp_badPair_semi (a v n w1 w2 : Str) (ha : Plain a) (hn : Plain n)
    (hv : endsBs v = true) (hw : ∀ c ∈ w1, c ≠ ';') :
    pp (renderParams [(a, v), (n, w1 ++ ';' :: w2)]) =
      strip (badPrefix a v n ++ esc w1) :: pp (';' :: (esc w2 ++ ['"'])) := by
  have h := (badPrefix_scan a v n ha hn hv).append (Scan.nosemi (esc_nosemi w1 hw) (inQuote_esc w1 false false))
  rw [renderPair, esc_semi, ← List.append_assoc, pp_cons h (.inr ⟨⟨_, rfl⟩, rfl⟩)]

theorem pget_pset (pd : Params) (k v k' : Str) : pget (pset pd k v) k' = if k' = k then some v else pget pd k' := by
  unfold pset pget
  split
  · next hany =>
    have hf : ((fun kv : Str × Str => kv.1 == k') ∘ fun kv => if kv.1 == k then (k, v) else kv) = fun kv => kv.1 == k' := by
      funext kv; by_cases h : kv.1 = k <;> simp [h]
    rw [List.find?_map, hf, Option.map_map]
    cases hfind : pd.find? (·.1 == k') with
    | none =>
      have hk : k' ≠ k := by
        rintro rfl
        obtain ⟨kv, hkv, hk⟩ := List.any_eq_true.mp hany
        exact absurd hk (List.find?_eq_none.mp hfind kv hkv)
      simp [hk]
    | some kv =>
      have hk : kv.1 = k' := by simpa using List.find?_some hfind
      by_cases h : k' = k <;> simp [hk, h]
  · next hany =>
    rw [List.find?_append]
    by_cases hk : k' = k
    · subst hk
      have : pd.find? (·.1 == k') = none :=
        List.find?_eq_none.mpr fun kv hkv hk => hany (List.any_eq_true.mpr ⟨kv, hkv, hk⟩)
      simp [this]
    · have : (k == k') = false := by simpa using fun h => hk h.symm
      simp [hk, this]

theorem pget_none (pd : Params) (k : Str) (h : ∀ kv ∈ pd, kv.1 ≠ k) : pget pd k = none := by
  have : pd.find? (·.1 == k) = none := List.find?_eq_none.mpr fun kv hkv => by simpa using h kv hkv
  rw [pget, this]; rfl

theorem pget_mem (pd : Params) (k v : Str) (hd : (pd.map (·.1)).Nodup) (h : (k, v) ∈ pd) : pget pd k = some v := by
  induction pd with
  | nil => cases h
  | cons kv t ih =>
    rw [List.map_cons, List.nodup_cons] at hd
    rw [pget, List.find?_cons]
    rcases List.mem_cons.mp h with rfl | h
    · simp
    · have hx : (kv.1 == k) = false := by
        rw [beq_eq_false_iff_ne]; rintro rfl
        exact hd.1 (List.mem_map_of_mem (f := (·.1)) h)
      rw [hx]; exact ih hd.2 h

theorem replace2_mem (a b c' : Char) (l : Str) : ∀ x ∈ replace2 a b c' l, x ∈ l ∨ x = c' := by
  fun_induction replace2 a b c' l with
  | case1 x y rest h ih =>
    intro z hz
    rcases List.mem_cons.mp hz with rfl | hz
    · exact .inr rfl
    · exact (ih z hz).imp_left fun h => List.mem_cons_of_mem _ (List.mem_cons_of_mem _ h)
  | case2 x y rest h ih =>
    intro z hz
    rcases List.mem_cons.mp hz with rfl | hz
    · exact .inl List.mem_cons_self
    · exact (ih z hz).imp_left (List.mem_cons_of_mem _)
  | case3 l h => exact fun z hz => .inl hz

theorem unquote_nosemi (x : Str) (h : ∀ c ∈ x, c ≠ ';') : ∀ c ∈ unquote x, c ≠ ';' := by
  intro c hc
  unfold unquote at hc
  split at hc
  · rcases replace2_mem _ _ _ _ c hc with h1 | rfl
    · rcases replace2_mem _ _ _ _ c h1 with h2 | rfl
      · exact h c (List.mem_of_mem_drop (List.mem_of_mem_take h2))
      · decide
    · decide
  · exact h c hc

theorem partition_spec (sep : Char) (p : Str) :
    (∃ a b, p = a ++ sep :: b ∧ partition sep p = (a, true, b)) ∨ partition sep p = (p, false, []) := by
  rcases split_first sep p with h | ⟨g, rest, h1, h2⟩
  · right; exact partition_none sep p h
  · left; exact ⟨g, rest, h1, by rw [h1]; exact partition_at sep g rest h2⟩

def SemiFreeAt (n : Str) (pd : Params) : Prop := ∀ x, pget pd n = some x → ∀ c ∈ x, c ≠ ';'

theorem addField_semiFree (n : Str) (pd : Params) (g : Str) (hg : ∀ c ∈ g, c ≠ ';') (h : SemiFreeAt n pd) :
    SemiFreeAt n (addField pd g) := by
  unfold addField
  rcases partition_spec '=' g with ⟨a, b, h1, h2⟩ | h2
  · rw [h2]
    intro x hx
    simp only [if_true] at hx
    rw [pget_pset] at hx
    split at hx
    · cases hx
      exact unquote_nosemi _ fun c hc => hg c (by rw [h1]; simp [strip_subset b c hc])
    · exact h x hx
  · rw [h2]; exact h

theorem fold_semiFree (n : Str) : ∀ (gs : List Str) (pd : Params), (∀ g ∈ gs, ∀ c ∈ g, c ≠ ';') → SemiFreeAt n pd →
    SemiFreeAt n (gs.foldl addField pd) := by
  intro gs
  induction gs with
  | nil => intro pd _ h; exact h
  | cons g t ih =>
    intro pd hg h
    exact ih _ (fun g' hg' => hg g' (List.mem_cons_of_mem _ hg'))
      (addField_semiFree n pd g (hg g List.mem_cons_self) h)

/-- after an F46 value, the rest of a following value that holds a `;` is cut at EVERY `;` -/
theorem pp_esc_tail_nosemi : ∀ (k : Nat) (u : Str), u.length ≤ k →
    ∀ g ∈ pp (';' :: (esc u ++ ['"'])), ∀ c ∈ g, c ≠ ';' := by
  intro k
  induction k using Nat.strongRecOn with
  | _ k ih =>
    intro u hu g hg c hc
    rcases split_first ';' u with h | ⟨u1, u2, rfl, h2⟩
    · have hY := esc_close_nosemi u h
      rw [pp_last _ (cut_nosemi _ hY _ _), List.mem_singleton] at hg
      subst hg
      exact hY c (strip_subset _ c hc)
    · rw [esc_semi, pp_cons (Scan.nosemi (esc_nosemi u1 h2) (inQuote_esc u1 false false)) (.inr ⟨⟨_, rfl⟩, rfl⟩)] at hg
      rcases List.mem_cons.mp hg with rfl | hg
      · exact esc_nosemi u1 h2 c (strip_subset _ c hc)
      · rw [List.length_append, List.length_cons] at hu
        exact ih u2.length (by omega) u2 (Nat.le_refl _) g hg c hc

theorem renderParams_append (p q : List (Str × Str)) : renderParams (p ++ q) = renderParams p ++ renderParams q := by
  induction p with
  | nil => rfl
  | cons x t ih => simp [renderParams, ih]

theorem endsBs_split (v : Str) (h : endsBs v = true) : ∃ v0, v = v0 ++ ['\\'] := by
  unfold endsBs at h
  have h' : v.getLast? = some '\\' := by simpa using h
  have hne : v ≠ [] := by intro e; subst e; simp at h'
  refine ⟨v.dropLast, ?_⟩
  have := List.dropLast_concat_getLast hne
  rw [List.getLast?_eq_some_getLast hne] at h'
  injection h' with h'
  rw [h'] at this; exact this.symm

theorem WF_pair {main : Str} {pre : List (Str × Str)} {a v n w : Str} (hwf : WF main (pre ++ [(a, v), (n, w)]) = true) :
    mainOk main = true ∧ (∀ p ∈ pre, nameOk p.1 = true) ∧ (pre.map (·.1)).Nodup ∧ nameOk a = true ∧ nameOk n = true ∧
      a ≠ n ∧ (∀ kv ∈ pre, kv.1 ≠ a) ∧ ∀ kv ∈ pre, kv.1 ≠ n := by
  obtain ⟨hm, hn, hd⟩ := (WF_iff main _).mp hwf
  rw [List.map_append, List.nodup_append] at hd
  have ma : a ∈ [(a, v), (n, w)].map (·.1) := List.mem_cons_self
  have mn : n ∈ [(a, v), (n, w)].map (·.1) := List.mem_cons_of_mem _ List.mem_cons_self
  exact ⟨hm, fun p hp => hn p (List.mem_append_left _ hp), hd.1, hn (a, v) (List.mem_append_right _ List.mem_cons_self),
    hn (n, w) (List.mem_append_right _ (List.mem_cons_of_mem _ List.mem_cons_self)),
    fun e => (List.nodup_cons.mp hd.2.1).1 (e ▸ List.mem_cons_self),
    fun kv hkv => hd.2.2 kv.1 (List.mem_map_of_mem hkv) a ma, fun kv hkv => hd.2.2 kv.1 (List.mem_map_of_mem hkv) n mn⟩

theorem f46_fields (main : Str) (pre : List (Str × Str)) (a v n w : Str)
    (hwf : WF main (pre ++ [(a, v), (n, w)]) = true) (hpre : ∀ p ∈ pre, endsBs p.2 = false) :
    parseHeader (render main (pre ++ [(a, v), (n, w)])) =
      (main, (pp (renderParams [(a, v), (n, w)])).foldl addField pre) := by
  obtain ⟨hm, hnpre, hdpre, _⟩ := WF_pair hwf
  have h : pp (';' :: render main (pre ++ [(a, v), (n, w)])) =
      main :: (pre.map field ++ pp (renderParams [(a, v), (n, w)])) := by
    rw [render, pp_main main _ hm (renderParams_head _), renderParams_append,
      split_prefix (renderParams [(a, v), (n, w)]) (Or.inr ⟨_, rfl⟩) pre hnpre hpre]
  rw [parseHeader_fields (quote_mem_render _ _ (List.append_ne_nil_of_right_ne_nil _ (List.cons_ne_nil _ _))) h,
    List.foldl_append, fold_fields pre [] hnpre hdpre, List.nil_append]

theorem f46_fold_nosemi (pre : Params) (a v n w : Str) (ha : Plain a) (hn : Plain n) (hv : endsBs v = true)
    (hw : ∀ c ∈ w, c ≠ ';') :
    (pp (renderParams [(a, v), (n, w)])).foldl addField pre =
      pset pre (lower a) (unquote (strip (quote v ++ ';' :: ' ' :: field (n, w)))) := by
  rw [pp_badPair_nosemi a v n w ha hn hv hw, List.foldl_cons, List.foldl_nil, field, List.append_assoc,
    List.cons_append, addField_eq _ _ _ ha]

theorem f46_fold_semi (pre : Params) (a v n w1 w2 : Str) (ha : Plain a) (hn : Plain n) (hv : endsBs v = true)
    (hw : ∀ c ∈ w1, c ≠ ';') :
    ∃ (val : Str) (rest : List Str), (pp (renderParams [(a, v), (n, w1 ++ ';' :: w2)])).foldl addField pre =
      rest.foldl addField (pset pre (lower a) val) ∧ ∀ g ∈ rest, ∀ c ∈ g, c ≠ ';' := by
  obtain ⟨X', hX⟩ := strip_prefix a (quote v ++ ';' :: ' ' :: (n ++ '=' :: '"' :: esc w1)) '=' (by decide)
    fun d hd => (ha d (List.mem_of_mem_head? hd)).2.2.2.2
  rw [pp_badPair_semi a v n w1 w2 ha hn hv hw, List.foldl_cons, badPrefix_append, strip_cons_ws _ _ (by decide), hX,
    addField_eq _ _ _ ha]
  exact ⟨_, _, rfl, pp_esc_tail_nosemi w2.length w2 (Nat.le_refl _)⟩

/-- **F46 IS EXACT** (witness for the whole class with the offending value next to last): for EVERY well-formed prefix of
    parameters, EVERY value `v` ending in a backslash and EVERY following parameter `(n, w)`, the parsed dictionary does NOT
    give `w` for `n` - so `noF46` cannot be dropped from `parseHeader_render` -/
theorem f46_exact (main : Str) (pre : List (Str × Str)) (a v n w : Str)
    (hwf : WF main (pre ++ [(a, v), (n, w)]) = true) (hpre : ∀ p ∈ pre, endsBs p.2 = false) (hv : endsBs v = true) :
    pget (parseHeader (render main (pre ++ [(a, v), (n, w)]))).2 n ≠ some w := by
  rw [f46_fields main pre a v n w hwf hpre]
  obtain ⟨_, _, _, hna, hnn, han, _, hnpre⟩ := WF_pair hwf
  have ha := nameOk_plain a hna
  -- whatever the first field assigns to the key `a`, the key `n` stays absent
  have hQ0 : ∀ val, pget (pset pre (lower a) val) n = none := by
    intro val
    rw [pget_pset, nameOk_lower a hna, if_neg (Ne.symm han), pget_none pre n hnpre]
  rcases split_first ';' w with hw | ⟨w1, w2, hw1, hw2⟩
  · rw [f46_fold_nosemi pre a v n w ha (nameOk_plain n hnn) hv hw, hQ0]
    exact fun h => nomatch h
  · -- the value for `n`, if any, has no `;` - but `w` has one
    obtain ⟨val, rest, e, hrest⟩ := f46_fold_semi pre a v n w1 w2 ha (nameOk_plain n hnn) hv hw2
    rw [hw1, e]
    have hfin := fold_semiFree n rest _ hrest (fun x hx => by rw [hQ0 val] at hx; cases hx)
    exact fun h => hfin _ h ';' List.mem_append_cons_self rfl

theorem f46_not_roundtrip (main : Str) (pre : List (Str × Str)) (a v n w : Str)
    (hwf : WF main (pre ++ [(a, v), (n, w)]) = true) (hpre : ∀ p ∈ pre, endsBs p.2 = false) (hv : endsBs v = true) :
    parseHeader (render main (pre ++ [(a, v), (n, w)])) ≠ (main, pre ++ [(a, v), (n, w)]) := by
  intro h
  apply f46_exact main pre a v n w hwf hpre hv
  rw [h]
  exact pget_mem _ n w ((WF_iff main _).mp hwf).2.2 (by simp)

/-- what is read for an F46 value `v0\` followed by `; n="w"`: the text `v0"; n="w` -/
theorem f46_unquote (v0 n w : Str) (hn : Plain n) :
    unquote (quote (v0 ++ ['\\']) ++ ';' :: ' ' :: field (n, w)) = v0 ++ '"' :: ';' :: ' ' :: (n ++ '=' :: '"' :: w) := by
  -- between the two escaped values: `"; n="`, free of backslashes
  have hP : ∀ c ∈ ';' :: ' ' :: (n ++ ['=', '"']), c ≠ '\\' := by
    simp only [List.forall_mem_cons, List.forall_mem_append, List.mem_nil_iff, false_imp_iff, implies_true, and_true]
    exact ⟨by decide, by decide, fun c hc => (hn c hc).2.2.1, by decide, by decide⟩
  have e : quote (v0 ++ ['\\']) ++ ';' :: ' ' :: field (n, w) =
      '"' :: ((esc v0 ++ '\\' :: '\\' :: '"' :: ((';' :: ' ' :: (n ++ ['=', '"'])) ++ esc w)) ++ ['"']) := by
    simp [quote, field, esc_append, esc]
  rw [e, unquote_wrap, pass1_app, replace2_match, replace2_cons _ _ _ _ _ (.inl (by decide)), replace2_plain _ _ _ _ _ hP,
    pass1, pass2_app _ _ (by simp), replace2_match, replace2_plain _ _ _ _ _ hP, pass2]
  simp

/-- **F46, the exact outcome** (`name="x\\\\"; filename="y"` gives the single parameter name = `x"; filename="y`): for every
    well-formed prefix, every value `v0\` and every follower `(n, w)` whose value has no `;`, the two parameters are read as
    ONE, and the key `n` is absent -/
theorem f46_value (main : Str) (pre : List (Str × Str)) (a v0 n w : Str)
    (hwf : WF main (pre ++ [(a, v0 ++ ['\\']), (n, w)]) = true) (hpre : ∀ p ∈ pre, endsBs p.2 = false)
    (hw : ∀ c ∈ w, c ≠ ';') :
    parseHeader (render main (pre ++ [(a, v0 ++ ['\\']), (n, w)])) =
      (main, pre ++ [(a, v0 ++ '"' :: ';' :: ' ' :: (n ++ '=' :: '"' :: w))]) := by
  rw [f46_fields main pre a _ n w hwf hpre]
  obtain ⟨_, _, _, hna, hnn, _, hapre, _⟩ := WF_pair hwf
  have hs : strip (quote (v0 ++ ['\\']) ++ ';' :: ' ' :: field (n, w)) = quote (v0 ++ ['\\']) ++ ';' :: ' ' :: field (n, w) :=
    strip_ends _ (fun c hc => by cases hc; decide)
      (ends_quote_nows (by simp [field, quote, List.getLast?_cons]))
  rw [f46_fold_nosemi pre a _ n w (nameOk_plain a hna) (nameOk_plain n hnn) (by rw [endsBs, List.getLast?_concat]; rfl) hw, hs,
    f46_unquote v0 n w (nameOk_plain n hnn), nameOk_lower a hna, pset_fresh pre a _ hapre]

/-- every written parameter is found under its name with exactly its value (`params.get(name)`) -/
theorem parseHeader_render_get (main : Str) (ps : List (Str × Str)) (k v : Str) (hwf : WF main ps = true)
    (hf : noF46 ps = true) (h : (k, v) ∈ ps) : pget (parseHeader (render main ps)).2 k = some v := by
  rw [parseHeader_render main ps hwf hf]
  exact pget_mem ps k v ((WF_iff main ps).mp hwf).2.2 h

def formData : Str := "form-data".toList
def kName : Str := "name".toList
def kFilename : Str := "filename".toList

theorem cd_wf (x y : Str) : WF formData [(kName, x), (kFilename, y)] = true ∧ WF formData [(kFilename, y), (kName, x)] = true ∧
    WF formData [(kName, x)] = true := by
  have hm : mainOk formData = true := by decide +kernel
  have h1 : nameOk kName = true := by decide +kernel
  have h2 : nameOk kFilename = true := by decide +kernel
  have h3 : kName ≠ kFilename := by decide +kernel
  simp only [WF, hm, List.all_cons, List.all_nil, h1, h2, List.map_cons, List.map_nil, List.nodup_cons, List.mem_singleton,
    List.not_mem_nil, List.nodup_nil, h3, h3.symm, not_false_eq_true, and_self, decide_true, Bool.and_self]

/-- `Content-Disposition: form-data; name="..."; filename="..."`: both come back exactly, for EVERY filename and every name
    that does not end in a backslash -/
theorem cd_name_filename (name filename : Str) (h : endsBs name = false) :
    parseHeader (render formData [(kName, name), (kFilename, filename)]) = (formData, [(kName, name), (kFilename, filename)]) :=
  parseHeader_render _ _ (cd_wf name filename).1 (noF46_pair _ _ h)

/-- `form-data; filename="..."; name="..."`: the same with the condition on the filename -/
theorem cd_filename_name (name filename : Str) (h : endsBs filename = false) :
    parseHeader (render formData [(kFilename, filename), (kName, name)]) = (formData, [(kFilename, filename), (kName, name)]) :=
  parseHeader_render _ _ (cd_wf name filename).2.1 (noF46_pair _ _ h)

/-- `form-data; name="..."` alone: EVERY name comes back, also one ending in a backslash -/
theorem cd_name_only (name : Str) : parseHeader (render formData [(kName, name)]) = (formData, [(kName, name)]) :=
  parseHeader_render _ _ (cd_wf name []).2.2 rfl

/-- `BodyPart.name` = `params.get('name')` and `BodyPart.filename` = `params.get('filename')` -/
theorem cd_name_back (name filename : Str) (h : endsBs name = false) :
    pget (parseHeader (render formData [(kName, name), (kFilename, filename)])).2 kName = some name ∧
    pget (parseHeader (render formData [(kName, name), (kFilename, filename)])).2 kFilename = some filename := by
  have hwf := (cd_wf name filename).1
  have hf := noF46_pair (kName, name) (kFilename, filename) h
  exact ⟨parseHeader_render_get _ _ _ _ hwf hf (by simp), parseHeader_render_get _ _ _ _ hwf hf (by simp)⟩

/-- the last parameter may end in a backslash: `name="..."; filename="C:\"` -/
theorem cd_last_may_end_in_backslash (name f0 : Str) (h : endsBs name = false) :
    pget (parseHeader (render formData [(kName, name), (kFilename, f0 ++ ['\\'])])).2 kFilename = some (f0 ++ ['\\']) :=
  (cd_name_back name _ h).2

/-- ... but not the first of two: `name="x\"; filename="y"` loses the filename (F46) -/
theorem cd_f46 (n0 filename : Str) :
    pget (parseHeader (render formData [(kName, n0 ++ ['\\']), (kFilename, filename)])).2 kFilename ≠ some filename :=
  f46_exact formData [] kName _ kFilename filename (cd_wf _ _).1 (by simp) (by simp [endsBs])


example : WF formData [(kName, "a;b".toList), (kFilename, "say \"hi\"".toList)] = true := by decide +kernel
example : noF46 [(kName, "a;b".toList), (kFilename, "say \"hi\"".toList)] = true := by decide +kernel
example : render formData [(kName, "a;b".toList), (kFilename, "say \"hi\"".toList)] =
    "form-data; name=\"a;b\"; filename=\"say \\\"hi\\\"\"".toList := by decide +kernel
example : parseHeader "form-data; name=\"a;b\"; filename=\"say \\\"hi\\\"\"".toList =
    (formData, [(kName, "a;b".toList), (kFilename, "say \"hi\"".toList)]) := by
  rw [show "form-data; name=\"a;b\"; filename=\"say \\\"hi\\\"\"".toList =
    render formData [(kName, "a;b".toList), (kFilename, "say \"hi\"".toList)] by decide +kernel]
  exact parseHeader_render _ _ (by decide +kernel) (by decide +kernel)
example : parseHeader (render formData [(kName, "x\\y".toList), (kFilename, "\";".toList), ("k".toList, "=".toList),
      ("z".toList, "; name=\"q\"".toList), ("last".toList, "C:\\".toList)]) =
    (formData, [(kName, "x\\y".toList), (kFilename, "\";".toList), ("k".toList, "=".toList),
      ("z".toList, "; name=\"q\"".toList), ("last".toList, "C:\\".toList)]) :=
  parseHeader_render _ _ (by decide +kernel) (by decide +kernel)
example : quote "say \"hi\" \\o/".toList = "\"say \\\"hi\\\" \\\\o/\"".toList := by decide +kernel
example : unquote (quote "\\\"\\\\\"".toList) = "\\\"\\\\\"".toList := unquote_quote _
/-- F46 on the finding's own example: `name="x\\"; filename="y"` is read as the single parameter name = `x"; filename="y` -/
example : parseHeader "form-data; name=\"x\\\\\"; filename=\"y\"".toList = (formData, [(kName, "x\"; filename=\"y".toList)]) := by
  have h := f46_value formData [] kName "x".toList kFilename "y".toList (by decide +kernel) (by simp) (by decide +kernel)
  rw [show render formData ([] ++ [(kName, "x".toList ++ ['\\']), (kFilename, "y".toList)]) =
    "form-data; name=\"x\\\\\"; filename=\"y\"".toList by decide +kernel] at h
  exact h.trans (by decide +kernel)
example : noF46 [(kName, "x\\".toList), (kFilename, "y".toList)] = false := by decide +kernel
/-- a follower with a `;`: the key comes back, with a wrong value -/
example : parseHeader (render formData [(kName, "x\\".toList), (kFilename, "y;filename=1".toList)]) =
    (formData, [(kName, "\"x\\\\\"; filename=\"y".toList), (kFilename, "1\"".toList)]) := by decide +kernel

/-! ### the general writer: optional white space around `;`, names in any case (`_enc_params(quote_all=True)`) -/

def gpair (p : GParam) : Str × Str := (p.name, p.value)

/-- well-formedness of what the general writer is given (decidable): `mainOk`; only white space (any of the characters
    `str.strip()` removes) before and after each `;`; names are tokens in any case, pairwise distinct after lower-casing -/
def WFG (main : Str) (ps : List GParam) : Bool :=
  mainOk main && ps.all (fun p => p.before.all isWs && p.after.all isWs && p.name.all tchar) &&
    decide ((ps.map (fun p => lower p.name)).Nodup)

theorem WFG_iff (main : Str) (ps : List GParam) :
    WFG main ps = true ↔ mainOk main = true ∧
      (∀ p ∈ ps, (∀ c ∈ p.before, isWs c = true) ∧ (∀ c ∈ p.after, isWs c = true) ∧ (∀ c ∈ p.name, tchar c = true)) ∧
      (ps.map (fun p => lower p.name)).Nodup := by
  simp [WFG, and_assoc]

theorem renderParamsG_cons (q : GParam) (t : List GParam) :
    renderParamsG (q :: t) = q.before ++ ';' :: (q.after ++ field (q.name, q.value) ++ renderParamsG t) := rfl

theorem splitG : ∀ (ps : List GParam) (p : GParam),
    (∀ q ∈ p :: ps, (∀ c ∈ q.before, isWs c = true) ∧ (∀ c ∈ q.after, isWs c = true) ∧ (∀ c ∈ q.name, tchar c = true)) →
    noF46 ((p :: ps).map gpair) = true →
    pp (';' :: (p.after ++ field (p.name, p.value) ++ renderParamsG ps)) = ((p :: ps).map gpair).map field := by
  intro ps
  induction ps with
  | nil =>
    intro p h _
    obtain ⟨_, h2, h3⟩ := h p List.mem_cons_self
    exact pp_fieldG p.after p.name p.value [] [] h2 (by simp) (tchar_plain _ h3) (.inl rfl)
  | cons q t ih =>
    intro p h hf
    obtain ⟨_, h2, h3⟩ := h p List.mem_cons_self
    rw [List.map_cons, List.map_cons, noF46_cons_cons, Bool.and_eq_true, Bool.not_eq_true'] at hf
    rw [renderParamsG_cons,
      pp_fieldG p.after p.name p.value q.before _ h2 (h q (by simp)).1 (tchar_plain _ h3) (.inr ⟨⟨_, rfl⟩, hf.1⟩),
      ih q (fun x hx => h x (List.mem_cons_of_mem _ hx)) hf.2]
    rfl

/-- **the round trip for the general writer**: `parse_header(main *( OWS ";" OWS Name "=" quoted-string ))` = `(main, {lower(Name): value})`
    for every amount of white space around the semicolons and every case of the names, outside class F46 -/
theorem parseHeader_renderG (main : Str) (ps : List GParam) (hwf : WFG main ps = true)
    (hf : noF46 (ps.map gpair) = true) :
    parseHeader (renderG main ps) = (main, ps.map (fun p => (lower p.name, p.value))) := by
  obtain ⟨hm, hp, hd⟩ := (WFG_iff main ps).mp hwf
  cases ps with
  | nil => rw [renderG, renderParamsG, List.append_nil, parseHeader_main main hm]; rfl
  | cons p t =>
    have hq : '"' ∈ renderG main (p :: t) := by simp [renderG, renderParamsG, quote]
    have hpl : ∀ q ∈ (p :: t).map gpair, Plain q.1 := by
      intro q hq
      obtain ⟨g, hg, rfl⟩ := List.mem_map.mp hq
      exact tchar_plain _ (hp g hg).2.2
    have hd' : (([] : Params).map (·.1) ++ ((p :: t).map gpair).map (fun p => lower p.1)).Nodup := by
      rw [List.map_nil, List.nil_append, List.map_map]; exact hd
    have h : pp (';' :: renderG main (p :: t)) = main :: ((p :: t).map gpair).map field := by
      rw [renderG, renderParamsG_cons, ← List.append_assoc,
        pp_mainG main p.before _ hm (hp p List.mem_cons_self).1 (.inr ⟨_, rfl⟩), splitG t p hp hf]
    rw [parseHeader_fields hq h, fold_fieldsG _ [] hpl hd', List.nil_append, List.map_map]
    rfl

theorem render_eq_renderG (main : Str) (ps : List (Str × Str)) :
    render main ps = renderG main (ps.map fun p => ⟨[], [' '], p.1, p.2⟩) := by
  unfold render renderG
  congr 1
  induction ps with
  | nil => rfl
  | cons p t ih => simp [renderParams, renderParamsG, field, ih]

/-- what `_enc_params` of the harness writes: `form-data ;\tNAME="a;b";filename="x\\"` -/
example : parseHeader "form-data ;\tNAME=\"a;b\";filename=\"x\\\\\"".toList =
    (formData, [(kName, "a;b".toList), (kFilename, "x\\".toList)]) := by
  have h := parseHeader_renderG formData [⟨[' '], ['\t'], "NAME".toList, "a;b".toList⟩, ⟨[], [], kFilename, "x\\".toList⟩]
    (by decide +kernel) (by decide +kernel)
  rw [show renderG formData [⟨[' '], ['\t'], "NAME".toList, "a;b".toList⟩, ⟨[], [], kFilename, "x\\".toList⟩] =
    "form-data ;\tNAME=\"a;b\";filename=\"x\\\\\"".toList by decide +kernel] at h
  exact h.trans (by decide +kernel)

theorem noF46_append_good : ∀ (pre : List (Str × Str)) (q : Str × Str) (rest : List (Str × Str)),
    (∀ p ∈ pre, endsBs p.2 = false) → noF46 (pre ++ q :: rest) = noF46 (q :: rest) := by
  intro pre
  induction pre with
  | nil => intro q rest _; rfl
  | cons p t ih =>
    intro q rest h
    have ht := ih q rest (fun x hx => h x (List.mem_cons_of_mem _ hx))
    cases t with
    | nil => rw [List.cons_append, List.nil_append, noF46_cons_cons, h p List.mem_cons_self]; rfl
    | cons r t' => rw [List.cons_append, List.cons_append, noF46_cons_cons, h p List.mem_cons_self, ← List.cons_append, ht]; rfl

/-- FULL STATEMENT (not proved): `WF main ps = true → (parseHeader (render main ps) = (main, ps) ↔ noF46 ps = true)`.
    PROVED PART: the same when the only place where `noF46` can fail is the value next to last -/
theorem parseHeader_render_iff_partial (main : Str) (pre : List (Str × Str)) (a v n w : Str)
    (hwf : WF main (pre ++ [(a, v), (n, w)]) = true) (hpre : ∀ p ∈ pre, endsBs p.2 = false) :
    parseHeader (render main (pre ++ [(a, v), (n, w)])) = (main, pre ++ [(a, v), (n, w)]) ↔
      noF46 (pre ++ [(a, v), (n, w)]) = true := by
  constructor
  · intro h
    cases hv : endsBs v with
    | true => exact absurd h (f46_not_roundtrip main pre a v n w hwf hpre hv)
    | false =>
      rw [noF46_append_good pre _ _ hpre, noF46_cons_cons, hv]; rfl
  · exact parseHeader_render main _ hwf

#print axioms unquote_quote
#print axioms parseHeader_render
#print axioms f46_exact
#print axioms f46_value
#print axioms split_render_iff
#print axioms parseParamOld_fuel
#print axioms parseHeader_renderG
end Mt
